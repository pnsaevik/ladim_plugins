import LadimProofs.Basic
import LadimModel.Interp
/-! Monotonicity, range and knot values of piecewise-linear interpolation (`np.interp`). -/
open Ladim
namespace InterpLemmas
variable {α : Type} [Field α] [LinearOrder α] [IsStrictOrderedRing α]

theorem seg_le (x0 y0 x1 y1 x : α) (hx : x0 < x1) (hy : y0 ≤ y1) (h0 : x0 ≤ x) (h1 : x ≤ x1) :
    y0 ≤ (y1 - y0) / (x1 - x0) * (x - x0) + y0 ∧ (y1 - y0) / (x1 - x0) * (x - x0) + y0 ≤ y1 := by
  have hd : 0 < x1 - x0 := sub_pos.2 hx
  have hs : 0 ≤ (y1 - y0) / (x1 - x0) := div_nonneg (sub_nonneg.2 hy) hd.le
  constructor
  · exact le_add_of_nonneg_left (mul_nonneg hs (sub_nonneg.2 h0))
  · have h2 := mul_le_mul_of_nonneg_left (sub_le_sub_right h1 x0) hs
    rw [div_mul_cancel₀ _ hd.ne'] at h2
    exact le_sub_iff_add_le.1 h2

theorem seg_mono (x0 y0 x1 y1 a b : α) (hx : x0 < x1) (hy : y0 ≤ y1) (hab : a ≤ b) :
    (y1 - y0) / (x1 - x0) * (a - x0) + y0 ≤ (y1 - y0) / (x1 - x0) * (b - x0) + y0 :=
  add_le_add_left (mul_le_mul_of_nonneg_left (sub_le_sub_right hab x0)
    (div_nonneg (sub_nonneg.2 hy) (sub_pos.2 hx).le)) y0

/-- lower bound: right of `x0` the interpolant is at least `y0` -/
theorem interpGo_ge (xs ys : List α) : ∀ (x0 y0 x : α),
    List.Pairwise (· < ·) (x0 :: xs) → List.Pairwise (· ≤ ·) (y0 :: ys) → x0 ≤ x →
    y0 ≤ interpGo x x0 y0 xs ys := by
  induction xs generalizing ys with
  | nil => intro x0 y0 x _ _ _; simp [interpGo]
  | cons x1 xs ih =>
    intro x0 y0 x hx hy h0
    cases ys with
    | nil => simp [interpGo]
    | cons y1 ys =>
      simp only [interpGo]
      rw [List.pairwise_cons] at hx hy
      have hx01 : x0 < x1 := hx.1 x1 (by simp)
      have hy01 : y0 ≤ y1 := hy.1 y1 (by simp)
      split_ifs with h
      · exact (seg_le x0 y0 x1 y1 x hx01 hy01 h0 h.le).1
      · exact le_trans hy01 (ih ys x1 y1 x hx.2 hy.2 (not_lt.mp h))

/-- monotone: increasing knots, non-decreasing values ⇒ non-decreasing interpolant -/
theorem interpGo_mono (xs ys : List α) : ∀ (x0 y0 a b : α),
    List.Pairwise (· < ·) (x0 :: xs) → List.Pairwise (· ≤ ·) (y0 :: ys) → x0 ≤ a → a ≤ b →
    interpGo a x0 y0 xs ys ≤ interpGo b x0 y0 xs ys := by
  induction xs generalizing ys with
  | nil => intro x0 y0 a b _ _ _ _; simp [interpGo]
  | cons x1 xs ih =>
    intro x0 y0 a b hx hy h0 hab
    cases ys with
    | nil => simp [interpGo]
    | cons y1 ys =>
      simp only [interpGo]
      have hx' := hx; have hy' := hy
      rw [List.pairwise_cons] at hx hy
      have hx01 : x0 < x1 := hx.1 x1 (by simp)
      have hy01 : y0 ≤ y1 := hy.1 y1 (by simp)
      by_cases hb : b < x1
      · have ha : a < x1 := lt_of_le_of_lt hab hb
        simp only [ha, hb, if_true]
        exact seg_mono x0 y0 x1 y1 a b hx01 hy01 hab
      · by_cases ha : a < x1
        · simp only [ha, hb, if_true, if_false]
          exact le_trans (seg_le x0 y0 x1 y1 a hx01 hy01 h0 ha.le).2
            (interpGo_ge xs ys x1 y1 b hx.2 hy.2 (not_lt.mp hb))
        · simp only [ha, hb, if_false]
          exact ih ys x1 y1 a b hx.2 hy.2 (not_lt.mp ha) hab

/-- `np.interp` is non-decreasing when the table is -/
theorem interp_mono (xs ys : List α) (a b va vb : α)
    (hx : List.Pairwise (· < ·) xs) (hy : List.Pairwise (· ≤ ·) ys) (hab : a ≤ b)
    (ha : interp xs ys a = some va) (hb : interp xs ys b = some vb) : va ≤ vb := by
  cases xs with
  | nil => simp [interp] at ha
  | cons x0 xs =>
    cases ys with
    | nil => simp [interp] at ha
    | cons y0 ys =>
      simp only [interp, Option.some.injEq] at ha hb
      subst ha hb
      by_cases h1 : b < x0
      · have : a < x0 := lt_of_le_of_lt hab h1
        simp [this, h1]
      · by_cases h2 : a < x0
        · simp only [h2, h1, if_true, if_false]
          exact interpGo_ge xs ys x0 y0 b hx hy (not_lt.mp h1)
        · simp only [h2, h1, if_false]
          exact interpGo_mono xs ys x0 y0 a b hx hy (not_lt.mp h2) hab

/-- the interpolant never leaves the range of the table values: upper bound by any bound of them -/
theorem interpGo_le (xs ys : List α) : ∀ (x0 y0 x M : α),
    List.Pairwise (· < ·) (x0 :: xs) → List.Pairwise (· ≤ ·) (y0 :: ys) → x0 ≤ x →
    (∀ y ∈ y0 :: ys, y ≤ M) → interpGo x x0 y0 xs ys ≤ M := by
  induction xs generalizing ys with
  | nil => intro x0 y0 x M _ _ _ hM; exact hM y0 List.mem_cons_self
  | cons x1 xs ih =>
    intro x0 y0 x M hx hy h0 hM
    cases ys with
    | nil => exact hM y0 List.mem_cons_self
    | cons y1 ys =>
      simp only [interpGo]
      rw [List.pairwise_cons] at hx hy
      have hx01 : x0 < x1 := hx.1 x1 List.mem_cons_self
      have hy01 : y0 ≤ y1 := hy.1 y1 List.mem_cons_self
      split_ifs with h
      · exact le_trans (seg_le x0 y0 x1 y1 x hx01 hy01 h0 h.le).2 (hM y1 (List.mem_cons_of_mem _ List.mem_cons_self))
      · exact ih ys x1 y1 x M hx.2 hy.2 (not_lt.mp h) (fun y hy' => hM y (List.mem_cons_of_mem _ hy'))

end InterpLemmas
