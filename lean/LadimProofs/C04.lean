import LadimProofs.Basic
import LadimProofs.InterpLemmas
import LadimModel.Release.Attr
/-!
# C04 — release attribute values honour their specification
-/
open Ladim Ladim.Attr
set_option linter.unusedVariables false
set_option linter.unusedSectionVars false

namespace C04
variable {α : Type} [Field α] [LinearOrder α] [IsStrictOrderedRing α]

/-- constants are repeated for every particle -/
theorem const_repeated (cv : ClipArgs) (v : α) (num : Nat) (draws : List α) :
    getAttr cv (.const v) num draws = some (List.replicate num v) := rfl

/-- explicit lists are reproduced verbatim in particle order (any length other than 2, and a
2-element list when there are exactly 2 particles) -/
theorem list_verbatim (cv : ClipArgs) (vs : List α) (num : Nat) (draws : List α)
    (h : vs.length ≠ 2 ∨ num = 2) : getAttr cv (.list vs) num draws = some vs := by
  unfold getAttr
  match vs, h with
  | [], _ => rfl
  | [_], _ => rfl
  | [a, b], h =>
    have : num = 2 := by
      rcases h with h | h
      · exact absurd rfl h
      · exact h
    simp [this]
  | _ :: _ :: _ :: _, _ => rfl

/-- callables (or dotted names) receive the particle count and their result is used as is -/
theorem callable_result (cv : ClipArgs) (out : List α) (num : Nat) (draws : List α) :
    getAttr cv (.callable out) num draws = some out := rfl

/-- two-element ranges: every value lies in `[lo, hi)` and is affine in the draw -/
theorem range_in_range (lo hi u : α) (h : lo ≤ hi) (hu0 : 0 ≤ u) (hu1 : u < 1) :
    lo ≤ rangeValue lo hi u ∧ rangeValue lo hi u ≤ hi ∧ (lo < hi → rangeValue lo hi u < hi) := by
  unfold rangeValue
  refine ⟨le_add_of_nonneg_right (mul_nonneg (sub_nonneg.2 h) hu0), ?_, fun hlt => ?_⟩
  · linarith [mul_le_mul_of_nonneg_left hu1.le (sub_nonneg.2 h)]
  · linarith [mul_lt_mul_of_pos_left hu1 (sub_pos.2 hlt)]

theorem range_values (cv : ClipArgs) (lo hi : α) (num : Nat) (draws : List α) (hn : num ≠ 2)
    (hd : num ≤ draws.length) :
    ∃ vs, getAttr cv (.list [lo, hi]) num draws = some vs ∧ vs.length = num ∧
      vs = (draws.take num).map (fun u => lo + (hi - lo) * u) := by
  refine ⟨(draws.take num).map (fun u => lo + (hi - lo) * u), ?_, by simp [hd], rfl⟩
  unfold getAttr
  simp only [hn, ne_eq, not_false_eq_true, if_true]
  rfl

/-- FULL STATEMENT (holds for `ClipArgs.correct`): gaussian values stay within `min` and `max`
for every normal draw, including the tails -/
theorem gaussian_bounds (mean std z : α) (mn mx : Option α)
    (hmm : ∀ a b, mn = some a → mx = some b → a ≤ b) :
    (∀ a, mn = some a → a ≤ gaussianValue .correct mean std mn mx z) ∧
    (∀ b, mx = some b → gaussianValue .correct mean std mn mx z ≤ b) := by
  unfold gaussianValue capMax capMin
  constructor
  · rintro a rfl
    cases mx with
    | none => simp only [fmax_eq_max]; exact le_max_right _ _
    | some b => simp only [fmin_eq_min, fmax_eq_max]; exact le_min (le_max_right _ _) (hmm a b rfl rfl)
  · rintro b rfl
    simp only [fmin_eq_min]; exact min_le_right _ _

/-- without `min` / `max` the draw is returned unchanged (both argument orders) -/
theorem gaussian_unbounded (cv : ClipArgs) (mean std z : α) :
    gaussianValue cv mean std none none z = mean + std * z := by
  cases cv <;> simp [gaussianValue, capMax, capMin]

/-- PROVED PART for the code as it is (`ClipArgs.swapped`): only the upper bound holds … -/
theorem gaussian_bounds_partial (mean std z a b : α) (hab : a ≤ b) :
    gaussianValue .swapped mean std (some a) (some b) z ≤ b ∧
    gaussianValue .swapped mean std (some a) (some b) z ≤ mean + std * z := by
  unfold gaussianValue
  simp only [fmin_eq_min, fmax_eq_max, max_eq_right hab]
  exact ⟨min_le_left _ _, min_le_right _ _⟩

/-- … and the lower bound fails: mean 5, std 1, min 4, max 6, draw −2.27 ⇒ 2.73 < 4
(the very value in the shipped `release/out.rls`) -/
theorem gaussian_lower_fails :
    ¬ ((4 : ℚ) ≤ gaussianValue .swapped 5 1 (some 4) (some 6) (-227 / 100)) := by
  unfold gaussianValue fmin fmax; norm_num

/-- exponential values are non-negative and do not exceed `max` -/
theorem exponential_bounds (mean e : α) (mx : Option α) (hm : 0 ≤ mean) (he : 0 ≤ e)
    (hmx : ∀ b, mx = some b → 0 ≤ b) :
    0 ≤ exponentialValue mean mx e ∧ (∀ b, mx = some b → exponentialValue mean mx e ≤ b) := by
  unfold exponentialValue capMax
  have := mul_nonneg hm he
  cases mx with
  | none => simp [this]
  | some b =>
    simp only [Option.some.injEq, forall_eq', fmin_eq_min]
    exact ⟨le_min this (hmx b rfl), min_le_right _ _⟩

/-- piecewise values stay within the knot range, for increasing `cdf` and non-decreasing knots -/
theorem piecewise_range (k0 c0 : α) (ks cs : List α) (u v M : α)
    (hc : List.Pairwise (· < ·) (c0 :: cs)) (hk : List.Pairwise (· ≤ ·) (k0 :: ks))
    (hM : ∀ y ∈ k0 :: ks, y ≤ M) (h : piecewiseValue (k0 :: ks) (c0 :: cs) u = some v) :
    k0 ≤ v ∧ v ≤ M := by
  unfold piecewiseValue interp at h
  simp only [Option.some.injEq] at h
  subst h
  split_ifs with hlt
  · exact ⟨le_refl _, hM k0 (by simp)⟩
  · exact ⟨InterpLemmas.interpGo_ge cs ks c0 k0 u hc hk (not_lt.mp hlt),
      InterpLemmas.interpGo_le cs ks c0 k0 u M hc hk (not_lt.mp hlt) hM⟩

/-- … and are non-decreasing in the draw, so that `P(v ≤ knot_k) = cdf_k` -/
theorem piecewise_monotone (ks cs : List α) (u₁ u₂ v₁ v₂ : α)
    (hc : List.Pairwise (· < ·) cs) (hk : List.Pairwise (· ≤ ·) ks) (hu : u₁ ≤ u₂)
    (h₁ : piecewiseValue ks cs u₁ = some v₁) (h₂ : piecewiseValue ks cs u₂ = some v₂) : v₁ ≤ v₂ :=
  InterpLemmas.interp_mono cs ks u₁ u₂ v₁ v₂ hc hk hu h₁ h₂

/-- the first knot is hit at the first cumulative probability, the second at the second -/
theorem piecewise_hits_knots (k0 k1 c0 c1 : α) (ks cs : List α) (h : c0 < c1) :
    piecewiseValue (k0 :: k1 :: ks) (c0 :: c1 :: cs) c0 = some k0 := by
  unfold piecewiseValue interp
  simp [interpGo, h]

theorem mapM_length {β γ : Type} (f : β → Option γ) :
    ∀ (l : List β) (vs : List γ), l.mapM f = some vs → vs.length = l.length
  | [], vs, h => by simp at h; subst h; rfl
  | a :: l, vs, h => by
    simp only [List.mapM_cons] at h
    cases hfa : f a with
    | none => simp [hfa] at h
    | some b =>
      cases hl : l.mapM f with
      | none => simp [hfa, hl] at h
      | some bs =>
        simp [hfa, hl] at h
        subst h
        simp [mapM_length f l bs hl]

/-- every documented form yields exactly `num` values (given `num` draws) -/
theorem generators_length (cv : ClipArgs) (s : Spec α) (num : Nat) (draws : List α) (vs : List α)
    (hd : draws.length = num)
    (hl : ∀ l, s = .list l → l.length = num) (hcall : ∀ o, s = .callable o → o.length = num)
    (h : getAttr cv s num draws = some vs) : vs.length = num := by
  have hle : num ≤ draws.length := by omega
  have htake : (draws.take num).length = num := by simp [hle]
  cases s with
  | const v => simp [getAttr] at h; subst h; simp
  | list l =>
    have hlen := hl l rfl
    unfold getAttr at h
    match l, hlen with
    | [], hlen => simp at h; subst h; exact hlen
    | [_], hlen => simp at h; subst h; exact hlen
    | [a, b], hlen =>
      simp only at h
      split_ifs at h with hn
      · simp at h; subst h; simp [hle]
      · simp at h; subst h; exact hlen
    | _ :: _ :: _ :: _, hlen => simp at h; subst h; exact hlen
  | gaussian m sd mn mx => simp [getAttr] at h; subst h; simp [hle]
  | exponential m mx => simp [getAttr] at h; subst h; simp [hle]
  | piecewise k c =>
    simp only [getAttr] at h
    have := mapM_length _ _ _ h
    omega
  | callable o => simp [getAttr] at h; subst h; exact hcall o rfl

/-- non-vacuity: a bounded gaussian with a tail draw is clipped into `[4, 6]` by the correct order -/
example : gaussianValue .correct (5 : ℚ) 1 (some 4) (some 6) (-227 / 100) = 4 := by
  unfold gaussianValue capMax capMin fmin fmax; norm_num

end C04
