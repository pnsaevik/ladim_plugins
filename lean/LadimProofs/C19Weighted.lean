import LadimProofs.C19
open Ladim Ladim.Post
set_option linter.unusedSectionVars false
namespace C19
variable {α : Type} [Field α] [LinearOrder α] [IsStrictOrderedRing α]

/-! ## weighted histogram -/

theorem foldl_add_eq_sum (l : List α) (a : α) : List.foldl (· + ·) a l = a + l.sum := by
  induction l generalizing a with
  | nil => simp
  | cons x xs ih => simp only [List.foldl_cons, List.sum_cons, ih]; ring

theorem foldl_add_lit_eq_sum (l : List α) : List.foldl (· + ·) (0.0 : α) l = l.sum := by
  rw [foldl_add_eq_sum, lit_0, zero_add]

/-- `weightBin` as a plain sum -/
theorem weightBin_eq_sum (es : List α) (xw : List (α × α)) (k : Nat) :
    weightBin es xw k = ((xw.filter (fun p => binIndex es p.1 == some k)).map (·.2)).sum := by
  unfold weightBin
  exact foldl_add_lit_eq_sum _

theorem weightBin_nil (es : List α) (k : Nat) : weightBin es ([] : List (α × α)) k = 0 := by
  rw [weightBin_eq_sum]; simp

theorem weightBin_cons (es : List α) (p : α × α) (xw : List (α × α)) (k : Nat) :
    weightBin es (p :: xw) k = (if binIndex es p.1 = some k then p.2 else 0) + weightBin es xw k := by
  rw [weightBin_eq_sum, weightBin_eq_sum]
  by_cases h : binIndex es p.1 = some k
  · simp [h]
  · have : (binIndex es p.1 == some k) = false := by simpa using h
    simp [this, h]

theorem sum_indicator_weight (n k0 : Nat) (w : α) (h : k0 < n) :
    ((List.range n).map (fun k => if k0 = k then w else 0)).sum = w := sum_indicator n k0 w h

theorem sum_indicator_weight_none (n : Nat) (w : α) :
    ((List.range n).map (fun k => if (none : Option Nat) = some k then w else 0)).sum = 0 :=
  sum_indicator_none n w

/-- the weighted histogram conserves the total weight of the particles located within the grid's
outer edges (weights of either sign) -/
theorem hist_conserves_weight (es : List α) (xw : List (α × α)) :
    ((List.range (es.length - 1)).map (weightBin es xw)).sum
      = ((xw.filter (fun p => (binIndex es p.1).isSome)).map (·.2)).sum := by
  rw [← sum_bins (fun p => binIndex es p.1) (·.2) (es.length - 1)
    (fun p k hk => by have := binIndex_lt es p.1 k hk; omega) xw]
  exact congrArg List.sum (List.map_congr_left fun k _ => weightBin_eq_sum es xw k)

/-- with unit weights the weighted histogram is the count histogram -/
theorem weightBin_ones (es : List α) (xs : List α) (k : Nat) :
    weightBin es (xs.map (fun x => (x, (1 : α)))) k = (countBin es xs k : α) := by
  simp [weightBin_eq_sum, countBin, List.filter_map, Function.comp_def]

theorem weightBin_nonneg (es : List α) (xw : List (α × α)) (k : Nat) (h : ∀ p ∈ xw, 0 ≤ p.2) :
    0 ≤ weightBin es xw k := by
  rw [weightBin_eq_sum]
  apply List.sum_nonneg
  intro v hv
  simp only [List.mem_map, List.mem_filter] at hv
  obtain ⟨p, ⟨hp, _⟩, rfl⟩ := hv
  exact h p hp

/-! ## multi-dimensional cells -/

theorem mapM_option_isSome_iff {β γ : Type} (f : β → Option γ) (l : List β) :
    (l.mapM f).isSome ↔ ∀ x ∈ l, (f x).isSome := by
  induction l with
  | nil => simp
  | cons x xs ih =>
    rw [List.mapM_cons]
    cases hx : f x with
    | none => simp [hx]
    | some y =>
      cases hxs : xs.mapM f with
      | none =>
        rw [hxs] at ih
        simp only [Option.isSome_none, Bool.false_eq_true, false_iff] at ih
        simp only [Option.bind_eq_bind, Option.bind_some, Option.bind_none, Option.isSome_none,
          Bool.false_eq_true, List.mem_cons, forall_eq_or_imp, hx, Option.isSome_some, true_and,
          false_iff]
        exact ih
      | some ys =>
        rw [hxs] at ih
        simp only [Option.isSome_some, true_iff] at ih
        simp only [Option.bind_eq_bind, Option.bind_some, Option.pure_def, Option.isSome_some,
          List.mem_cons, forall_eq_or_imp, hx, true_and, true_iff]
        exact ih

theorem mapM_option_some_spec {β γ : Type} (f : β → Option γ) (l : List β) (c : List γ)
    (h : l.mapM f = some c) :
    c.length = l.length ∧ ∀ i (hi : i < c.length) (hl : i < l.length), f l[i] = some c[i] := by
  induction l generalizing c with
  | nil =>
    simp only [List.mapM_nil, Option.pure_def, Option.some.injEq] at h
    subst h
    simp
  | cons x xs ih =>
    rw [List.mapM_cons] at h
    cases hx : f x with
    | none => simp [hx] at h
    | some y =>
      cases hxs : xs.mapM f with
      | none => simp [hx, hxs] at h
      | some ys =>
        simp only [hx, hxs, Option.bind_eq_bind, Option.bind_some, Option.pure_def,
          Option.some.injEq] at h
        subst h
        obtain ⟨hlen, hall⟩ := ih ys hxs
        refine ⟨by simp [hlen], ?_⟩
        intro i hi hl
        cases i with
        | zero => simpa using hx
        | succ i =>
          simp only [List.getElem_cons_succ]
          exact hall i (by simpa using hi) (by simpa using hl)

/-- a particle has a cell iff it is binned in every dimension -/
theorem cellOf_isSome_iff (ess : List (List α)) (p : List α) :
    (cellOf ess p).isSome ↔ ∀ ep ∈ ess.zip p, (binIndex ep.1 ep.2).isSome := by
  unfold cellOf
  exact mapM_option_isSome_iff _ _

/-- the cell has one index per dimension, each the bin of that coordinate -/
theorem cellOf_components (ess : List (List α)) (p : List α) (c : List Nat) (h : cellOf ess p = some c) :
    c.length = (ess.zip p).length ∧
      ∀ i (hi : i < c.length) (hl : i < (ess.zip p).length),
        binIndex ((ess.zip p)[i]).1 ((ess.zip p)[i]).2 = some c[i] := by
  unfold cellOf at h
  exact mapM_option_some_spec _ _ c h

/-- every component index of a cell is a valid bin of its dimension -/
theorem cellOf_index_lt (ess : List (List α)) (p : List α) (c : List Nat) (h : cellOf ess p = some c) :
    ∃ (hlen : c.length = (ess.zip p).length),
      ∀ i (hi : i < c.length), c[i] + 1 < ((ess.zip p)[i]'(hlen ▸ hi)).1.length := by
  obtain ⟨hlen, hall⟩ := cellOf_components ess p c h
  refine ⟨hlen, ?_⟩
  intro i hi
  exact binIndex_lt _ _ _ (hall i hi (hlen ▸ hi))

/-! ## non-vacuity -/

example : (List.range ([(0 : ℚ), 1, 2].length - 1)).map
      (weightBin [(0 : ℚ), 1, 2] [(1/2, 2), (3/2, -1), (7, 5)]) = [2, -1] := by
  decide +kernel

example : ((List.range ([(0 : ℚ), 1, 2].length - 1)).map
      (weightBin [(0 : ℚ), 1, 2] [(1/2, 2), (3/2, -1), (7, 5)])).sum = 1 := by
  decide +kernel

/-- … which is the total weight of the in-grid particles (the particle at 7 is outside) -/
example : (([((1/2 : ℚ), (2 : ℚ)), (3/2, -1), (7, 5)].filter
      (fun p => (binIndex [(0 : ℚ), 1, 2] p.1).isSome)).map (·.2)).sum = 1 := by
  decide +kernel

example : cellOf [[(0 : ℚ), 1, 2], [0, 10, 20, 30]] [3/2, 25] = some [1, 2] := by decide +kernel
example : cellOf [[(0 : ℚ), 1, 2], [0, 10, 20, 30]] [3/2, 31] = none := by decide +kernel

end C19
