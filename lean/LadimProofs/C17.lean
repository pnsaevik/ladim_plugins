import LadimProofs.SampleLemmas
import LadimProofs.C03
import LadimProofs.C04
/-!
# C17 — release positions are uniformly distributed over the release area

The code is a deterministic map of three `uniform01` draws per particle.  The theorems reduce "the
push-forward of the uniform law is uniform on the area" to elementary facts:

* the triangle choice `u ↦ k` has the *interval* `(cum_{k-1}/A, cum_k/A]` as preimage, of length
  `area_k / A` (`pick_interval`, `pick_interval_length`);
* the fold of the unit square onto the unit triangle is 2-to-1: a point reflection (an involutive
  affine isometry) on the upper half, the identity on the lower half (`fold_preimages`);
* `bary` is affine in `(s,t)` with constant Jacobian determinant `= ±2·area ≠ 0`, hence injective
  (`bary_det`, `bary_injective`);
* two-element ranges are affine in the draw (`C04.range_values`).

The last step ("an a.e.-bijection with constant Jacobian maps the uniform law to the uniform law") is
textbook measure theory, not formalised here (trusted base); the statistical layer of `harness/c17.py`
tests the conclusion on the implementation with exact binomial tail bounds.
-/
open Ladim Ladim.Sample
set_option linter.unusedVariables false
set_option linter.unusedSectionVars false

namespace C17
variable {α : Type} [Field α] [LinearOrder α] [IsStrictOrderedRing α]

/-- the normalised cumulative areas -/
def normCum (areas : List α) (tot : α) : List α := (cumsum areas).map (fun c => c / tot)

theorem normCum_length (areas : List α) (tot : α) : (normCum areas tot).length = areas.length := by
  unfold normCum; simp [SampleLemmas.cumsum_length]

theorem normCum_pairwise (areas : List α) (tot : α) (ht : 0 < tot) (hpos : ∀ a ∈ areas, 0 ≤ a) :
    List.Pairwise (· ≤ ·) (normCum areas tot) := by
  unfold normCum
  rw [List.pairwise_map]
  exact (SampleLemmas.cumsum_pairwise areas hpos).imp (fun h => div_le_div_of_nonneg_right h ht.le)

/-- triangle `k` is chosen exactly for `u` in the half-open interval
`(cum_{k-1}/A, cum_k/A]` (with `cum_{-1} = 0` understood as "no lower constraint" for `k = 0`) -/
theorem pick_interval (areas : List α) (tot u : α) (k : Nat) (hk : k < areas.length) (ht : 0 < tot)
    (hpos : ∀ a ∈ areas, 0 ≤ a) (hlast : (cumsum areas).getLast? = some tot) :
    pickTriangle areas u = k ↔
      ((∀ (h0 : 0 < k), (normCum areas tot)[k - 1]'(by rw [normCum_length]; omega) < u) ∧
        u ≤ (normCum areas tot)[k]'(by rw [normCum_length]; exact hk)) := by
  unfold pickTriangle
  simp only [hlast]
  have hs := normCum_pairwise areas tot ht hpos
  have hkl : k < (normCum areas tot).length := by rw [normCum_length]; exact hk
  change searchsortedLeft (normCum areas tot) u = k ↔ _
  rw [SampleLemmas.searchsorted_eq_iff _ u hs k hkl]
  constructor
  · rintro ⟨h1, h2⟩
    exact ⟨fun h0 => h1 (k - 1) (by omega), not_lt.mp h2⟩
  · rintro ⟨h1, h2⟩
    refine ⟨fun j hj => ?_, not_lt.mpr h2⟩
    have h0 : 0 < k := by omega
    have hjk : j ≤ k - 1 := by omega
    rcases Nat.eq_or_lt_of_le hjk with rfl | hlt
    · exact h1 h0
    · have := List.pairwise_iff_getElem.mp hs j (k - 1) (by omega) (by omega) hlt
      exact lt_of_le_of_lt this (h1 h0)

/-- the length of that interval is `area_k / A`: polygons (sets of triangles) therefore receive
particles in proportion to their areas -/
theorem pick_interval_length (areas : List α) (tot : α) (k : Nat) (hk : k + 1 < areas.length) :
    (normCum areas tot)[k + 1]'(by rw [normCum_length]; exact hk) -
      (normCum areas tot)[k]'(by rw [normCum_length]; omega) = areas[k + 1] / tot := by
  unfold normCum
  simp only [List.getElem_map]
  rw [SampleLemmas.cumsum_get_succ areas k hk]
  ring

theorem pick_interval_length_zero (areas : List α) (tot : α) (h : 0 < areas.length) :
    (normCum areas tot)[0]'(by rw [normCum_length]; exact h) = areas[0] / tot := by
  unfold normCum
  simp only [List.getElem_map]
  rw [SampleLemmas.cumsum_get_zero areas h]

/-- the last normalised cumulative area is 1: the intervals tile `(0, 1]` -/
theorem normCum_last (areas : List α) (tot : α) (ht : 0 < tot) (hlast : (cumsum areas).getLast? = some tot) :
    (normCum areas tot).getLast? = some 1 := by
  unfold normCum
  rw [List.getLast?_map, hlast]
  simp [div_self (ne_of_gt ht)]

/-- the fold is the identity below the diagonal and the point reflection `(s,t) ↦ (1−s, 1−t)` above
it, so every point `(a,b)` of the open unit triangle has exactly the two preimages `(a,b)` and
`(1−a, 1−b)`: constant density 2 -/
theorem fold_preimages (s t a b : α) (hab : a + b < 1) :
    foldUnit s t = (a, b) ↔ ((s, t) = (a, b) ∨ (s, t) = (1 - a, 1 - b)) := by
  unfold foldUnit
  lits
  constructor
  · intro h
    split_ifs at h with hst
    · right
      simp only [Prod.mk.injEq] at h ⊢
      constructor <;> linarith [h.1, h.2]
    · left; exact h
  · rintro (h | h)
    · simp only [Prod.mk.injEq] at h
      obtain ⟨rfl, rfl⟩ := h
      rw [if_neg (by linarith)]
    · simp only [Prod.mk.injEq] at h
      obtain ⟨rfl, rfl⟩ := h
      rw [if_pos (by linarith)]
      simp

/-- the reflection is an involution and an isometry (it preserves differences up to sign) -/
theorem fold_reflection_involutive (s t : α) : (1 - (1 - s), 1 - (1 - t)) = (s, t) := by simp

/-- `bary` is affine in `(s,t)` with constant Jacobian determinant equal to the signed double area -/
theorem bary_det (T : Tri α) (s t s' t' : α) :
    (bary T.x1 T.x2 T.x3 s t - bary T.x1 T.x2 T.x3 s' t') * (T.y3 - T.y1)
      - (bary T.y1 T.y2 T.y3 s t - bary T.y1 T.y2 T.y3 s' t') * (T.x3 - T.x1)
      = ((T.x2 - T.x1) * (T.y3 - T.y1) - (T.y2 - T.y1) * (T.x3 - T.x1)) * (s - s') ∧
    (bary T.y1 T.y2 T.y3 s t - bary T.y1 T.y2 T.y3 s' t') * (T.x2 - T.x1)
      - (bary T.x1 T.x2 T.x3 s t - bary T.x1 T.x2 T.x3 s' t') * (T.y2 - T.y1)
      = ((T.x2 - T.x1) * (T.y3 - T.y1) - (T.y2 - T.y1) * (T.x3 - T.x1)) * (t - t') := by
  unfold bary; constructor <;> ring

/-- the code's triangle area is `|cross|/2` — orientation independent, so clockwise and
counter-clockwise polygons get the same weights -/
theorem triangle_areas_abs (T : Tri α) :
    triArea T = |(T.x2 - T.x1) * (T.y3 - T.y1) - (T.y2 - T.y1) * (T.x3 - T.x1)| / 2 := by
  unfold triArea; rw [fabs_eq_abs, mul_comm, div_eq_mul_inv]
  norm_num

/-- … hence injective on non-degenerate triangles: distinct `(s,t)` give distinct positions -/
theorem bary_injective (T : Tri α) (s t s' t' : α) (hA : 0 < triArea T)
    (hx : bary T.x1 T.x2 T.x3 s t = bary T.x1 T.x2 T.x3 s' t')
    (hy : bary T.y1 T.y2 T.y3 s t = bary T.y1 T.y2 T.y3 s' t') : s = s' ∧ t = t' := by
  have hd : (T.x2 - T.x1) * (T.y3 - T.y1) - (T.y2 - T.y1) * (T.x3 - T.x1) ≠ 0 := by
    intro h0
    rw [triangle_areas_abs, h0, abs_zero, zero_div] at hA
    exact lt_irrefl _ hA
  obtain ⟨h1, h2⟩ := bary_det T s t s' t'
  rw [hx, hy] at h1 h2
  simp only [sub_self, zero_mul] at h1 h2
  exact ⟨sub_eq_zero.1 ((mul_eq_zero.1 h1.symm).resolve_left hd),
    sub_eq_zero.1 ((mul_eq_zero.1 h2.symm).resolve_left hd)⟩

/-- non-vacuity: areas 1, 3 (total 4): triangle 1 is chosen for `u ∈ (1/4, 1]` -/
example : pickTriangle [(1 : ℚ), 3] (1/2) = 1 ∧ pickTriangle [(1 : ℚ), 3] (1/4) = 0 := by
  constructor <;> norm_num [pickTriangle, cumsum, cumsumFrom, searchsortedLeft, List.takeWhile]

end C17
