import LadimProofs.C05
import Mathlib.Data.Real.Basic
import Mathlib.Algebra.Order.Archimedean.Real.Basic
/-!
# C05R — the boundary statements of C05 under *rounded* arithmetic

`LadimProofs/C05.lean` proves "the new depth stays inside the band" over an arbitrary linear ordered
field, i.e. for exact arithmetic.  Here the same model terms (`Ladim.Chemicals.reflect`, `advect`,
`diffuseConst`, `Ladim.Sed.bury`, `Ladim.Bio.mirrorCap`, …) are instantiated at a scalar type `Rd R`
whose `+ - * /` and literals *round the exact real result* with an arbitrary monotone, idempotent,
odd rounding function `R.rnd` fixing `0`.  IEEE-754 round-to-nearest-even, round-toward-zero and
every fixed-point grid rounding are such functions on the range where nothing overflows
(round-up / round-down are monotone and idempotent but not odd; oddness is used only by
`rep_neg`/`rnd_abs_le`, i.e. to know that `-H` is representable when `H` is).
-/
open Ladim

set_option linter.unusedSectionVars false
set_option linter.unusedVariables false

namespace C05R

/-- an abstract rounding function on the reals -/
structure Rounding where
  rnd : ℝ → ℝ
  mono : Monotone rnd
  idem : ∀ x, rnd (rnd x) = rnd x
  zero : rnd 0 = 0
  /-- symmetric (true for round-to-nearest and toward zero) -/
  neg : ∀ x, rnd (-x) = - rnd x

/-- "x is representable" -/
def Rounding.rep (R : Rounding) (x : ℝ) : Prop := R.rnd x = x

/-- a rounded number: the scalar type at which the model is instantiated -/
structure Rd (R : Rounding) where
  val : ℝ

namespace Rounding
variable (R : Rounding)

theorem rep_rnd (x : ℝ) : R.rep (R.rnd x) := R.idem x
theorem rep_zero : R.rep 0 := R.zero
theorem rep_neg {x : ℝ} (h : R.rep x) : R.rep (-x) := by
  unfold rep at *; rw [R.neg, h]

theorem rnd_le {x b : ℝ} (hb : R.rep b) (h : x ≤ b) : R.rnd x ≤ b := by
  have := R.mono h; rwa [hb] at this
theorem le_rnd {a x : ℝ} (ha : R.rep a) (h : a ≤ x) : a ≤ R.rnd x := by
  have := R.mono h; rwa [ha] at this

/-- **Transfer lemma.**  A value known (by an exact-arithmetic argument) to lie between two
representable bounds still lies between them after rounding.

Meta-principle: *any exact-arithmetic range theorem `a ≤ f x ≤ b` whose bounds `a`, `b` are
representable survives one final rounding of `f x`* — for every monotone rounding mode.  The
theorems below apply it to each boundary treatment of the particle models: all of them end in at
most one arithmetic operation (`2H - z`, or none at all), whose exact value is in `[0, H]`. -/
theorem rnd_mem_Icc {a b x : ℝ} (ha : R.rep a) (hb : R.rep b) (h1 : a ≤ x) (h2 : x ≤ b) :
    a ≤ R.rnd x ∧ R.rnd x ≤ b := ⟨R.le_rnd ha h1, R.rnd_le hb h2⟩

theorem rnd_nonneg {x : ℝ} (h : 0 ≤ x) : 0 ≤ R.rnd x := R.le_rnd R.rep_zero h
theorem rnd_nonpos {x : ℝ} (h : x ≤ 0) : R.rnd x ≤ 0 := R.rnd_le R.rep_zero h

/-- rounding does not enlarge a displacement beyond a representable bound -/
theorem rnd_abs_le {x b : ℝ} (hb : R.rep b) (h : |x| ≤ b) : |R.rnd x| ≤ b := by
  have := abs_le.mp h
  exact abs_le.mpr (R.rnd_mem_Icc (R.rep_neg hb) hb this.1 this.2)

end Rounding

/-! ## the operation instances on `Rd R` -/
section instances
variable {R : Rounding}

noncomputable instance : Add (Rd R) := ⟨fun a b => ⟨R.rnd (a.val + b.val)⟩⟩
noncomputable instance : Sub (Rd R) := ⟨fun a b => ⟨R.rnd (a.val - b.val)⟩⟩
noncomputable instance : Mul (Rd R) := ⟨fun a b => ⟨R.rnd (a.val * b.val)⟩⟩
noncomputable instance : Div (Rd R) := ⟨fun a b => ⟨R.rnd (a.val / b.val)⟩⟩
instance : Neg (Rd R) := ⟨fun a => ⟨-a.val⟩⟩
instance : LT (Rd R) := ⟨fun a b => a.val < b.val⟩
instance : LE (Rd R) := ⟨fun a b => a.val ≤ b.val⟩
noncomputable instance : DecidableLT (Rd R) := fun _ _ => Classical.propDecidable _
noncomputable instance : DecidableLE (Rd R) := fun _ _ => Classical.propDecidable _
noncomputable instance : OfScientific (Rd R) :=
  ⟨fun m s e => ⟨R.rnd (OfScientific.ofScientific m s e : ℝ)⟩⟩

@[simp] theorem add_val (a b : Rd R) : (a + b).val = R.rnd (a.val + b.val) := rfl
@[simp] theorem sub_val (a b : Rd R) : (a - b).val = R.rnd (a.val - b.val) := rfl
@[simp] theorem mul_val (a b : Rd R) : (a * b).val = R.rnd (a.val * b.val) := rfl
@[simp] theorem div_val (a b : Rd R) : (a / b).val = R.rnd (a.val / b.val) := rfl
@[simp] theorem neg_val (a : Rd R) : (-a).val = -a.val := rfl
@[simp] theorem lt_iff (a b : Rd R) : a < b ↔ a.val < b.val := Iff.rfl
@[simp] theorem le_iff (a b : Rd R) : a ≤ b ↔ a.val ≤ b.val := Iff.rfl
theorem ofScientific_val (m : ℕ) (s : Bool) (e : ℕ) :
    (OfScientific.ofScientific m s e : Rd R).val = R.rnd (OfScientific.ofScientific m s e : ℝ) := rfl

/-- a literal is exact as soon as its value is representable -/
theorem rnd_lit {x y : ℝ} (hxy : x = y) (h : R.rep y) : R.rnd x = y := hxy ▸ h

@[simp] theorem lit0_val : ((0.0 : Rd R)).val = 0 := rnd_lit (by norm_num) R.zero

theorem lit2_val (h2 : R.rep 2) : ((2.0 : Rd R)).val = 2 := rnd_lit (by norm_num) h2

/-- comparing and selecting involve no rounding: the surface mirror `z[z < 0] *= -1`, `np.minimum`, `np.maximum` -/
theorem ite_neg_eq_abs (a : ℝ) : (if a < 0 then -a else a) = |a| := by
  split_ifs with h
  · exact (abs_of_neg h).symm
  · exact (abs_of_nonneg (not_lt.mp h)).symm

theorem mirror_val (x : Rd R) : (if x < 0.0 then -x else x).val = |x.val| := by
  simp only [lt_iff, lit0_val, apply_ite Rd.val, neg_val, ite_neg_eq_abs]

theorem mirror_nonneg_rd (x : Rd R) : 0 ≤ (if x < 0.0 then -x else x).val := mirror_val x ▸ abs_nonneg _

theorem fmin_val (a b : Rd R) : (fmin a b).val = min a.val b.val := by
  simp only [fmin, lt_iff, apply_ite Rd.val]
  split_ifs with h
  · exact (min_eq_right h.le).symm
  · exact (min_eq_left (not_lt.mp h)).symm

theorem fmax_val (a b : Rd R) : (fmax a b).val = max a.val b.val := by
  simp only [fmax, lt_iff, apply_ite Rd.val]
  split_ifs with h
  · exact (max_eq_right h.le).symm
  · exact (max_eq_left (not_lt.mp h)).symm

/-- every arithmetic result is representable -/
theorem rep_add (a b : Rd R) : R.rep (a + b).val := R.rep_rnd _
theorem rep_sub (a b : Rd R) : R.rep (a - b).val := R.rep_rnd _
theorem rep_mul (a b : Rd R) : R.rep (a * b).val := R.rep_rnd _
theorem rep_div (a b : Rd R) : R.rep (a / b).val := R.rep_rnd _

end instances

/-! ## 2a. `reflect` -/
section chemicals
open Ladim.Chemicals
variable {R : Rounding}

/-- `reflect` at `Rd R`: the only rounded operations are `2.0 * H` (exact by hypothesis) and the final
subtraction. -/
theorem reflect_val (h2 : R.rep 2) (H z : Rd R) (hH2 : R.rep (2 * H.val)) :
    (reflect H z).val = if H.val < z.val then R.rnd (2 * H.val - |z.val|) else |z.val| := by
  have e : R.rnd (2 * H.val) = 2 * H.val := hH2
  unfold reflect
  simp only [lt_iff, apply_ite Rd.val, sub_val, mul_val, neg_val, lit0_val, lit2_val h2, e, ite_neg_eq_abs]

/-- the predictor's variant (flip first, then test) -/
theorem reflectPred_val (h2 : R.rep 2) (H z : Rd R) (hH2 : R.rep (2 * H.val)) :
    (reflectPred H z).val = if H.val < |z.val| then R.rnd (2 * H.val - |z.val|) else |z.val| := by
  have e : R.rnd (2 * H.val) = 2 * H.val := hH2
  unfold reflectPred
  simp only [lt_iff, apply_ite Rd.val, sub_val, mul_val, neg_val, lit0_val, lit2_val h2, e, ite_neg_eq_abs]

theorem reflectPred_in_range_rd (h2 : R.rep 2) (H z : Rd R) (hH : R.rep H.val)
    (hH2 : R.rep (2 * H.val)) (h1 : -H.val ≤ z.val) (hzU : z.val ≤ 2 * H.val) :
    0 ≤ (reflectPred H z).val ∧ (reflectPred H z).val ≤ H.val := by
  have : |z.val| ≤ 2 * H.val := abs_le.mpr ⟨by linarith, hzU⟩
  rw [reflectPred_val h2 H z hH2]
  split_ifs with hb
  · exact R.rnd_mem_Icc R.rep_zero hH (sub_nonneg.mpr this) (by linarith)
  · exact ⟨abs_nonneg _, not_lt.mp hb⟩

/-- **reflect under rounding**: with representable `H`, `2H` (no overflow, exact doubling) and the
literal `2`, a pre-reflection depth within one water depth of the band is mapped into `[0, H]`.
`z` itself need not be representable.  (Not further above the surface than `H`, `reflect` and the
predictor's variant agree.) -/
theorem reflect_in_range_rd (h2 : R.rep 2) (H z : Rd R) (hH : R.rep H.val)
    (hH2 : R.rep (2 * H.val)) (h1 : -H.val ≤ z.val) (hzU : z.val ≤ 2 * H.val) :
    0 ≤ (reflect H z).val ∧ (reflect H z).val ≤ H.val := by
  have hiff : H.val < z.val ↔ H.val < |z.val| :=
    ⟨fun h => h.trans_le (le_abs_self _), fun h => (lt_abs.mp h).resolve_right (not_lt.mpr (neg_le.mp h1))⟩
  rw [reflect_val h2 H z hH2, if_congr hiff rfl rfl, ← reflectPred_val h2 H z hH2]
  exact reflectPred_in_range_rd h2 H z hH hH2 h1 hzU

/-- the same in the `InBand` vocabulary of C05 -/
theorem reflect_band_rd (h2 : R.rep 2) (H z : Rd R) (hH : R.rep H.val)
    (hH2 : R.rep (2 * H.val)) (h1 : -H.val ≤ z.val) (hzU : z.val ≤ 2 * H.val) :
    C05.InBand H.val (reflect H z).val := reflect_in_range_rd h2 H z hH hH2 h1 hzU

/-- the result of `reflect` is representable when its input is -/
theorem reflect_rep (h2 : R.rep 2) (H z : Rd R) (hH2 : R.rep (2 * H.val)) (hz : R.rep z.val) :
    R.rep (reflect H z).val := by
  rw [reflect_val h2 H z hH2]
  split_ifs
  · exact R.rep_rnd _
  · rcases abs_choice z.val with e | e
    · rw [e]
      exact hz
    · rw [e]
      exact R.rep_neg hz

/-! ## 2b. `advect`, `diffuseConst`: displacement followed by `reflect` -/

/-- the rounded pre-reflection depth `rnd (z + d)` stays within `[-H, 2H]` whenever the exact sum
does (monotonicity; `-H` and `2H` representable) -/
theorem prereflect_in_range (H z d : Rd R) (hH : R.rep H.val) (hH2 : R.rep (2 * H.val))
    (h1 : -H.val ≤ z.val + d.val) (h2 : z.val + d.val ≤ 2 * H.val) :
    -H.val ≤ (z + d).val ∧ (z + d).val ≤ 2 * H.val :=
  R.rnd_mem_Icc (R.rep_neg hH) hH2 h1 h2

/-- a particle in the band displaced by a (rounded) step not larger than the water depth is
reflected back into the band, in rounded arithmetic -/
theorem reflect_disp_band_rd (h2 : R.rep 2) (H z d : Rd R) (hH : R.rep H.val)
    (hH2 : R.rep (2 * H.val)) (hz0 : 0 ≤ z.val) (hz1 : z.val ≤ H.val) (hd : |d.val| ≤ H.val) :
    0 ≤ (reflect H (z + d)).val ∧ (reflect H (z + d)).val ≤ H.val := by
  have := abs_le.mp hd
  obtain ⟨a, b⟩ := prereflect_in_range H z d hH hH2 (by linarith) (by linarith)
  exact reflect_in_range_rd h2 H (z + d) hH hH2 a b

/-- `advect`, hypothesis on the *rounded* pre-reflection value `rnd (z + rnd (dt * w))` -/
theorem advect_in_range_rd (h2 : R.rep 2) (dt H w z : Rd R) (hH : R.rep H.val)
    (hH2 : R.rep (2 * H.val)) (h1 : -H.val ≤ (z + dt * w).val) (hzU : (z + dt * w).val ≤ 2 * H.val) :
    0 ≤ (advect dt H w z).val ∧ (advect dt H w z).val ≤ H.val :=
  reflect_in_range_rd h2 H (z + dt * w) hH hH2 h1 hzU

/-- the rounded pre-reflection value of `advect` lies in `[-H, 2H]` whenever `z + rnd (dt * w)`
(exact sum with the rounded product) does -/
theorem advect_prereflect_in_range (dt H w z : Rd R) (hH : R.rep H.val) (hH2 : R.rep (2 * H.val))
    (h1 : -H.val ≤ z.val + R.rnd (dt.val * w.val)) (h2 : z.val + R.rnd (dt.val * w.val) ≤ 2 * H.val) :
    -H.val ≤ (z + dt * w).val ∧ (z + dt * w).val ≤ 2 * H.val :=
  prereflect_in_range H z (dt * w) hH hH2 h1 h2

/-- **advect under rounding**, with the hypotheses of the exact theorem `C05.advect_band` stated on
the *exact* real product: particle in the band, `|dt * w| ≤ H` in exact arithmetic.  Both roundings
(product, sum) and the reflection's subtraction are covered. -/
theorem advect_band_rd (h2 : R.rep 2) (dt H w z : Rd R) (hH : R.rep H.val)
    (hH2 : R.rep (2 * H.val)) (hz0 : 0 ≤ z.val) (hz1 : z.val ≤ H.val)
    (hd : |dt.val * w.val| ≤ H.val) :
    0 ≤ (advect dt H w z).val ∧ (advect dt H w z).val ≤ H.val :=
  reflect_disp_band_rd h2 H z (dt * w) hH hH2 hz0 hz1 (R.rnd_abs_le hH hd)

/-- `diffuse_const` under rounding, for *any* implementation of `sqrt` on rounded numbers
(correctly rounded or not): the hypothesis is on the computed step. -/
theorem diffuseConst_band_rd [HasSqrt (Rd R)] (h2 : R.rep 2) (dt D H u z : Rd R) (hH : R.rep H.val)
    (hH2 : R.rep (2 * H.val)) (hz0 : 0 ≤ z.val) (hz1 : z.val ≤ H.val)
    (hd : |(sqrt (2.0 * D) * uniformDW u dt).val| ≤ H.val) :
    0 ≤ (diffuseConst dt D H u z).val ∧ (diffuseConst dt D H u z).val ≤ H.val :=
  reflect_disp_band_rd h2 H z _ hH hH2 hz0 hz1 hd

/-- one LaBolle sub-step under rounding (the corrector's reflection is the last operation) -/
theorem labolleSub_band_rd [HasSqrt (Rd R)] [HasFloor (Rd R)] (h2 : R.rep 2)
    (K : Rd R → Rd R) (vmax dz H ddt u z : Rd R) (hH : R.rep H.val)
    (hH2 : R.rep (2 * H.val)) (hz0 : 0 ≤ z.val) (hz1 : z.val ≤ H.val)
    (hd : ∀ zz, |(sqrt (2.0 * fmin (K (zCoarse dz zz)) vmax) * uniformDW u ddt).val| ≤ H.val) :
    0 ≤ (labolleSub K vmax dz H ddt u z).val ∧ (labolleSub K vmax dz H ddt u z).val ≤ H.val := by
  unfold labolleSub
  exact reflect_disp_band_rd h2 H z _ hH hH2 hz0 hz1 (hd _)

/-- `clamp_to_seabed` (`Z = minimum(Z, H)`, no arithmetic): in the band of the new depth `H` -/
theorem clamp_in_range_rd (H z : Rd R) (hH : 0 ≤ H.val) (hz : 0 ≤ z.val) :
    0 ≤ (fmin z H).val ∧ (fmin z H).val ≤ H.val :=
  fmin_val z H ▸ ⟨le_min hz hH, min_le_right _ _⟩

end chemicals

/-! ## 2c. sedimentation / mine -/
section sediment
open Ladim.Sed
variable {R : Rounding}

/-- `bury` never leaves an active particle below the bed (no arithmetic) -/
theorem bury_le_H_rd (H z : Rd R) (a : Nat) (ha : a ≠ 0) : (bury H a z).1.val ≤ H.val := by
  unfold bury
  simp only [ha, if_false, lt_iff]
  split_ifs with h
  · exact le_refl _
  · exact not_lt.mp h

theorem bury_nonneg_rd (H z : Rd R) (a : Nat) (hH : 0 ≤ H.val) (hz : 0 ≤ z.val) :
    0 ≤ (bury H a z).1.val := by
  unfold bury
  simp only [lt_iff]
  split_ifs <;> assumption

/-- `sink` (`z + dt * w`, two roundings) keeps a non-negative depth non-negative when the exact
product is non-negative -/
theorem sink_nonneg_rd (dt w z : Rd R) (a : Nat) (hz : 0 ≤ z.val) (hw : 0 ≤ dt.val * w.val) :
    0 ≤ (sink dt w a z).val := by
  unfold sink
  split_ifs
  · exact hz
  · simp only [add_val, mul_val]
    exact R.rnd_nonneg (add_nonneg hz (R.rnd_nonneg hw))

/-- sink then bury: in `[0, H]` under rounding -/
theorem sink_bury_in_range_rd (H dt w z : Rd R) (a : Nat) (ha : a ≠ 0) (hH : 0 ≤ H.val)
    (hz : 0 ≤ z.val) (hw : 0 ≤ dt.val * w.val) :
    0 ≤ (bury H a (sink dt w a z)).1.val ∧ (bury H a (sink dt w a z)).1.val ≤ H.val :=
  ⟨bury_nonneg_rd _ _ _ hH (sink_nonneg_rd dt w z a hz hw), bury_le_H_rd _ _ _ ha⟩

/-- constant mixing with both mirrors, any `sqrt`: hypothesis on the computed displaced depth -/
theorem mixConst_in_range_rd [HasSqrt (Rd R)] (h2 : R.rep 2) (v h dt xi z : Rd R) (hH : R.rep h.val)
    (hH2 : R.rep (2 * h.val))
    (h1 : -h.val ≤ (z + sqrt (2.0 * v) * (xi * sqrt dt)).val)
    (hzU : (z + sqrt (2.0 * v) * (xi * sqrt dt)).val ≤ 2 * h.val) :
    0 ≤ (mixConst v h dt xi z).val ∧ (mixConst v h dt xi z).val ≤ h.val :=
  reflectPred_in_range_rd h2 h (z + sqrt (2.0 * v) * (xi * sqrt dt)) hH hH2 h1 hzU

/-- mine `diffuse` (surface mirror only): never above the surface, for every draw and rounding -/
theorem mixMine_nonneg_rd [HasSqrt (Rd R)] (v dt xi z : Rd R) : 0 ≤ (mixMine v dt xi z).val :=
  mirror_nonneg_rd _

/-- bounded-linear mixing: never above the surface under rounding -/
theorem mixBoundedLinear_nonneg_rd [HasSqrt (Rd R)] (m h dt us xi z : Rd R) (hh : 0 ≤ h.val) :
    0 ≤ (mixBoundedLinear m h dt us xi z).val := by
  unfold mixBoundedLinear
  exact mirror_nonneg_rd _

end sediment

/-! ## 2c. egg / lice surface mirror and cap, shrimp surface mirror -/
section bio
open Ladim.Bio
variable {R : Rounding}

/-- egg `[0, 200)` and lice `[0, 20)`: no arithmetic besides negation; `c`, `c1` are the exact values of the two
literals -/
theorem mirrorCap_in_range_rd (cap capm1 z : Rd R) {c c1 : ℝ} (hc : cap.val = c) (hc1 : capm1.val = c1)
    (h0 : 0 ≤ c1) (h1 : c1 < c) :
    0 ≤ (mirrorCap cap capm1 z).val ∧ (mirrorCap cap capm1 z).val < c := by
  subst hc hc1
  unfold mirrorCap
  simp only [le_iff, lt_iff, apply_ite Rd.val, neg_val, lit0_val, ite_neg_eq_abs]
  split_ifs with h
  · exact ⟨h0, h1⟩
  · exact ⟨abs_nonneg _, not_le.mp h⟩

/-- the egg instance with its literals `200.0`, `199.0` (representable: both are small integers) -/
theorem mirrorCap_egg_rd (h200 : R.rep 200) (h199 : R.rep 199) (z : Rd R) :
    0 ≤ (mirrorCap 200.0 199.0 z).val ∧ (mirrorCap 200.0 199.0 z).val < 200 :=
  mirrorCap_in_range_rd _ _ z (rnd_lit (by norm_num) h200) (rnd_lit (by norm_num) h199) (by norm_num) (by norm_num)

/-- the lice instance `20.0`, `19.0` -/
theorem mirrorCap_lice_rd (h20 : R.rep 20) (h19 : R.rep 19) (z : Rd R) :
    0 ≤ (mirrorCap 20.0 19.0 z).val ∧ (mirrorCap 20.0 19.0 z).val < 20 :=
  mirrorCap_in_range_rd _ _ z (rnd_lit (by norm_num) h20) (rnd_lit (by norm_num) h19) (by norm_num) (by norm_num)

/-- shrimp `mixing`: never above the surface -/
theorem shrimpMix_nonneg_rd [HasSqrt (Rd R)] (vm dt xi z : Rd R) : 0 ≤ (shrimpMix vm dt xi z).val :=
  mirror_nonneg_rd _

/-- larvae `max(min(Z, hi), lo)` and `np.clip`: no arithmetic -/
theorem clipDepth_in_range_rd (lo hi z : Rd R) (h : lo.val ≤ hi.val) :
    lo.val ≤ (clipDepth lo hi z).val ∧ (clipDepth lo hi z).val ≤ hi.val := by
  rw [clipDepth, fmax_val, fmin_val]
  exact ⟨le_max_right _ _, max_le (min_le_right _ _) h⟩

theorem npClip_in_range_rd (lo hi z : Rd R) (h : lo.val ≤ hi.val) :
    lo.val ≤ (npClip lo hi z).val ∧ (npClip lo hi z).val ≤ hi.val := by
  rw [npClip, fmin_val, fmax_val]
  exact ⟨le_min (le_max_right _ _) h, min_le_right _ _⟩

/-- sand eel / eel `reflexive` ends in `np.clip`: unconditional also under rounding -/
theorem reflexive_in_range_rd (rmin rmax r : Rd R) (h : rmin.val ≤ rmax.val) :
    rmin.val ≤ (reflexive rmin rmax r).val ∧ (reflexive rmin rmax r).val ≤ rmax.val := by
  unfold reflexive
  exact npClip_in_range_rd _ _ _ h

section biofull
variable [HasSqrt (Rd R)] [HasExp (Rd R)] [HasLog (Rd R)] [HasSin (Rd R)] [HasCos (Rd R)]
  [HasAsin (Rd R)] [HasRpow (Rd R)] [HasPi (Rd R)]

/-- egg `update`: new depth in `[0, 200)` under rounding, for every velocity, every draw and every
implementation of the elementary functions -/
theorem eggZ_in_range_rd (h200 : R.rep 200) (h199 : R.rep 199) (D dt diam temp salt buoy : Rd R)
    (xi : Option (Rd R)) (z : Rd R) :
    0 ≤ (eggZ D dt diam temp salt buoy xi z).val ∧ (eggZ D dt diam temp salt buoy xi z).val < 200 := by
  unfold eggZ
  exact mirrorCap_egg_rd h200 h199 _

/-- salmon lice `update_ibm`: new depth in `[0, 20)` under rounding -/
theorem lice_in_range_rd (h20 : R.rep 20) (h19 : R.rep 19)
    (D dt sdt mf k sv temp salt l0 r : Rd R) (xi : Option (Rd R)) (p : Lice (Rd R)) :
    0 ≤ (liceUpdate D dt sdt mf k sv temp salt l0 r xi p).z.val ∧
      (liceUpdate D dt sdt mf k sv temp salt l0 r xi p).z.val < 20 := by
  unfold liceUpdate
  exact mirrorCap_lice_rd h20 h19 _

end biofull
end bio

/-! ## instances of `Rounding` (non-vacuity) -/

/-- exact arithmetic -/
def exact : Rounding where
  rnd := id
  mono := monotone_id
  idem := fun _ => rfl
  zero := rfl
  neg := fun _ => rfl

/-- truncation toward zero to an integer -/
noncomputable def truncR (x : ℝ) : ℝ := if 0 ≤ x then (⌊x⌋ : ℝ) else (⌈x⌉ : ℝ)

theorem truncR_int (n : ℤ) : truncR (n : ℝ) = n := by
  unfold truncR
  split_ifs <;> simp

theorem truncR_isInt (x : ℝ) : ∃ n : ℤ, truncR x = n := by
  unfold truncR
  split_ifs
  · exact ⟨_, rfl⟩
  · exact ⟨_, rfl⟩

theorem truncR_mono : Monotone truncR := by
  intro x y hxy
  unfold truncR
  split_ifs with hx hy hy
  · exact_mod_cast Int.floor_mono hxy
  · exact absurd (le_trans hx hxy) hy
  · have h1 : ⌈x⌉ ≤ 0 := Int.ceil_le.mpr (by push_cast; linarith [not_le.mp hx])
    have h2 : 0 ≤ ⌊y⌋ := Int.floor_nonneg.mpr hy
    exact_mod_cast le_trans h1 h2
  · exact_mod_cast Int.ceil_mono hxy

theorem truncR_neg (x : ℝ) : truncR (-x) = - truncR x := by
  unfold truncR
  rcases lt_trichotomy x 0 with h | h | h
  · have h1 : 0 ≤ -x := by linarith
    have h2 : ¬ 0 ≤ x := not_le.mpr h
    simp only [h1, h2, if_true, if_false, Int.floor_neg]; push_cast; ring
  · subst h; simp
  · have h1 : ¬ 0 ≤ -x := by linarith
    have h2 : 0 ≤ x := h.le
    simp only [h1, h2, if_true, if_false, Int.ceil_neg]; push_cast; ring

/-- round toward zero to the nearest integer: a non-identity rounding -/
noncomputable def toZero : Rounding where
  rnd := truncR
  mono := truncR_mono
  idem := fun x => by obtain ⟨n, hn⟩ := truncR_isInt x; rw [hn, truncR_int]
  zero := by simpa using truncR_int 0
  neg := truncR_neg

/-- any rounding rescaled to the grid `1/s` (`s > 0`): `x ↦ rnd (x * s) / s`.
With `s = 2^k` and `toZero` this is fixed-point truncation with `k` fractional bits. -/
noncomputable def Rounding.scale (R : Rounding) (s : ℝ) (hs : 0 < s) : Rounding where
  rnd := fun x => R.rnd (x * s) / s
  mono := by
    intro x y hxy
    have : x * s ≤ y * s := mul_le_mul_of_nonneg_right hxy hs.le
    exact div_le_div_of_nonneg_right (R.mono this) hs.le
  idem := fun x => by
    show R.rnd (R.rnd (x * s) / s * s) / s = R.rnd (x * s) / s
    rw [div_mul_cancel₀ _ hs.ne', R.idem]
  zero := by
    show R.rnd (0 * s) / s = 0
    rw [zero_mul, R.zero, zero_div]
  neg := fun x => by
    show R.rnd (-x * s) / s = -(R.rnd (x * s) / s)
    rw [neg_mul, R.neg, neg_div]

/-- fixed-point truncation with `k` fractional bits -/
noncomputable def fixedPoint (k : ℕ) : Rounding := toZero.scale (2 ^ k) (by positivity)

theorem toZero_rep_int (n : ℤ) : toZero.rep (n : ℝ) := truncR_int n

/-- `toZero` is not the identity: `1/2` is not representable, `3` is -/
example : ¬ toZero.rep (1 / 2) := by
  unfold Rounding.rep toZero truncR
  norm_num
example : toZero.rep 3 := by simpa using toZero_rep_int 3
/-- `2.5` is representable with one fractional bit, `2.25` is rounded to `2` (toward zero) -/
example : (fixedPoint 1).rnd 2.25 = 2 := by
  show truncR ((2.25 : ℝ) * 2 ^ 1) / 2 ^ 1 = 2
  have : ((2.25 : ℝ) * 2 ^ 1) = 4.5 := by norm_num
  rw [this]
  unfold truncR
  have h : ⌊(4.5 : ℝ)⌋ = 4 := by rw [Int.floor_eq_iff]; norm_num
  rw [if_pos (by norm_num), h]; norm_num

/-! ## 3. non-vacuity of 2a -/

/-- identity rounding, `H = 10`, `z = 13` ↦ `7` -/
example : 0 ≤ (Chemicals.reflect (⟨10⟩ : Rd exact) ⟨13⟩).val ∧
    (Chemicals.reflect (⟨10⟩ : Rd exact) ⟨13⟩).val ≤ 10 :=
  reflect_in_range_rd (R := exact) rfl ⟨10⟩ ⟨13⟩ rfl rfl (by norm_num) (by norm_num)

example : (Chemicals.reflect (⟨10⟩ : Rd exact) ⟨13⟩).val = 7 := by
  rw [reflect_val (R := exact) rfl ⟨10⟩ ⟨13⟩ rfl]
  show (if (10:ℝ) < 13 then (2 * 10 - |13| : ℝ) else _) = 7
  norm_num

/-- the non-identity rounding `toZero` (integers): `H = 10`, `z = 25/2` (not representable; allowed)
is reflected to `rnd (15/2) = 7 ∈ [0, 10]` -/
example : 0 ≤ (Chemicals.reflect (⟨10⟩ : Rd toZero) ⟨25 / 2⟩).val ∧
    (Chemicals.reflect (⟨10⟩ : Rd toZero) ⟨25 / 2⟩).val ≤ 10 :=
  reflect_in_range_rd (R := toZero) (by simpa using toZero_rep_int 2) ⟨10⟩ ⟨25 / 2⟩
    (by simpa using toZero_rep_int 10)
    (by show toZero.rep (2 * 10)
        rw [show (2 * 10 : ℝ) = ((20 : ℤ) : ℝ) by norm_num]; exact toZero_rep_int 20)
    (by norm_num) (by norm_num)

end C05R

