import LadimProofs.Basic
import LadimModel.Grid.ComputeW
/-!
# C14 — the diagnosed vertical velocity satisfies continuity
-/
open Ladim.ComputeW
set_option linter.unusedVariables false
set_option linter.unusedSectionVars false

namespace C14
variable {α : Type} [Field α] [LinearOrder α] [IsStrictOrderedRing α]

/-- pointwise linear combination of two velocity fields -/
def comb (a b : α) (u₁ u₂ : Nat → Int → Int → α) : Nat → Int → Int → α := fun k j i => a * u₁ k j i + b * u₂ k j i

theorem huon_linear (g : Grid α) (a b : α) (u₁ u₂ : Nat → Int → Int → α) (k : Nat) (j i : Int) :
    huon g (comb a b u₁ u₂) k j i = a * huon g u₁ k j i + b * huon g u₂ k j i := by
  unfold huon comb; lits; ring

theorem hvom_linear (g : Grid α) (a b : α) (v₁ v₂ : Nat → Int → Int → α) (k : Nat) (j i : Int) :
    hvom g (comb a b v₁ v₂) k j i = a * hvom g v₁ k j i + b * hvom g v₂ k j i := by
  unfold hvom comb; lits; ring

theorem dW_linear (g : Grid α) (a b : α) (u₁ u₂ v₁ v₂ : Nat → Int → Int → α) (k : Nat) (j i : Int) :
    dW g (comb a b u₁ u₂) (comb a b v₁ v₂) k j i = a * dW g u₁ v₁ k j i + b * dW g u₂ v₂ k j i := by
  unfold dW; simp only [huon_linear, hvom_linear]; ring

theorem wcum_linear (g : Grid α) (a b : α) (u₁ u₂ v₁ v₂ : Nat → Int → Int → α) (k : Nat) (j i : Int) :
    wcum g (comb a b u₁ u₂) (comb a b v₁ v₂) k j i = a * wcum g u₁ v₁ k j i + b * wcum g u₂ v₂ k j i := by
  induction k with
  | zero => simp only [wcum, dW_linear]; lits; ring
  | succ k ih =>
    cases k with
    | zero => simp only [wcum, dW_linear]
    | succ k' => simp only [wcum, dW_linear] at ih ⊢; rw [ih]; ring

theorem wscl_linear (g : Grid α) (a b : α) (u₁ u₂ v₁ v₂ : Nat → Int → Int → α) (k : Nat) (j i : Int) :
    wscl g (comb a b u₁ u₂) (comb a b v₁ v₂) k j i = a * wscl g u₁ v₁ k j i + b * wscl g u₂ v₂ k j i := by
  unfold wscl; simp only [wcum_linear]; ring

theorem vert_linear (g : Grid α) (a b : α) (u₁ u₂ v₁ v₂ : Nat → Int → Int → α) (k : Nat) (j i : Int) :
    vert g (comb a b u₁ u₂) (comb a b v₁ v₂) k j i = a * vert g u₁ v₁ k j i + b * vert g u₂ v₂ k j i := by
  unfold vert wrkU wrkV comb; ring

theorem vertW_linear (g : Grid α) (a b : α) (u₁ u₂ v₁ v₂ : Nat → Int → Int → α) (k : Nat) (j i : Int) :
    vertW g (comb a b u₁ u₂) (comb a b v₁ v₂) k j i = a * vertW g u₁ v₁ k j i + b * vertW g u₂ v₂ k j i := by
  unfold vertW
  -- the right side becomes one cascade on the same conditions; then branch by branch
  simp only [vert_linear, mul_ite, ite_add_ite]
  exact if_congr Iff.rfl (by ring) (if_congr Iff.rfl (by ring) (if_congr Iff.rfl (by ring)
    (if_congr Iff.rfl (by ring) (by ring))))

/-- the vertical velocity is linear in the horizontal currents — for arbitrary bathymetry, stretching
and metric coefficients -/
theorem w_linear (g : Grid α) (a b : α) (u₁ u₂ v₁ v₂ : Nat → Int → Int → α) (k : Nat) (j i : Int) :
    computeW g (comb a b u₁ u₂) (comb a b v₁ v₂) k j i = a * computeW g u₁ v₁ k j i + b * computeW g u₂ v₂ k j i := by
  unfold computeW; simp only [wscl_linear, vertW_linear]; lits; split_ifs <;> ring

/-- zero on the lateral boundary -/
theorem w_lateral_zero (g : Grid α) (u v : Nat → Int → Int → α) (k : Nat) (j i : Int)
    (h : ¬ (1 ≤ j ∧ j + 2 ≤ g.J ∧ 1 ≤ i ∧ i + 2 ≤ g.I)) : computeW g u v k j i = 0 := by
  unfold computeW; rw [if_neg h]; lits; simp

/-- cumulative flux as a sum: `W_k = Σ_{l<k} dW_l` -/
theorem wcum_eq_sum (g : Grid α) (u v : Nat → Int → Int → α) (k : Nat) (j i : Int) :
    wcum g u v k j i = ((List.range k).map (fun l => dW g u v l j i)).sum := by
  induction k with
  | zero => simp only [wcum]; lits; simp
  | succ k ih =>
    cases k with
    | zero => simp [wcum]
    | succ k' =>
      simp only [wcum] at ih ⊢
      rw [ih, List.range_succ (n := k' + 1), List.map_append, List.sum_append]
      simp

/-- flat bottom: the rho-level depths do not vary horizontally -/
def FlatBottom (g : Grid α) : Prop := ∀ k j i j' i', g.zr k j i = g.zr k j' i'

theorem vert_flat (g : Grid α) (hf : FlatBottom g) (u v : Nat → Int → Int → α) (k : Nat) (j i : Int) :
    vert g u v k j i = 0 := by
  unfold vert wrkU wrkV
  obtain ⟨z, hz⟩ : ∃ z, ∀ a b, g.zr k a b = z := ⟨g.zr k 0 0, fun a b => hf k a b 0 0⟩
  simp only [hz]
  ring

theorem vertW_flat (g : Grid α) (hf : FlatBottom g) (u v : Nat → Int → Int → α) (k : Nat) (j i : Int) :
    vertW g u v k j i = 0 := by
  unfold vertW; simp only [vert_flat g hf, sub_self, add_zero, mul_zero, ite_self]

/-- flat-bottom identity: the vertical velocity is minus `pm·pn` times the column-integrated net inflow of
the layer transports with the depth-uniform (free-surface) part removed — for any layer thicknesses
and any horizontally varying metric coefficients -/
theorem w_flat_identity (g : Grid α) (hf : FlatBottom g) (u v : Nat → Int → Int → α) (k : Nat) (j i : Int)
    (hin : 1 ≤ j ∧ j + 2 ≤ g.J ∧ 1 ≤ i ∧ i + 2 ≤ g.I) :
    computeW g u v k j i =
      -(g.pm j i * g.pn j i) * (wcum g u v k j i -
        (g.zw k j i - g.zw 0 j i) / (g.zw g.K j i - g.zw 0 j i) * wcum g u v g.K j i) := by
  unfold computeW; rw [if_pos hin, vertW_flat g hf]; unfold wscl; ring

/-- zero at the bed … -/
theorem w_bed_zero_flat (g : Grid α) (hf : FlatBottom g) (u v : Nat → Int → Int → α) (j i : Int)
    (hin : 1 ≤ j ∧ j + 2 ≤ g.J ∧ 1 ≤ i ∧ i + 2 ≤ g.I) : computeW g u v 0 j i = 0 := by
  rw [w_flat_identity g hf u v 0 j i hin]
  simp only [wcum]; lits; ring

/-- … and at the surface (the free-surface part is removed exactly) -/
theorem w_surface_zero_flat (g : Grid α) (hf : FlatBottom g) (u v : Nat → Int → Int → α) (j i : Int)
    (hin : 1 ≤ j ∧ j + 2 ≤ g.J ∧ 1 ≤ i ∧ i + 2 ≤ g.I) (hD : g.zw g.K j i - g.zw 0 j i ≠ 0) :
    computeW g u v g.K j i = 0 := by
  rw [w_flat_identity g hf u v g.K j i hin, div_self hD]; ring

/-- a flow whose layer transports are horizontally non-divergent over a flat bottom has no vertical
velocity -/
theorem w_zero_nondivergent (g : Grid α) (hf : FlatBottom g) (u v : Nat → Int → Int → α) (k : Nat) (j i : Int)
    (hin : 1 ≤ j ∧ j + 2 ≤ g.J ∧ 1 ≤ i ∧ i + 2 ≤ g.I) (hnd : ∀ l, dW g u v l j i = 0) :
    computeW g u v k j i = 0 := by
  rw [w_flat_identity g hf u v k j i hin, wcum_eq_sum, wcum_eq_sum]
  simp [hnd]

/-- positive (downward) under surface convergence: no net column inflow (rigid lid) and net outflow
below level `k` (so net inflow above it) -/
theorem w_positive_surface_convergence (g : Grid α) (hf : FlatBottom g) (u v : Nat → Int → Int → α) (k : Nat)
    (j i : Int) (hin : 1 ≤ j ∧ j + 2 ≤ g.J ∧ 1 ≤ i ∧ i + 2 ≤ g.I)
    (hpm : 0 < g.pm j i) (hpn : 0 < g.pn j i)
    (htot : wcum g u v g.K j i = 0) (hbelow : wcum g u v k j i < 0) :
    0 < computeW g u v k j i := by
  rw [w_flat_identity g hf u v k j i hin, htot, mul_zero, sub_zero]
  exact mul_pos_of_neg_of_neg (neg_neg_of_pos (mul_pos hpm hpn)) hbelow

/-- the net inflow `dW` is minus the divergence of the layer transports `Hz·u/pn`, `Hz·v/pm` -/
theorem dW_is_minus_divergence (g : Grid α) (u v : Nat → Int → Int → α) (k : Nat) (j i : Int) :
    dW g u v k j i = -((huon g u k j i - huon g u k j (i - 1)) + (hvom g v k j i - hvom g v k (j - 1) i)) := by
  unfold dW; ring

end C14
