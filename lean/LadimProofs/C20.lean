import LadimProofs.Laws
import LadimProofs.C05
import LadimModel.IBM.Chemicals
import LadimModel.IBM.Sedimentation
import LadimModel.IBM.Bio
/-!
# C20 — vertical random walks keep a well-mixed tracer well-mixed (variance 2 K dt)

Exact part (constant diffusivity, two reflecting boundaries): for a step `d` with `0 < d < H` the two
maps `T₊ z = reflect H (z + d)` and `T₋ z = reflect H (z − d)` are piecewise isometries of `[0,H]`,
and every interior target depth has exactly two preimages under the pair (`preimages_count`).  Hence
any step distribution symmetric in `±d` with `d < H` leaves the uniform density invariant.  (The last
step, "piecewise isometry with constant preimage count ⇒ Lebesgue measure invariant", is textbook
measure theory and is *not* formalised; it is named in the trusted base.)

The depth-varying (LaBolle) case holds only "within the scheme's accuracy": it is decided
statistically on the implementation by `harness/c20.py`; the theorems here pin the scheme
(`labolle_const_reduces`, `substeps_cover`, `sampleK_capped`).
-/
open Ladim
set_option linter.unusedSectionVars false
set_option linter.unusedVariables false

namespace C20
variable {α : Type} [Field α] [LinearOrder α] [IsStrictOrderedRing α]

section reflect
open Ladim.Chemicals
variable [HasSqrt α] [HasFloor α] [HasRound α]

/-- below the surface only the bed reflects -/
theorem reflect_of_nonneg (H w : α) (hw : 0 ≤ w) : reflect H w = if H < w then 2 * H - w else w := by
  simp only [reflect, C05.mirror_eq_abs, abs_of_nonneg hw, lit_2]

/-- above the bed only the surface reflects -/
theorem reflect_of_le (H w : α) (hw : w ≤ H) : reflect H w = |w| := by
  simp only [reflect, C05.mirror_eq_abs, if_neg (not_lt.mpr hw)]

/-- explicit form of `reflect H (z + d)` for `z ≥ 0`, `d ≥ 0` -/
theorem Tplus_eq (H d z : α) (hd0 : 0 ≤ d) (hz0 : 0 ≤ z) :
    reflect H (z + d) = if H < z + d then 2 * H - (z + d) else z + d :=
  reflect_of_nonneg H _ (add_nonneg hz0 hd0)

/-- explicit form of `reflect H (z − d)` for `z ≤ H`, `d ≥ 0` -/
theorem Tminus_eq (H d z : α) (hd0 : 0 ≤ d) (hz1 : z ≤ H) :
    reflect H (z - d) = if z - d < 0 then d - z else z - d := by
  rw [reflect_of_le H _ ((sub_le_self z hd0).trans hz1)]
  split_ifs with h
  · rw [abs_of_neg h, neg_sub]
  · exact abs_of_nonneg (not_lt.mp h)

theorem mem_ite_singleton {c : Prop} [Decidable c] {a z : α} : z ∈ (if c then [a] else []) ↔ c ∧ z = a := by
  split_ifs with h <;> simp [h]

/-- preimages of `z'` under `T₊ z = reflect H (z + d)` inside `[0,H]` -/
def preimagesPlus (H d z' : α) : List α :=
  (if d ≤ z' then [z' - d] else []) ++ (if H - d ≤ z' then [2 * H - d - z'] else [])
/-- preimages of `z'` under `T₋ z = reflect H (z − d)` inside `[0,H]` -/
def preimagesMinus (H d z' : α) : List α :=
  (if z' ≤ d then [d - z'] else []) ++ (if z' ≤ H - d then [z' + d] else [])

/-- `preimagesPlus` is exactly the preimage set of `T₊` in `[0,H]` -/
theorem mem_preimagesPlus (H d z z' : α) (hd0 : 0 < d) (hd1 : d < H) (h0 : 0 < z') (h1 : z' < H) :
    (0 ≤ z ∧ z ≤ H ∧ reflect H (z + d) = z') ↔ z ∈ preimagesPlus H d z' := by
  rw [preimagesPlus, List.mem_append, mem_ite_singleton, mem_ite_singleton]
  constructor
  · rintro ⟨hz0, hz1, he⟩
    rw [Tplus_eq H d z hd0.le hz0] at he
    split_ifs at he with hb
    · exact Or.inr ⟨by linarith, by linarith⟩
    · exact Or.inl ⟨he ▸ le_add_of_nonneg_left hz0, eq_sub_of_add_eq he⟩
  · rintro (⟨hc, rfl⟩ | ⟨hc, rfl⟩)
    · refine ⟨sub_nonneg.mpr hc, (sub_le_self _ hd0.le).trans h1.le, ?_⟩
      rw [sub_add_cancel, reflect_of_nonneg H _ h0.le, if_neg (not_lt.mpr h1.le)]
    · refine ⟨by linarith, by linarith, ?_⟩
      rw [show 2 * H - d - z' + d = 2 * H - z' by ring, reflect_of_nonneg H _ (by linarith),
        if_pos (by linarith), sub_sub_cancel]

/-- `preimagesMinus` is exactly the preimage set of `T₋` in `[0,H]` -/
theorem mem_preimagesMinus (H d z z' : α) (hd0 : 0 < d) (hd1 : d < H) (h0 : 0 < z') (h1 : z' < H) :
    (0 ≤ z ∧ z ≤ H ∧ reflect H (z - d) = z') ↔ z ∈ preimagesMinus H d z' := by
  rw [preimagesMinus, List.mem_append, mem_ite_singleton, mem_ite_singleton]
  constructor
  · rintro ⟨hz0, hz1, he⟩
    rw [reflect_of_le H _ ((sub_le_self z hd0.le).trans hz1), abs_eq h0.le] at he
    rcases he with he | he
    · exact Or.inr ⟨he ▸ sub_le_sub_right hz1 d, sub_eq_iff_eq_add.mp he⟩
    · exact Or.inl ⟨by linarith, by linarith⟩
  · rintro (⟨hc, rfl⟩ | ⟨hc, rfl⟩)
    · refine ⟨sub_nonneg.mpr hc, (sub_le_self d h0.le).trans hd1.le, ?_⟩
      rw [sub_sub_cancel_left, reflect_of_le H _ ((neg_nonpos.mpr h0.le).trans (hd0.le.trans hd1.le)), abs_neg,
        abs_of_pos h0]
    · refine ⟨add_nonneg h0.le hd0.le, le_sub_iff_add_le.mp hc, ?_⟩
      rw [add_sub_cancel_right, reflect_of_le H _ h1.le, abs_of_pos h0]

/-- every interior target depth off the two kink images (`d`, `H − d`) has exactly two preimages under the
symmetric pair `T₊, T₋`: no accumulation anywhere, in particular not at the surface or the bed. -/
theorem preimages_count (H d z' : α) (hd0 : 0 < d) (hd1 : d < H) (h0 : 0 < z') (h1 : z' < H)
    (hk1 : z' ≠ d) (hk2 : z' ≠ H - d) :
    (preimagesPlus H d z').length + (preimagesMinus H d z').length = 2 := by
  unfold preimagesPlus preimagesMinus
  rcases lt_or_gt_of_ne hk1 with ha | ha <;> rcases lt_or_gt_of_ne hk2 with hb | hb
  · rw [if_neg (not_le.mpr ha), if_neg (not_le.mpr hb), if_pos ha.le, if_pos hb.le]; rfl
  · rw [if_neg (not_le.mpr ha), if_pos hb.le, if_pos ha.le, if_neg (not_le.mpr hb)]; rfl
  · rw [if_pos ha.le, if_neg (not_le.mpr hb), if_neg (not_le.mpr ha), if_pos hb.le]; rfl
  · rw [if_pos ha.le, if_pos hb.le, if_neg (not_le.mpr ha), if_neg (not_le.mpr hb)]; rfl

theorem preimagesPlus_nodup (H d z' : α) (hd0 : 0 < d) (h1 : z' < H) : (preimagesPlus H d z').Nodup := by
  unfold preimagesPlus
  split_ifs <;> simp
  intro h; linarith

theorem preimagesMinus_nodup (H d z' : α) (hd0 : 0 < d) (h0 : 0 < z') : (preimagesMinus H d z').Nodup := by
  unfold preimagesMinus
  split_ifs <;> simp
  intro h; linarith

/-- each branch is an isometry (slope ±1): distances are preserved within a branch -/
theorem Tplus_isometry (H d z₁ z₂ : α) (hd0 : 0 ≤ d) (h₁ : 0 ≤ z₁) (h₂ : 0 ≤ z₂)
    (hb : (H < z₁ + d) ↔ (H < z₂ + d)) :
    |reflect H (z₁ + d) - reflect H (z₂ + d)| = |z₁ - z₂| := by
  rw [Tplus_eq H d z₁ hd0 h₁, Tplus_eq H d z₂ hd0 h₂]
  by_cases h : H < z₁ + d
  · simp only [h, hb.mp h, if_true]
    rw [show 2 * H - (z₁ + d) - (2 * H - (z₂ + d)) = -(z₁ - z₂) by ring, abs_neg]
  · simp only [h, mt hb.mpr h, if_false]
    congr 1; ring

/-- a *clamp* instead of a reflection piles particles up on the boundary: the whole interval
`[H − d, H]` is mapped to the single depth `H` -/
theorem clamp_piles_up (H d z : α) (hd0 : 0 ≤ d) (hz : H - d ≤ z) : min (z + d) H = H := by
  apply min_eq_right; linarith

end reflect

/-! ## variance of one step -/
section variance
variable [HasSqrt α]

theorem sq_mul_sqrt (hS : SqrtLaws α) (a x : α) (ha : 0 ≤ a) : (x * sqrt a) ^ 2 = a * x ^ 2 := by
  rw [mul_pow, sq (sqrt a), hS.sqrt_sq a ha, mul_comm]

/-- chemicals: displacement `√(2K) · ((2u−1) · √(3dt))` has square `2·K·dt · 3(2u−1)²`;
`E[3(2u−1)²] = 1` for uniform `u` (`uniform_second_moment`) -/
theorem uniform_step_sq (hS : SqrtLaws α) (K dt u : α) (hK : 0 ≤ K) (hdt : 0 ≤ dt) :
    (sqrt (2.0 * K) * Chemicals.uniformDW u dt) ^ 2 = 2 * K * dt * (3 * (2 * u - 1) ^ 2) := by
  rw [Chemicals.uniformDW, mul_comm (sqrt _), sq_mul_sqrt hS _ _ (mul_nonneg (by norm_num) hK),
    sq_mul_sqrt hS _ _ (mul_nonneg (by norm_num) hdt)]
  lits
  ring

/-- `P(u) = (2u−1)³/6` is an antiderivative of `(2u−1)²` (exact difference identity) and
`P(1) − P(0) = 1/3`: the second moment of `2u−1`, `u` uniform on `[0,1)`, is `1/3`. -/
theorem uniform_second_moment :
    (∀ u h : α, (2 * (u + h) - 1) ^ 3 / 6 - (2 * u - 1) ^ 3 / 6
        = h * (2 * u - 1) ^ 2 + 2 * h ^ 2 * (2 * u - 1) + 4 / 3 * h ^ 3) ∧
    ((2 * (1 : α) - 1) ^ 3 / 6 - (2 * (0 : α) - 1) ^ 3 / 6 = 1 / 3) := by
  constructor
  · intro u h; ring
  · norm_num

/-- normal-draw schemes (sedimentation, mine, sand eel, eel, shrimp): `(√(2K)·(ξ·√dt))² = 2·K·dt·ξ²` -/
theorem normal_step_sq (hS : SqrtLaws α) (K dt xi : α) (hK : 0 ≤ K) (hdt : 0 ≤ dt) :
    (sqrt (2.0 * K) * (xi * sqrt dt)) ^ 2 = 2 * K * dt * xi ^ 2 := by
  rw [mul_comm (sqrt _), sq_mul_sqrt hS _ _ (mul_nonneg (by norm_num) hK), sq_mul_sqrt hS _ _ hdt, lit_2]
  ring

/-- single-root form `ξ·√(2·K·dt)` (sand eel, eel, shrimp) -/
theorem normal_step_sq_single (hS : SqrtLaws α) (K dt xi : α) (h : 0 ≤ 2.0 * K * dt) :
    (xi * sqrt (2.0 * K * dt)) ^ 2 = 2 * K * dt * xi ^ 2 := by
  rw [sq_mul_sqrt hS _ _ h, lit_2]

/-- velocity form (egg, lice, larvae): `(ξ·√(2D/dt)·dt)² = 2·D·dt·ξ²` -/
theorem velocity_step_sq (hS : SqrtLaws α) (D dt xi : α) (hD : 0 ≤ D) (hdt : 0 < dt) :
    (xi * sqrt (2.0 * D / dt) * dt) ^ 2 = 2 * D * dt * xi ^ 2 := by
  rw [mul_pow, sq_mul_sqrt hS _ _ (div_nonneg (mul_nonneg (by norm_num) hD) hdt.le), lit_2]
  field_simp

end variance

/-! ## the LaBolle scheme -/
section labolle
open Ladim.Chemicals
variable [HasSqrt α] [HasFloor α] [HasRound α]

/-- for a constant diffusivity the LaBolle sub-step *is* the constant-diffusivity step (so the exact
invariance result applies to it) -/
theorem labolle_const_reduces (k vmax dz H ddt u z : α) :
    labolleSub (fun _ => k) vmax dz H ddt u z
      = reflect H (z + sqrt (2.0 * fmin k vmax) * uniformDW u ddt) := by
  unfold labolleSub; rfl

/-- the diffusivity actually used never exceeds the configured cap -/
theorem sampleK_capped (k vmax : α) : fmin k vmax ≤ vmax :=
  fmin_eq_min k vmax ▸ min_le_right k vmax

/-- the sub-steps cover the time step exactly and none is longer than `vertdiff_dt` -/
theorem substeps_cover (dt vdt : α) (hv : 0 < vdt) :
    ∀ (fuel : Nat) (cur : α), cur ≤ dt → dt - cur ≤ fuel * vdt →
      (substeps dt vdt fuel cur).sum = dt - cur ∧
      ∀ d ∈ substeps dt vdt fuel cur, 0 < d ∧ d ≤ vdt := by
  intro fuel
  induction fuel with
  | zero =>
    intro cur h1 h2
    simp at h2
    have : cur = dt := le_antisymm h1 (by linarith)
    simp [substeps, this]
  | succ n ih =>
    intro cur h1 h2
    unfold substeps
    by_cases hc : cur < dt
    · simp only [hc, if_true, fmin_eq_min]
      have hgt : cur < min dt (cur + vdt) := lt_min hc (lt_add_of_pos_right _ hv)
      have hrest : dt - min dt (cur + vdt) ≤ n * vdt := by
        push_cast at h2
        rcases le_total dt (cur + vdt) with h | h
        · rw [min_eq_left h, sub_self]
          exact mul_nonneg (Nat.cast_nonneg n) hv.le
        · rw [min_eq_right h]
          linarith
      obtain ⟨hs, hall⟩ := ih _ (min_le_left _ _) hrest
      refine ⟨by simp only [List.sum_cons, hs]; ring, fun d hd => ?_⟩
      rcases List.mem_cons.mp hd with rfl | hd
      · exact ⟨sub_pos.mpr hgt, sub_le_iff_le_add'.mpr (min_le_right _ _)⟩
      · exact hall d hd
    · have : cur = dt := le_antisymm h1 (not_lt.mp hc)
      simp [this]

/-- coarse sampling depth: at least a quarter cell below the surface -/
theorem zCoarse_ge (dz zz : α) (hdz : 0 < dz) : 0.25 * dz ≤ zCoarse dz zz := by
  rw [zCoarse, if_pos (Or.inr (lit_0.trans_lt hdz)), fmax_eq_max]
  exact le_max_left _ _

/-- … and, with the floor law, within half a sampling distance of the true depth -/
theorem zCoarse_near (hF : ∀ x : α, floor x ≤ x ∧ x < floor x + 1) (dz zz : α) (hdz : 0 < dz)
    (hq : 0.25 * dz ≤ floor ((zz - 0.5 * dz) / dz) * dz + dz) :
    zz - 0.5 * dz < zCoarse dz zz ∧ zCoarse dz zz ≤ zz + 0.5 * dz := by
  rw [zCoarse, if_pos (Or.inr (lit_0.trans_lt hdz)), fmax_eq_max, max_eq_right hq]
  obtain ⟨h1, h2⟩ := hF ((zz - 0.5 * dz) / dz)
  have e : (zz - 0.5 * dz) / dz * dz = zz - 0.5 * dz := div_mul_cancel₀ _ hdz.ne'
  have a1 := mul_lt_mul_of_pos_right h2 hdz
  have a2 := mul_le_mul_of_nonneg_right h1 hdz.le
  rw [e] at a1 a2
  refine ⟨by rwa [add_mul, one_mul] at a1, ?_⟩
  calc _ ≤ zz - 0.5 * dz + dz := add_le_add_left a2 dz
    _ = zz + 0.5 * dz := by ring

end labolle

/-- non-vacuity: a concrete interior target with its two preimages (H = 10, d = 3, z' = 5):
`T₊ 2 = 5` and `T₋ 8 = 5` -/
example : preimagesPlus (10 : ℚ) 3 5 = [2] ∧ preimagesMinus (10 : ℚ) 3 5 = [8] := by
  unfold preimagesPlus preimagesMinus; norm_num

end C20
