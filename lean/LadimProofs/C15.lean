import LadimProofs.Basic
import LadimModel.Grid.Sample
/-!
# C15 — grid sampling: exact at nodes, bounded by neighbours, total at the domain edge
-/
open Ladim Ladim.GridSample
set_option linter.unusedVariables false
set_option linter.unusedSectionVars false

namespace C15

/-! ## cell indices are total: inside the array for *every* position, the nearest edge cell outside -/

theorem clampIdx_range (n : Nat) (i : Int) (hn : 0 < n) : 0 ≤ clampIdx n i ∧ clampIdx n i < n := by
  unfold clampIdx; omega

theorem clampIdx_inside (n : Nat) (i : Int) (h0 : 0 ≤ i) (h1 : i < n) : clampIdx n i = i := by
  unfold clampIdx; omega

/-- west / south of the array: the first cell; east / north: the last cell — whatever the distance -/
theorem clampIdx_edges (n : Nat) (i : Int) (hn : 0 < n) :
    (i < 0 → clampIdx n i = 0) ∧ ((n : Int) ≤ i → clampIdx n i = n - 1) := by
  unfold clampIdx; constructor <;> intro h <;> omega

/-- the clamped index is the in-array index nearest to the requested one -/
theorem clampIdx_nearest (n : Nat) (i k : Int) (hn : 0 < n) (hk0 : 0 ≤ k) (hk1 : k < n) :
    |clampIdx n i - i| ≤ |k - i| := by
  unfold clampIdx
  rcases lt_trichotomy i 0 with h | h | h
  · have : min (max i 0) ((n : Int) - 1) = 0 := by omega
    rw [this, abs_of_nonneg (by omega), abs_of_nonneg (by omega)]; omega
  · subst h
    have : min (max (0 : Int) 0) ((n : Int) - 1) = 0 := by omega
    rw [this]; simp
  · by_cases h2 : i < n
    · have : min (max i 0) ((n : Int) - 1) = i := by omega
      rw [this]; simp
    · have : min (max i 0) ((n : Int) - 1) = n - 1 := by omega
      rw [this, abs_of_nonpos (by omega), abs_of_nonpos (by omega)]; omega

/-- the *unclamped* index (the code before the `fix:` commit) wraps around to the opposite side one
cell west / south of the array … -/
theorem raw_wraps_fails : rawIdx 6 (-1) = some 5 := by decide

/-- … and raises one cell east / north of it -/
theorem raw_raises_fails : rawIdx 6 6 = none := by decide

theorem raw_agrees_inside (n : Nat) (i : Int) (h0 : 0 ≤ i) (h1 : i < n) : rawIdx n i = some (clampIdx n i) := by
  unfold rawIdx; rw [if_pos ⟨h0, h1⟩, clampIdx_inside n i h0 h1]

section real
variable {α : Type} [Field α] [LinearOrder α] [IsStrictOrderedRing α]

/-! ## bilinear bathymetry -/

theorem bilinear_at_node (h00 h01 h10 h11 : α) :
    bilinear 0 0 h00 h01 h10 h11 = h00 ∧ bilinear 1 0 h00 h01 h10 h11 = h01 ∧
    bilinear 0 1 h00 h01 h10 h11 = h10 ∧ bilinear 1 1 h00 h01 h10 h11 = h11 := by
  unfold bilinear; lits; refine ⟨by ring, by ring, by ring, by ring⟩

/-- elsewhere the value lies between the four surrounding depths -/
theorem bilinear_between (p q h00 h01 h10 h11 lo hi : α) (hp0 : 0 ≤ p) (hp1 : p ≤ 1) (hq0 : 0 ≤ q) (hq1 : q ≤ 1)
    (h1 : lo ≤ h00 ∧ h00 ≤ hi) (h2 : lo ≤ h01 ∧ h01 ≤ hi) (h3 : lo ≤ h10 ∧ h10 ≤ hi) (h4 : lo ≤ h11 ∧ h11 ≤ hi) :
    lo ≤ bilinear p q h00 h01 h10 h11 ∧ bilinear p q h00 h01 h10 h11 ≤ hi := by
  unfold bilinear; rw [lit_1]
  exact convex2_mem hq0 hq1 (convex2_mem hp0 hp1 h1 h2) (convex2_mem hp0 hp1 h3 h4)

/-! ## sampled 3-D fields are convex combinations of the surrounding grid values -/

/-- the eight trilinear weights are non-negative and sum to one … -/
theorem trilinear_weights (P Q A : α) (hP0 : 0 ≤ P) (hP1 : P ≤ 1) (hQ0 : 0 ≤ Q) (hQ1 : Q ≤ 1) (hA0 : 0 ≤ A) (hA1 : A ≤ 1) :
    (1 - P) * (1 - Q) * (1 - A) + (1 - P) * Q * (1 - A) + P * (1 - Q) * (1 - A) + P * Q * (1 - A)
      + (1 - P) * (1 - Q) * A + (1 - P) * Q * A + P * (1 - Q) * A + P * Q * A = 1 ∧
    0 ≤ (1 - P) * (1 - Q) * (1 - A) ∧ 0 ≤ (1 - P) * Q * (1 - A) ∧ 0 ≤ P * (1 - Q) * (1 - A) ∧ 0 ≤ P * Q * (1 - A) ∧
    0 ≤ (1 - P) * (1 - Q) * A ∧ 0 ≤ (1 - P) * Q * A ∧ 0 ≤ P * (1 - Q) * A ∧ 0 ≤ P * Q * A := by
  have p' := sub_nonneg.mpr hP1; have q' := sub_nonneg.mpr hQ1; have a' := sub_nonneg.mpr hA1
  have m : ∀ {a b c : α}, 0 ≤ a → 0 ≤ b → 0 ≤ c → 0 ≤ a * b * c := fun ha hb hc => mul_nonneg (mul_nonneg ha hb) hc
  exact ⟨by ring, m p' q' a', m p' hQ0 a', m hP0 q' a', m hP0 hQ0 a', m p' q' hA0, m p' hQ0 hA0, m hP0 q' hA0,
    m hP0 hQ0 hA0⟩

/-- … and the sampled value lies between the smallest and the largest of the eight: it is a two-point convex
combination in `A` of two in `P` of two in `Q` -/
theorem sample3D_convex (P Q A lo hi : α) (f : Fin 8 → α)
    (hP0 : 0 ≤ P) (hP1 : P ≤ 1) (hQ0 : 0 ≤ Q) (hQ1 : Q ≤ 1) (hA0 : 0 ≤ A) (hA1 : A ≤ 1)
    (hf : ∀ i, lo ≤ f i ∧ f i ≤ hi) :
    lo ≤ trilinear P Q A (f 0) (f 1) (f 2) (f 3) (f 4) (f 5) (f 6) (f 7) ∧
    trilinear P Q A (f 0) (f 1) (f 2) (f 3) (f 4) (f 5) (f 6) (f 7) ≤ hi := by
  have e : trilinear P Q A (f 0) (f 1) (f 2) (f 3) (f 4) (f 5) (f 6) (f 7) =
      (1 - A) * ((1 - P) * ((1 - Q) * f 0 + Q * f 1) + P * ((1 - Q) * f 2 + Q * f 3))
        + A * ((1 - P) * ((1 - Q) * f 4 + Q * f 5) + P * ((1 - Q) * f 6 + Q * f 7)) := by
    unfold trilinear; rw [lit_1]; ring
  rw [e]
  exact convex2_mem hA0 hA1
    (convex2_mem hP0 hP1 (convex2_mem hQ0 hQ1 (hf 0) (hf 1)) (convex2_mem hQ0 hQ1 (hf 2) (hf 3)))
    (convex2_mem hP0 hP1 (convex2_mem hQ0 hQ1 (hf 4) (hf 5)) (convex2_mem hQ0 hQ1 (hf 6) (hf 7)))

/-- with weight `A = 1` (as `Forcing.velocity` sets it) the sample is the bilinear value of layer `K-1`
alone: the current of the layer that contains the particle -/
theorem velocity_is_layer_value (P Q : α) (f000 f010 f100 f110 f001 f011 f101 f111 : α) :
    trilinear P Q 1 f000 f010 f100 f110 f001 f011 f101 f111 =
      (1 - P) * (1 - Q) * f001 + (1 - P) * Q * f011 + P * (1 - Q) * f101 + P * Q * f111 := by
  unfold trilinear; lits; ring

/-! ## vertical level search -/

theorem z2sK_range (col : List α) (z : α) (h : 2 ≤ col.length) : 1 ≤ z2sK col z ∧ z2sK col z ≤ col.length - 1 := by
  unfold z2sK; omega

theorem z2sA_unit (col : List α) (z zero : α) : 0 ≤ z2sA col z zero ∧ z2sA col z zero ≤ 1 := by
  unfold z2sA; rw [lit_0, lit_1]
  exact clip_mem _ zero_le_one

/-- for a strictly increasing column the number of levels below `-z` brackets the particle:
`col[c-1] < -z ≤ col[c]` -/
theorem countBelow_brackets (col : List α) (z : α) (hs : List.Pairwise (· < ·) col) :
    (∀ k (hk : k < col.length), k < countBelow col z → col[k] < -z) ∧
    (∀ k (hk : k < col.length), countBelow col z ≤ k → ¬ col[k] < -z) := by
  unfold countBelow
  induction col with
  | nil => simp
  | cons c cs ih =>
    rw [List.pairwise_cons] at hs
    obtain ⟨ih1, ih2⟩ := ih hs.2
    by_cases hc : c < -z
    · simp only [List.filter_cons, hc, decide_true, if_true, List.length_cons]
      constructor
      · intro k hk hlt
        cases k with
        | zero => simpa using hc
        | succ k => simpa using ih1 k (by simpa using hk) (by omega)
      · intro k hk hle
        cases k with
        | zero => omega
        | succ k => simpa using ih2 k (by simpa using hk) (by omega)
    · -- c ≥ -z: then nothing above is below either
      have hnone : cs.filter (fun x => decide (x < -z)) = [] := by
        rw [List.filter_eq_nil_iff]
        intro x hx
        have := hs.1 x hx
        simp only [decide_eq_true_eq, not_lt]
        linarith [not_lt.mp hc]
      have e : (c :: cs).filter (fun x => decide (x < -z)) = [] := by
        rw [List.filter_cons_of_neg (by simpa using hc), hnone]
      rw [e]
      constructor
      · intro k hk hlt; simp at hlt
      · intro k hk _
        cases k with
        | zero => simpa using hc
        | succ k =>
          have hk' : k < cs.length := by simpa using hk
          have := hs.1 cs[k] (List.getElem_mem hk')
          simp only [List.getElem_cons_succ, not_lt]
          linarith [not_lt.mp hc]

/-- inside the column (`col[0] < -z ≤ col[last]`) the interpolation weight reproduces the depth:
`A·col[K-1] + (1-A)·col[K] = -z` with `A ∈ [0,1]` -/
theorem z2s_reproduces_depth (lo hi z : α) (h1 : lo < -z) (h2 : -z ≤ hi) :
    let a := (hi + z) / (hi - lo)
    0 ≤ a ∧ a ≤ 1 ∧ a * lo + (1 - a) * hi = -z := by
  have hd : 0 < hi - lo := by linarith
  refine ⟨div_nonneg (by linarith) hd.le, by rw [div_le_one hd]; linarith, ?_⟩
  field_simp
  ring

/-! ## diffusivities -/

theorem vertdiffLevel_interior [HasRound α] [HasTrunc α] [HasOfInt α] (nw K : Nat) (A : α) (h : 3 ≤ nw) :
    1 ≤ vertdiffLevel nw K A ∧ vertdiffLevel nw K A ≤ (nw : Int) - 2 := by
  unfold vertdiffLevel; omega

theorem vertdiff_nonneg (f : α) : 0 ≤ vertdiffValue f := by
  unfold vertdiffValue; rw [fmax_eq_max, lit_0]
  exact le_max_left _ _

theorem horzdiff_nonneg (dx dudy dvdx : α) (s : Bool) (hdx : 0 ≤ dx) : 0 ≤ horzdiffValue dx dudy dvdx s := by
  unfold horzdiffValue
  split_ifs
  · rw [fabs_eq_abs]
    exact mul_nonneg (mul_nonneg (by norm_num) hdx) (abs_nonneg _)
  · rw [lit_0]

theorem horzdiff_zero_on_land (dx dudy dvdx : α) : horzdiffValue dx dudy dvdx false = 0 := by
  unfold horzdiffValue; lits; simp

end real

/-- non-vacuity -/
example : clampIdx 6 (-3) = 0 ∧ clampIdx 6 9 = 5 ∧ clampIdx 6 2 = 2 := by decide

end C15
