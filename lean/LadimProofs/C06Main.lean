import LadimProofs.C06
open Ladim Ladim.Roms
namespace C06
variable {α : Type} [Field α] [LinearOrder α] [IsStrictOrderedRing α]

omit [LinearOrder α] [IsStrictOrderedRing α] in
@[simp] theorem ofInt_eq (i : Int) : (ofInt i : α) = (i : α) := rfl

/-- the forcing steps are strictly increasing -/
abbrev Sorted (steps : List Int) : Prop := List.Pairwise (· < ·) steps

/-! ## 1. `nextStep` -/

theorem nextStep_spec : ∀ (steps : List Int), Sorted steps → ∀ n n', nextStep steps n = some n' →
    n ∈ steps ∧ n' ∈ steps ∧ n < n' ∧ ∀ x ∈ steps, ¬ (n < x ∧ x < n')
  | [], _, n, n', h => by simp [nextStep] at h
  | [a], _, n, n', h => by simp [nextStep] at h
  | a :: b :: rest, hs, n, n', h => by
    have hs' : Sorted (b :: rest) := (List.pairwise_cons.mp hs).2
    have hab : ∀ x ∈ b :: rest, a < x := (List.pairwise_cons.mp hs).1
    have hb : ∀ x ∈ rest, b < x := (List.pairwise_cons.mp hs').1
    unfold nextStep at h
    split_ifs at h with han
    · subst han
      cases h
      refine ⟨by simp, by simp, hab _ (by simp), ?_⟩
      intro x hx ⟨h1, h2⟩
      rcases List.mem_cons.mp hx with rfl | hx
      · omega
      · rcases List.mem_cons.mp hx with rfl | hx
        · omega
        · have := hb x hx; omega
    · obtain ⟨h1, h2, h3, h4⟩ := nextStep_spec (b :: rest) hs' n n' h
      refine ⟨List.mem_cons_of_mem _ h1, List.mem_cons_of_mem _ h2, h3, ?_⟩
      intro x hx ⟨h5, h6⟩
      rcases List.mem_cons.mp hx with rfl | hx
      · have := hab n h1; omega
      · exact h4 x hx ⟨h5, h6⟩

/-- a forcing step that is not the last one has a successor -/
theorem nextStep_of_mem : ∀ (steps : List Int), Sorted steps → ∀ n, n ∈ steps → (∃ m ∈ steps, n < m) →
    ∃ n', nextStep steps n = some n'
  | [], _, n, h, _ => by simp at h
  | [a], _, n, h, ⟨m, hm, hnm⟩ => by
    simp at h hm; omega
  | a :: b :: rest, hs, n, h, ⟨m, hm, hnm⟩ => by
    have hs' : Sorted (b :: rest) := (List.pairwise_cons.mp hs).2
    have hab : ∀ x ∈ b :: rest, a < x := (List.pairwise_cons.mp hs).1
    unfold nextStep
    split_ifs with han
    · exact ⟨b, rfl⟩
    · have hn : n ∈ b :: rest := by
        rcases List.mem_cons.mp h with rfl | h
        · exact absurd rfl han
        · exact h
      have hm' : m ∈ b :: rest := by
        rcases List.mem_cons.mp hm with rfl | hm
        · have := hab n hn; omega
        · exact hm
      exact nextStep_of_mem (b :: rest) hs' n hn ⟨m, hm', hnm⟩

/-- the same with "not the last element" spelled with `getLast?` -/
theorem nextStep_of_mem_not_last (steps : List Int) (hs : Sorted steps) (n : Int) (h : n ∈ steps)
    (hl : steps.getLast? ≠ some n) : ∃ n', nextStep steps n = some n' := by
  apply nextStep_of_mem steps hs n h
  induction steps with
  | nil => simp at h
  | cons a rest ih =>
    cases rest with
    | nil => simp at h hl; omega
    | cons b rest =>
      have hs' : Sorted (b :: rest) := (List.pairwise_cons.mp hs).2
      have hab : ∀ x ∈ b :: rest, a < x := (List.pairwise_cons.mp hs).1
      rcases List.mem_cons.mp h with rfl | h
      · exact ⟨b, by simp, hab b (by simp)⟩
      · rw [List.getLast?_cons_cons] at hl
        obtain ⟨m, hm, hnm⟩ := ih hs' h hl
        exact ⟨m, List.mem_cons_of_mem _ hm, hnm⟩

/-- every forcing step that is not the first one is the successor of a forcing step -/
theorem prev_exists : ∀ (steps : List Int), Sorted steps → ∀ m, m ∈ steps → (∃ x ∈ steps, x < m) →
    ∃ k, nextStep steps k = some m
  | [], _, m, h, _ => by simp at h
  | [a], _, m, h, ⟨x, hx, hxm⟩ => by
    simp at h hx; omega
  | a :: b :: rest, hs, m, h, ⟨x, hx, hxm⟩ => by
    have hs' : Sorted (b :: rest) := (List.pairwise_cons.mp hs).2
    have hab : ∀ x ∈ b :: rest, a < x := (List.pairwise_cons.mp hs).1
    have hb : ∀ x ∈ rest, b < x := (List.pairwise_cons.mp hs').1
    have hm : m ∈ b :: rest := by
      rcases List.mem_cons.mp h with rfl | h
      · rcases List.mem_cons.mp hx with rfl | hx
        · omega
        · have := hab x hx; omega
      · exact h
    rcases List.mem_cons.mp hm with rfl | hm2
    · exact ⟨a, by simp [nextStep]⟩
    · obtain ⟨k, hk⟩ := prev_exists (b :: rest) hs' m hm ⟨b, by simp, hb m hm2⟩
      refine ⟨k, ?_⟩
      have hk1 := (nextStep_spec _ hs' k m hk).1
      have := hab k hk1
      unfold nextStep
      rw [if_neg (by omega)]
      exact hk

theorem bracket_unique {steps : List Int} (hs : Sorted steps) {t n n' m m' : Int}
    (h1 : Bracket steps t n n') (h2 : Bracket steps t m m') : n = m ∧ n' = m' := by
  obtain ⟨a1, a2, a3⟩ := h1
  obtain ⟨b1, b2, b3⟩ := h2
  obtain ⟨p1, p2, p3, p4⟩ := nextStep_spec steps hs n n' a1
  obtain ⟨q1, q2, q3, q4⟩ := nextStep_spec steps hs m m' b1
  have h : n = m := by
    have := p4 m q1
    have := q4 n p1
    omega
  subst h
  rw [a1] at b1
  exact ⟨rfl, by injection b1⟩

/-! ## 2. the velocity (and scalar) invariant -/

section inv
omit [LinearOrder α] [IsStrictOrderedRing α]

theorem contains_iff (steps : List Int) (t : Int) : (steps.contains t = true) ↔ t ∈ steps := by simp

theorem updateOne_mem (fr : Frames α) (st : St α) (t : Int) (h : t ∈ fr.steps) (h1 : t - 1 ∉ fr.steps) :
    updateOne fr st t = { st with U := st.Unew, S := st.Snew, last := t } := by
  unfold updateOne
  simp only [if_pos ((contains_iff _ _).mpr h), if_neg (mt (contains_iff fr.steps (t - 1)).mp h1)]

/-- the first half of `updateOne fr st (t + 1)`: the next frame is read when `t` is a forcing step -/
def refresh (fr : Frames α) (st : St α) (t : Int) : St α :=
  if fr.steps.contains t then
    match nextStep fr.steps t with
    | some nx => { st with Unew := fr.vel nx, Snew := fr.sc nx, dU := (fr.vel nx - st.U) / ofInt (nx - t) }
    | none => st
  else st

/-- … the second half sets the fields to the frame on a forcing step and advances the velocity otherwise -/
theorem updateOne_succ (fr : Frames α) (st : St α) (t : Int) :
    updateOne fr st (t + 1) =
      if fr.steps.contains (t + 1) then
        { refresh fr st t with U := (refresh fr st t).Unew, S := (refresh fr st t).Snew, last := t + 1 }
      else { refresh fr st t with U := (refresh fr st t).U + (refresh fr st t).dU, last := t + 1 } := by
  have e : t + 1 - 1 = t := Int.add_sub_cancel t 1
  unfold updateOne
  rw [e]
  rfl

theorem updateRange_zero (fr : Frames α) (st : St α) (a : Int) : updateRange fr st a 0 = st := rfl

theorem updateRange_succ (fr : Frames α) (st : St α) (a : Int) (k : Nat) :
    updateRange fr st a (k + 1) = updateRange fr (updateOne fr st a) (a + 1) k := rfl

/-- `updateRange` composes -/
theorem updateRange_add (fr : Frames α) : ∀ (m : Nat) (st : St α) (a : Int) (k : Nat),
    updateRange fr (updateRange fr st a m) (a + m) k = updateRange fr st a (m + k)
  | 0, st, a, k => by simp [updateRange_zero]
  | m + 1, st, a, k => by
    rw [updateRange_succ, show m + 1 + k = (m + k) + 1 by omega, updateRange_succ,
      ← updateRange_add fr m (updateOne fr st a) (a + 1) k]
    congr 1
    push_cast; ring

theorem updateRange_snoc (fr : Frames α) (st : St α) (a : Int) (k : Nat) :
    updateRange fr st a (k + 1) = updateOne fr (updateRange fr st a k) (a + k) := by
  rw [← updateRange_add fr k st a 1]
  rfl

theorem updateOne_last (fr : Frames α) (st : St α) (t : Int) : (updateOne fr st t).last = t := by
  unfold updateOne
  split_ifs <;> rfl

theorem updateRange_last (fr : Frames α) (st : St α) (a : Int) (k : Nat) :
    (updateRange fr st a (k + 1)).last = a + k := by
  rw [updateRange_snoc, updateOne_last]

end inv

/-- state after processing step `t` (or after `init` for `t = -1`), `n ≤ t < n'` the enclosing frames -/
structure Inv (fr : Frames α) (g0 : Prop) (Si : α) (t n n' : Int) (st : St α) : Prop where
  last : st.last = t
  U : st.U = lerp fr t n n'
  new : n < t → st.Unew = fr.vel n' ∧
    st.dU = (fr.vel n' - fr.vel n) / ((n' - n : Int) : α) ∧ st.Snew = fr.sc n'
  S_pos : 0 ≤ n → (0 < n ∨ g0) → st.S = fr.sc n
  S_neg : n < 0 → st.S = Si

section inv2
omit [LinearOrder α] [IsStrictOrderedRing α]

theorem lerp_self (fr : Frames α) (n n' : Int) : lerp fr n n n' = fr.vel n := by simp [lerp]

theorem lerp_succ (fr : Frames α) (t n n' : Int) :
    lerp fr t n n' + (fr.vel n' - fr.vel n) / ((n' - n : Int) : α) = lerp fr (t + 1) n n' := by
  unfold lerp; push_cast; ring

/-- under the invariant the state after reading holds the frame `n'` and the slope of the bracket: they are
read when `t = n`, and were there already otherwise -/
theorem refresh_inv {fr : Frames α} {g0 : Prop} {Si : α} (hs : Sorted fr.steps) {t n n' : Int} {st : St α}
    (hb : Bracket fr.steps t n n') (h : Inv fr g0 Si t n n' st) :
    refresh fr st t =
      { st with Unew := fr.vel n', Snew := fr.sc n', dU := (fr.vel n' - fr.vel n) / ((n' - n : Int) : α) } := by
  obtain ⟨a1, a2, a3⟩ := hb
  obtain ⟨p1, p2, p3, p4⟩ := nextStep_spec _ hs n n' a1
  unfold refresh
  by_cases htn : t = n
  · subst htn
    simp only [if_pos ((contains_iff _ _).mpr p1), a1, h.U, lerp_self, ofInt_eq]
  · have hnt : n < t := by omega
    obtain ⟨q1, q2, q3⟩ := h.new hnt
    rw [if_neg (mt (contains_iff _ _).mp fun hx => p4 _ hx ⟨hnt, a3⟩), ← q2, ← q3, ← q1]

theorem inv_step {fr : Frames α} {g0 : Prop} {Si : α} (hs : Sorted fr.steps)
    {t n n' m m' : Int} {st : St α} (ht : -1 ≤ t) (hb : Bracket fr.steps t n n')
    (hb' : Bracket fr.steps (t + 1) m m') (h : Inv fr g0 Si t n n' st) :
    Inv fr g0 Si (t + 1) m m' (updateOne fr st (t + 1)) := by
  rw [updateOne_succ, refresh_inv hs hb h]
  obtain ⟨a1, a2, a3⟩ := hb
  obtain ⟨p1, p2, p3, p4⟩ := nextStep_spec _ hs n n' a1
  by_cases hlt : t + 1 < n'
  · -- same bracket: the velocity advances by the slope
    obtain ⟨rfl, rfl⟩ := bracket_unique hs (⟨a1, by omega, hlt⟩ : Bracket fr.steps (t + 1) n n') hb'
    rw [if_neg (mt (contains_iff _ _).mp fun hx => p4 _ hx ⟨by omega, hlt⟩)]
    refine ⟨rfl, ?_, fun _ => ⟨rfl, rfl, rfl⟩, h.S_pos, h.S_neg⟩
    show st.U + _ = _
    rw [h.U, lerp_succ]
  · -- `t + 1 = n'` is the next frame
    have hn' : t + 1 = n' := by omega
    obtain ⟨b1, b2, b3⟩ := hb'
    obtain ⟨r1, r2, r3, r4⟩ := nextStep_spec _ hs m m' b1
    have hm : m = t + 1 := by
      have := r4 n' p2
      omega
    subst hn' hm
    rw [if_pos ((contains_iff _ _).mpr p2)]
    exact ⟨rfl, (lerp_self _ _ _).symm, fun hc => by omega, fun _ _ => rfl, fun hc => by omega⟩

theorem inv_range {fr : Frames α} {g0 : Prop} {Si : α} (hs : Sorted fr.steps)
    {t n n' : Int} {st : St α} (ht : -1 ≤ t) (hb : Bracket fr.steps t n n')
    (h : Inv fr g0 Si t n n' st) :
    ∀ (k : Nat) (T : Int), T = t + k → ∀ m m', Bracket fr.steps T m m' →
      Inv fr g0 Si T m m' (updateRange fr st (t + 1) k)
  | 0, T, hT, m, m', hb' => by
    have : T = t := by omega
    subst this
    obtain ⟨rfl, rfl⟩ := bracket_unique hs hb hb'
    exact h
  | k + 1, T, hT, m, m', hb' => by
    obtain ⟨b1, b2, b3⟩ := hb'
    have hprev : ∃ q q', Bracket fr.steps (T - 1) q q' := by
      by_cases hm : m ≤ T - 1
      · exact ⟨m, m', b1, hm, by omega⟩
      · have hmT : m = T := by omega
        obtain ⟨r1, r2, r3, r4⟩ := nextStep_spec _ hs m m' b1
        obtain ⟨p1, _, _, _⟩ := nextStep_spec _ hs n n' hb.1
        obtain ⟨q, hq⟩ := prev_exists _ hs m r1 ⟨n, p1, by have := hb.2.1; omega⟩
        obtain ⟨s1, s2, s3, s4⟩ := nextStep_spec _ hs q m hq
        exact ⟨q, m, hq, by omega, by omega⟩
    obtain ⟨q, q', hq⟩ := hprev
    have ih := inv_range hs ht hb h k (T - 1) (by omega) q q' hq
    rw [updateRange_snoc]
    have := inv_step hs (by omega) hq
      (show Bracket fr.steps (T - 1 + 1) m m' from ⟨b1, by omega, by omega⟩) ih
    rw [show T - 1 + 1 = T by omega] at this
    rw [show t + 1 + (k : Int) = T by omega]
    exact this

end inv2

/-! ### initialisation -/

theorem prestep_foldl (f : Option Int → Int → Option Int)
    (f1 : ∀ s, s < 0 → f none s = some s) (f2 : ∀ a s, s < 0 → f (some a) s = some (max a s))
    (f3 : ∀ acc s, ¬ s < 0 → f acc s = acc) :
    ∀ (l : List Int) (acc : Option Int) (p : Int), l.foldl f acc = some p →
      ((p ∈ l ∧ p < 0) ∨ acc = some p) ∧ (∀ x ∈ l, x < 0 → x ≤ p) ∧ (∀ a, acc = some a → a ≤ p)
  | [], acc, p, h => by
    simp only [List.foldl_nil] at h
    subst h
    refine ⟨Or.inr rfl, by simp, ?_⟩
    intro a ha; injection ha with ha; omega
  | s :: l, acc, p, h => by
    rw [List.foldl_cons] at h
    obtain ⟨i1, i2, i3⟩ := prestep_foldl f f1 f2 f3 l (f acc s) p h
    by_cases hs : s < 0
    · cases acc with
      | none =>
        rw [f1 s hs] at i1 i3
        have hsp := i3 s rfl
        refine ⟨Or.inl ?_, ?_, by simp⟩
        · rcases i1 with ⟨h1, h2⟩ | h1
          · exact ⟨List.mem_cons_of_mem _ h1, h2⟩
          · injection h1 with h1; subst h1; exact ⟨by simp, hs⟩
        · intro x hx hx0
          rcases List.mem_cons.mp hx with rfl | hx
          · exact hsp
          · exact i2 x hx hx0
      | some a =>
        rw [f2 a s hs] at i1 i3
        have hsp := i3 _ rfl
        refine ⟨?_, ?_, ?_⟩
        · rcases i1 with ⟨h1, h2⟩ | h1
          · exact Or.inl ⟨List.mem_cons_of_mem _ h1, h2⟩
          · injection h1 with h1
            rcases le_total a s with has | has
            · rw [max_eq_right has] at h1; subst h1; exact Or.inl ⟨by simp, hs⟩
            · rw [max_eq_left has] at h1; subst h1; exact Or.inr rfl
        · intro x hx hx0
          rcases List.mem_cons.mp hx with rfl | hx
          · exact le_trans (le_max_right _ _) hsp
          · exact i2 x hx hx0
        · intro b hb; injection hb with hb; subst hb
          exact le_trans (le_max_left _ _) hsp
    · rw [f3 acc s hs] at i1 i3
      refine ⟨?_, ?_, i3⟩
      · rcases i1 with ⟨h1, h2⟩ | h1
        · exact Or.inl ⟨List.mem_cons_of_mem _ h1, h2⟩
        · exact Or.inr h1
      · intro x hx hx0
        rcases List.mem_cons.mp hx with rfl | hx
        · exact absurd hx0 hs
        · exact i2 x hx hx0

/-- `prestepOf` is the largest negative forcing step -/
theorem prestepOf_spec (steps : List Int) (p : Int) (h : prestepOf steps = some p) :
    p ∈ steps ∧ p < 0 ∧ ∀ x ∈ steps, x < 0 → x ≤ p := by
  unfold prestepOf at h
  obtain ⟨i1, i2, _⟩ := prestep_foldl _ (by intro s hs; simp [hs]) (by intro a s hs; simp [hs])
    (by intro acc s hs; simp [hs]) steps none p h
  rcases i1 with ⟨h1, h2⟩ | h1
  · exact ⟨h1, h2, i2⟩
  · cases h1

/-- the divisor of the initial scalar increment -/
def prestepDivisor (pd : PrestepDiv) (p nx : Int) : Int :=
  match pd with | .prestep => p | .stepdiff => nx - p

/-- the initial `Snew` when the simulation starts on a frame -/
def scalarNew0 (si : ScalarInit) (fr : Frames α) (s1 : Int) : α :=
  match si with | .next => fr.sc s1 | .current => fr.sc 0

section initlemmas
omit [LinearOrder α] [IsStrictOrderedRing α]

/-- the state built by `init` when forcing exists before the start -/
theorem init_prestep (pd : PrestepDiv) (si : ScalarInit) (fr : Frames α) (st0 : St α) (p : Int)
    (hp : prestepOf fr.steps = some p) (h : init pd si fr = some st0) :
    ∃ nx, nextStep fr.steps p = some nx ∧
      st0 = ⟨fr.vel p - ((p + 1 : Int) : α) * ((fr.vel nx - fr.vel p) / ((nx - p : Int) : α)), fr.vel nx,
        (fr.vel nx - fr.vel p) / ((nx - p : Int) : α),
        fr.sc p - ((p + 1 : Int) : α) * ((fr.sc nx - fr.sc p) /
          ((prestepDivisor pd p nx : Int) : α)), fr.sc nx, -1⟩ := by
  unfold init at h
  rw [hp] at h
  simp only at h
  cases hn : nextStep fr.steps p with
  | none => rw [hn] at h; simp at h
  | some nx =>
    rw [hn] at h
    refine ⟨nx, rfl, ?_⟩
    simp only [Option.some.injEq] at h
    rw [← h]
    rfl

/-- the state built by `init` when the simulation starts on a frame -/
theorem init_on_frame (pd : PrestepDiv) (si : ScalarInit) (fr : Frames α) (st0 : St α)
    (hp : prestepOf fr.steps = none) (h : init pd si fr = some st0) :
    ∃ s1 rest, fr.steps = 0 :: s1 :: rest ∧
      st0 = ⟨fr.vel 0 - (fr.vel s1 - fr.vel 0) / ((s1 : Int) : α), fr.vel 0,
        (fr.vel s1 - fr.vel 0) / ((s1 : Int) : α), fr.sc 0 - (fr.sc s1 - fr.sc 0) / ((s1 : Int) : α),
        scalarNew0 si fr s1, -1⟩ := by
  unfold init at h
  rw [hp] at h
  simp only at h
  split at h
  · rename_i s1 rest heq
    refine ⟨s1, rest, heq, ?_⟩
    simp only [Option.some.injEq] at h
    rw [← h]
    rfl
  · simp at h

end initlemmas

/-! ### the invariant holds after every processed step -/

/-- the scalar field at step 0 is the frame of step 0: either the initialisation is synchronised or
forcing exists before the start -/
def Good0 (si : ScalarInit) (steps : List Int) : Prop := si = .current ∨ prestepOf steps ≠ none

section main
omit [LinearOrder α] [IsStrictOrderedRing α]

theorem inv_init_prestep (pd : PrestepDiv) (si : ScalarInit) (fr : Frames α) (st0 : St α) (p : Int)
    (g0 : Prop) (hs : Sorted fr.steps) (hp : prestepOf fr.steps = some p) (h : init pd si fr = some st0) :
    ∃ nx, Bracket fr.steps (-1) p nx ∧ Inv fr g0 st0.S (-1) p nx st0 := by
  obtain ⟨nx, hn, rfl⟩ := init_prestep pd si fr st0 p hp h
  obtain ⟨p1, p2, p3⟩ := prestepOf_spec _ _ hp
  obtain ⟨q1, q2, q3, q4⟩ := nextStep_spec _ hs p nx hn
  have hnx : 0 ≤ nx := by
    by_contra hc
    have := p3 nx q2 (by omega); omega
  refine ⟨nx, ⟨hn, by omega, by omega⟩, rfl, ?_, ?_, ?_, ?_⟩
  · show fr.vel p - _ = _
    unfold lerp
    push_cast; ring
  · intro _; exact ⟨rfl, rfl, rfl⟩
  · intro h0; omega
  · intro _; rfl

theorem inv_init_on_frame (pd : PrestepDiv) (si : ScalarInit) (fr : Frames α) (st0 : St α)
    (g0 : Prop) (hg : g0 → si = .current) (hs : Sorted fr.steps) (hp : prestepOf fr.steps = none)
    (h : init pd si fr = some st0) :
    ∃ s1, Bracket fr.steps 0 0 s1 ∧ Inv fr g0 st0.S 0 0 s1 (updateOne fr st0 0) := by
  obtain ⟨s1, rest, heq, rfl⟩ := init_on_frame pd si fr st0 hp h
  rw [heq] at hs
  have h01 : ∀ x ∈ s1 :: rest, 0 < x := (List.pairwise_cons.mp hs).1
  have hmem : (0 : Int) ∈ fr.steps := by rw [heq]; simp
  have hnm : (0 : Int) - 1 ∉ fr.steps := by
    rw [heq]; intro hx
    rcases List.mem_cons.mp hx with hx | hx
    · omega
    · have := h01 _ hx; omega
  have hn : nextStep fr.steps 0 = some s1 := by rw [heq]; simp [nextStep]
  refine ⟨s1, ⟨hn, le_refl _, h01 s1 (by simp)⟩, ?_⟩
  rw [updateOne_mem fr _ 0 hmem hnm]
  refine ⟨rfl, ?_, ?_, ?_, ?_⟩
  · show fr.vel 0 = _
    rw [lerp_self]
  · intro hc; omega
  · intro _ hc
    rcases hc with hc | hc
    · omega
    · have := hg hc; subst this; rfl
  · intro hc; omega

/-- the state after processing the steps `0 … T` -/
theorem inv_main (pd : PrestepDiv) (si : ScalarInit) (fr : Frames α) (st0 : St α) (hs : Sorted fr.steps)
    (h : init pd si fr = some st0) (T : Nat) (n n' : Int) (hb : Bracket fr.steps (T : Int) n n') :
    Inv fr (Good0 si fr.steps) st0.S T n n' (updateRange fr st0 0 (T + 1)) := by
  cases hp : prestepOf fr.steps with
  | none =>
    obtain ⟨s1, hb0, hinv⟩ := inv_init_on_frame pd si fr st0 (Good0 si fr.steps)
      (by intro hg; rcases hg with hg | hg
          · exact hg
          · exact absurd hp hg) hs hp h
    have := inv_range hs (by omega) hb0 hinv T (T : Int) (by omega) n n' hb
    rw [updateRange_succ]
    exact this
  | some p =>
    obtain ⟨nx, hb0, hinv⟩ := inv_init_prestep pd si fr st0 p (Good0 si fr.steps) hs hp h
    have := inv_range hs (le_refl _) hb0 hinv (T + 1) (T : Int) (by push_cast; omega) n n' hb
    rw [show (-1 : Int) + 1 = 0 by norm_num] at this
    exact this

/-- **C06, velocity.** After `init`, processing the steps `0, 1, …, T` one by one leaves the velocity
equal to the linear interpolation in time between the two frames enclosing `T`. -/
theorem velocity_consecutive (pd : PrestepDiv) (si : ScalarInit) (fr : Frames α) (st0 : St α)
    (hs : Sorted fr.steps) (h : init pd si fr = some st0) (T : Nat) (n n' : Int)
    (hb : Bracket fr.steps (T : Int) n n') :
    (updateRange fr st0 0 (T + 1)).U = lerp fr T n n' ∧ (updateRange fr st0 0 (T + 1)).last = T := by
  have := inv_main pd si fr st0 hs h T n n' hb
  exact ⟨this.U, this.last⟩

/-! ## 3. every schedule -/

theorem run_loop_eq_range (fr : Frames α) : ∀ (sched : List Int) (st : St α) (l T : Int), st.last = l →
    List.Pairwise (· < ·) sched → (∀ x ∈ sched, l < x) → sched.getLast? = some T →
    run .loop fr st sched = updateRange fr st (l + 1) (T - l).toNat
  | [], st, l, T, _, _, _, hT => by simp at hT
  | [t], st, l, T, hl, _, hx, hT => by
    simp at hT; subst hT
    have := hx t (by simp)
    simp only [run, List.foldl, update]
    rw [if_pos (by omega), hl]
  | t :: t2 :: rest, st, l, T, hl, hp, hx, hT => by
    have hlt := hx t (by simp)
    have hp' := (List.pairwise_cons.mp hp).2
    have ht : ∀ x ∈ t2 :: rest, t < x := (List.pairwise_cons.mp hp).1
    rw [List.getLast?_cons_cons] at hT
    have hstep : update .loop fr st t = updateRange fr st (l + 1) (t - l).toNat := by
      simp only [update]; rw [if_pos (by omega), hl]
    have hlast : (update .loop fr st t).last = t := by
      rw [hstep]
      obtain ⟨k, hk⟩ : ∃ k, (t - l).toNat = k + 1 := ⟨(t - l).toNat - 1, by omega⟩
      rw [hk, updateRange_last]; omega
    have ih := run_loop_eq_range fr (t2 :: rest) (update .loop fr st t) t T hlast hp' ht hT
    show run .loop fr (update .loop fr st t) (t2 :: rest) = _
    rw [ih, hstep]
    have hTt : t < T := ht T (List.mem_of_getLast? hT)
    have := updateRange_add fr (t - l).toNat st (l + 1) (T - t).toNat
    rw [show l + 1 + ((t - l).toNat : Int) = t + 1 by omega,
      show (t - l).toNat + (T - t).toNat = (T - l).toNat by omega] at this
    exact this

/-- with the catch-up loop, any increasing schedule of calls ending at step `T` leaves the same state
as processing the steps `0 … T` one by one -/
theorem update_loop_eq_range (fr : Frames α) (st : St α) (hl : st.last = -1) (sched : List Int)
    (hp : List.Pairwise (· < ·) sched) (h0 : ∀ x ∈ sched, 0 ≤ x) (T : Int)
    (hT : sched.getLast? = some T) :
    run .loop fr st sched = updateRange fr st 0 (T.toNat + 1) := by
  have hT0 := h0 T (List.mem_of_getLast? hT)
  have := run_loop_eq_range fr sched st (-1) T hl hp (fun x hx => by have := h0 x hx; omega) hT
  rw [show (-1 : Int) + 1 = 0 by norm_num, show (T - -1).toNat = T.toNat + 1 by omega] at this
  exact this

theorem init_last (pd : PrestepDiv) (si : ScalarInit) (fr : Frames α) (st0 : St α)
    (h : init pd si fr = some st0) : st0.last = -1 := by
  cases hp : prestepOf fr.steps with
  | none => obtain ⟨s1, rest, _, rfl⟩ := init_on_frame pd si fr st0 hp h; rfl
  | some p => obtain ⟨nx, _, rfl⟩ := init_prestep pd si fr st0 p hp h; rfl

/-- **C06, velocity, every run schedule.** -/
theorem velocity_any_schedule (pd : PrestepDiv) (si : ScalarInit) (fr : Frames α) (st0 : St α)
    (hs : Sorted fr.steps) (h : init pd si fr = some st0) (sched : List Int)
    (hp : List.Pairwise (· < ·) sched) (h0 : ∀ x ∈ sched, 0 ≤ x) (T : Int)
    (hT : sched.getLast? = some T) (n n' : Int) (hb : Bracket fr.steps T n n') :
    (run .loop fr st0 sched).U = lerp fr T n n' := by
  have hT0 := h0 T (List.mem_of_getLast? hT)
  rw [update_loop_eq_range fr st0 (init_last pd si fr st0 h) sched hp h0 T hT]
  have e : ((T.toNat : Nat) : Int) = T := Int.toNat_of_nonneg hT0
  have := (velocity_consecutive pd si fr st0 hs h T.toNat n n' (by rw [e]; exact hb)).1
  rw [e] at this
  exact this

end main

/-! ## 4. the scalar field -/

section scalars
omit [LinearOrder α] [IsStrictOrderedRing α]

/-- a successful `init` means there is a forcing frame at or before the start -/
theorem exists_le_start (pd : PrestepDiv) (si : ScalarInit) (fr : Frames α) (st0 : St α)
    (h : init pd si fr = some st0) : ∃ x ∈ fr.steps, x ≤ 0 := by
  cases hp : prestepOf fr.steps with
  | none =>
    obtain ⟨s1, rest, heq, _⟩ := init_on_frame pd si fr st0 hp h
    exact ⟨0, by rw [heq]; simp, le_refl _⟩
  | some p =>
    obtain ⟨p1, p2, _⟩ := prestepOf_spec _ _ hp
    exact ⟨p, p1, by omega⟩

/-- on a forcing step after the start both fields are exactly the frame (also on the last frame) -/
theorem on_frame (pd : PrestepDiv) (si : ScalarInit) (fr : Frames α) (st0 : St α)
    (hs : Sorted fr.steps) (h : init pd si fr = some st0) (T : Nat) (hT : (T : Int) ∈ fr.steps)
    (hpos : 0 < T) :
    (updateRange fr st0 0 (T + 1)).U = fr.vel T ∧ (updateRange fr st0 0 (T + 1)).S = fr.sc T := by
  obtain ⟨T', rfl⟩ : ∃ T', T = T' + 1 := ⟨T - 1, by omega⟩
  push_cast at hT
  obtain ⟨x, hx, hx0⟩ := exists_le_start pd si fr st0 h
  obtain ⟨q, hq⟩ := prev_exists _ hs _ hT ⟨x, hx, by omega⟩
  obtain ⟨q1, q2, q3, q4⟩ := nextStep_spec _ hs _ _ hq
  have hb : Bracket fr.steps (T' : Int) q (T' + 1) := ⟨hq, by omega, by omega⟩
  rw [updateRange_snoc, show (0 : Int) + ((T' + 1 : Nat) : Int) = T' + 1 by push_cast; omega, updateOne_succ,
    refresh_inv hs hb (inv_main pd si fr st0 hs h T' q _ hb), if_pos ((contains_iff _ _).mpr hT)]
  exact ⟨rfl, rfl⟩

/-- **C06, scalar, on a frame.** -/
theorem scalar_on_frame (pd : PrestepDiv) (si : ScalarInit) (fr : Frames α) (st0 : St α)
    (hs : Sorted fr.steps) (h : init pd si fr = some st0) (T : Nat) (hT : (T : Int) ∈ fr.steps)
    (hpos : 0 < T) : (updateRange fr st0 0 (T + 1)).S = fr.sc T :=
  (on_frame pd si fr st0 hs h T hT hpos).2

/-- the velocity on a frame is the frame, also on the last one (which has no enclosing bracket) -/
theorem velocity_on_frame (pd : PrestepDiv) (si : ScalarInit) (fr : Frames α) (st0 : St α)
    (hs : Sorted fr.steps) (h : init pd si fr = some st0) (T : Nat) (hT : (T : Int) ∈ fr.steps)
    (hpos : 0 < T) : (updateRange fr st0 0 (T + 1)).U = fr.vel T :=
  (on_frame pd si fr st0 hs h T hT hpos).1

/-- **C06, scalar, between frames**: the field is held at the value of the last frame -/
theorem scalar_held (pd : PrestepDiv) (si : ScalarInit) (fr : Frames α) (st0 : St α)
    (hs : Sorted fr.steps) (h : init pd si fr = some st0) (T : Nat) (n n' : Int)
    (hb : Bracket fr.steps (T : Int) n n') (h0 : 0 ≤ n) (hn : 0 < n ∨ (n = 0 ∧ si = .current)) :
    (updateRange fr st0 0 (T + 1)).S = fr.sc n := by
  refine (inv_main pd si fr st0 hs h T n n' hb).S_pos h0 ?_
  rcases hn with hn | ⟨_, hn⟩
  · exact Or.inl hn
  · exact Or.inr (Or.inl hn)

/-- … also from step 0 on when forcing exists before the start and step 0 is a frame -/
theorem scalar_held_after_prestep (pd : PrestepDiv) (si : ScalarInit) (fr : Frames α) (st0 : St α)
    (hs : Sorted fr.steps) (h : init pd si fr = some st0) (hp : prestepOf fr.steps ≠ none) (T : Nat)
    (n n' : Int) (hb : Bracket fr.steps (T : Int) n n') (h0 : 0 ≤ n) :
    (updateRange fr st0 0 (T + 1)).S = fr.sc n :=
  (inv_main pd si fr st0 hs h T n n' hb).S_pos h0 (Or.inr (Or.inr hp))

/-- starting on a frame with the synchronised initialisation, the field at t = 0 is the frame of t = 0
(with `ScalarInit.next`, the code as it is, it is the *next* frame: `C06.scalar_t0_fails`) -/
theorem scalar_on_frame_t0 (pd : PrestepDiv) (fr : Frames α) (st0 : St α) (s1 : Int) (rest : List Int)
    (hs : Sorted fr.steps) (heq : fr.steps = 0 :: s1 :: rest)
    (h : init pd .current fr = some st0) : (updateRange fr st0 0 1).S = fr.sc 0 := by
  have hs' := hs
  rw [heq] at hs'
  have h01 : ∀ x ∈ s1 :: rest, 0 < x := (List.pairwise_cons.mp hs').1
  have hb : Bracket fr.steps ((0 : Nat) : Int) 0 s1 :=
    ⟨by rw [heq]; simp [nextStep], le_refl _, by simpa using h01 s1 (by simp)⟩
  exact (inv_main pd .current fr st0 hs h 0 0 s1 hb).S_pos (le_refl _) (Or.inr (Or.inl rfl))

/-- **C06, scalar, before the first frame of the run**: with the increment divided by the frame
distance, the field is the interpolated value one step before the start -/
theorem scalar_before_first_frame (si : ScalarInit) (fr : Frames α) (st0 : St α) (p : Int)
    (hs : Sorted fr.steps) (hp : prestepOf fr.steps = some p) (h : init .stepdiff si fr = some st0)
    (T : Nat) (n' : Int) (hb : Bracket fr.steps (T : Int) p n') :
    (updateRange fr st0 0 (T + 1)).S = lerpS fr (-1) p n' := by
  obtain ⟨p1, p2, _⟩ := prestepOf_spec _ _ hp
  rw [(inv_main .stepdiff si fr st0 hs h T p n' hb).S_neg p2]
  obtain ⟨nx, hn, rfl⟩ := init_prestep .stepdiff si fr st0 p hp h
  have : nx = n' := by
    have := hb.1; rw [hn] at this; injection this
  subst this
  show fr.sc p - _ = _
  unfold lerpS prestepDivisor
  push_cast; ring

end scalars

/-- a point of the segment from `a` to `b` lies between them -/
theorem segment_between (a b w : α) (h0 : 0 ≤ w) (h1 : w ≤ 1) :
    min a b ≤ a + w * (b - a) ∧ a + w * (b - a) ≤ max a b := by
  rcases le_total a b with hab | hab
  · rw [min_eq_left hab, max_eq_right hab]
    exact ⟨le_add_of_nonneg_right (mul_nonneg h0 (sub_nonneg.mpr hab)),
      le_sub_iff_add_le'.mp (mul_le_of_le_one_left (sub_nonneg.mpr hab) h1)⟩
  · rw [min_eq_right hab, max_eq_left hab]
    exact ⟨sub_le_iff_le_add'.mp (le_mul_of_le_one_left (sub_nonpos.mpr hab) h1),
      add_le_of_nonpos_right (mul_nonpos_of_nonneg_of_nonpos h0 (sub_nonpos.mpr hab))⟩

/-- a value interpolated between two frames lies between them -/
theorem lerpS_between (fr : Frames α) (t n n' : Int) (h1 : n ≤ t) (h2 : t ≤ n') (h3 : n < n') :
    min (fr.sc n) (fr.sc n') ≤ lerpS fr t n n' ∧ lerpS fr t n n' ≤ max (fr.sc n) (fr.sc n') := by
  have hd : (0 : α) < ((n' - n : Int) : α) := Int.cast_pos.mpr (by omega)
  exact segment_between _ _ _ (div_nonneg (Int.cast_nonneg (by omega)) hd.le)
    ((div_le_one hd).mpr (Int.cast_le.mpr (by omega)))

/-- … so before the first frame of the run the field lies between the two enclosing frames
(dividing by `prestep` instead it does not: `C06.scalar_prestep_fails`) -/
theorem scalar_between (si : ScalarInit) (fr : Frames α) (st0 : St α) (p : Int)
    (hs : Sorted fr.steps) (hp : prestepOf fr.steps = some p) (h : init .stepdiff si fr = some st0)
    (T : Nat) (n' : Int) (hb : Bracket fr.steps (T : Int) p n') :
    min (fr.sc p) (fr.sc n') ≤ (updateRange fr st0 0 (T + 1)).S ∧
      (updateRange fr st0 0 (T + 1)).S ≤ max (fr.sc p) (fr.sc n') := by
  rw [scalar_before_first_frame si fr st0 p hs hp h T n' hb]
  obtain ⟨_, p2, _⟩ := prestepOf_spec _ _ hp
  have := hb.2.2
  exact lerpS_between fr (-1) p n' (by omega) (by omega) (by omega)

end C06
