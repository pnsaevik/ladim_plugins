import LadimProofs.Laws
import LadimModel.IBM.Chemicals
import LadimModel.IBM.Sedimentation
import LadimModel.IBM.Bio
/-!
# C07 — ageing, mortality and death are monotone, exact and step-size independent
-/
open Ladim
set_option linter.unusedSectionVars false
set_option linter.unusedVariables false

namespace C07
variable {α : Type} [Field α] [LinearOrder α] [IsStrictOrderedRing α]

/-! ## chemicals (age in seconds; dead when age > lifespan) -/
section chem
open Ladim.Chemicals
variable [HasSqrt α] [HasFloor α] [HasRound α]

theorem chem_age_advance (c : Config α) (e : Env α) (d : Draws α) (p : Particle α) (L : α)
    (hL : c.lifespan = some L) : (update c e d p).age = p.age + c.dt := by
  unfold update; simp only [hL]

theorem chem_age_untouched (c : Config α) (e : Env α) (d : Draws α) (p : Particle α)
    (hL : c.lifespan = none) : (update c e d p).age = p.age := by
  unfold update; simp only [hL]

theorem horizontal_alive_imp (c : Config α) (e : Env α) (d : Draws α) (x y z : α) (al : Bool) :
    (horizontal c e d x y z al).2.2.2 = true → al = true := by
  unfold horizontal
  cases c.horz with
  | none => simp
  | some hm =>
    obtain ⟨a, b⟩ := hm
    simp only []
    split_ifs <;> simp

/-- a dead particle is never alive again (one step) -/
theorem chem_alive_monotone (c : Config α) (e : Env α) (d : Draws α) (p : Particle α) :
    (update c e d p).alive = true → p.alive = true := by
  unfold update
  simp only []
  cases c.lifespan with
  | none => exact horizontal_alive_imp c e d _ _ _ _
  | some L =>
    simp only [Bool.and_eq_true]
    intro h
    exact horizontal_alive_imp c e d _ _ _ _ h.1

/-- exact death rule without horizontal diffusion: alive' ↔ alive ∧ age' ≤ lifespan -/
theorem chem_death_iff (c : Config α) (e : Env α) (d : Draws α) (p : Particle α) (L : α)
    (hL : c.lifespan = some L) (hh : c.horz = none) :
    (update c e d p).alive = true ↔ (p.alive = true ∧ p.age + c.dt ≤ L) := by
  unfold update horizontal
  simp only [hL, hh, Bool.and_eq_true, decide_eq_true_eq]

/-- with horizontal diffusion: additionally the particle must not leave the grid -/
theorem chem_death_iff_horz (c : Config α) (e : Env α) (d : Draws α) (p : Particle α) (L : α)
    (hL : c.lifespan = some L) :
    (update c e d p).alive = true →
      (p.alive = true ∧ (update c e d p).age ≤ L) := by
  intro h
  refine ⟨chem_alive_monotone c e d p h, ?_⟩
  unfold update at h ⊢
  simp only [hL, Bool.and_eq_true, decide_eq_true_eq] at h ⊢
  exact h.2

end chem

/-! ## sedimentation, mine -/
section sed
open Ladim.Sed
variable [HasSqrt α]

theorem sed_age_advance (c : Config α) (e : Env α) (xi : α) (p : Particle α) :
    (update c e xi p).age = p.age + c.stateDt := by
  unfold update; simp only []

theorem sed_alive_iff (c : Config α) (e : Env α) (xi : α) (p : Particle α) :
    (update c e xi p).alive = true ↔ (p.alive = true ∧ p.age + c.stateDt ≤ c.lifespan) := by
  unfold update; simp only [Bool.and_eq_true, decide_eq_true_eq]

theorem mine_age_advance (c : Mine.Config α) (e : Mine.Env α) (xi : α) (p : Particle α) :
    (Mine.update c e xi p).age = p.age + c.stateDt := by
  unfold Mine.update; simp only []

theorem ite_and_imp (c : Prop) [Decidable c] (a b : Bool) :
    (if c then (a && b) else a) = true → a = true := by
  split_ifs <;> simp_all

theorem mine_alive_monotone (c : Mine.Config α) (e : Mine.Env α) (xi : α) (p : Particle α) :
    (Mine.update c e xi p).alive = true → p.alive = true := by
  unfold Mine.update
  simp only [Bool.and_eq_true]
  intro h
  exact ite_and_imp _ _ _ h.1

/-- with resuspension configured the only cause of death is old age -/
theorem mine_alive_iff_resusp (c : Mine.Config α) (e : Mine.Env α) (xi : α) (p : Particle α) (t : α)
    (ht : c.taucrit = some t) :
    (Mine.update c e xi p).alive = true ↔ (p.alive = true ∧ p.age + c.stateDt ≤ c.lifespan) := by
  unfold Mine.update
  simp [ht]

/-- history: age after `n` updates is `age₀ + n · state.dt`.  The lifetime decision therefore agrees
with the documented "age in seconds" iff `state.dt` is the real step length (LADiM sets
`state.dt = solver.step`), independently of `config['dt']` (`clock_agreement`). -/
theorem sed_age_history (c : Config α) (steps : List (Env α × α)) (p : Particle α) :
    (steps.foldl (fun q s => update c s.1 s.2 q) p).age = p.age + steps.length * c.stateDt := by
  induction steps generalizing p with
  | nil => simp
  | cons s ss ih =>
    simp only [List.foldl, List.length_cons]
    rw [ih, sed_age_advance]
    push_cast; ring

end sed

/-! ## egg, larvae, saithe, salmon lice, shrimp, vps -/
section bio
open Ladim.Bio
variable [HasSqrt α] [HasExp α] [HasLog α] [HasSin α] [HasCos α] [HasAsin α] [HasRpow α] [HasPi α]

/-- degree-days: `age' = age + temp · (dt / 86400)` -/
theorem degree_day_age (age temp dt : α) : degreeDayAge age temp dt = age + temp * (dt / 86400) := by
  unfold degreeDayAge; norm_num; ring

theorem degree_day_monotone (age temp dt : α) (ht : 0 ≤ temp) (hdt : 0 ≤ dt) :
    age ≤ degreeDayAge age temp dt := by
  rw [degree_day_age]
  exact le_add_of_nonneg_right (mul_nonneg ht (div_nonneg hdt (by norm_num)))

theorem larva_age_advance [HasNarrow α] (c : LarvaCfg α) (temp salt buoy l0 : α) (xi : Option α)
    (p : Larva α) : (larvaUpdate c temp salt buoy l0 xi p).age = p.age + temp * (c.stateDt / 86400) := by
  unfold larvaUpdate; simp only []
  rw [lit_86400]; ring

theorem lice_age_advance (D dt sdt mf k sv temp salt l0 r : α) (xi : Option α) (p : Lice α) :
    (liceUpdate D dt sdt mf k sv temp salt l0 r xi p).age = p.age + temp * (sdt / 86400) ∧
    (liceUpdate D dt sdt mf k sv temp salt l0 r xi p).days = p.days + sdt / 86400 := by
  unfold liceUpdate; simp only []
  rw [lit_86400, lit_1]
  constructor <;> ring

theorem lice_alive_iff (D dt sdt mf k sv temp salt l0 r : α) (xi : Option α) (p : Lice α) :
    (liceUpdate D dt sdt mf k sv temp salt l0 r xi p).alive = true ↔
      (p.alive = true ∧ (liceUpdate D dt sdt mf k sv temp salt l0 r xi p).age < 170) := by
  unfold liceUpdate; simp only [Bool.and_eq_true, decide_eq_true_eq]; norm_num

theorem lice_super (D dt sdt mf k sv temp salt l0 r : α) (xi : Option α) (p : Lice α) :
    (liceUpdate D dt sdt mf k sv temp salt l0 r xi p).super = p.super * mf := by
  unfold liceUpdate; simp only []

theorem exp_rate_add (hE : ExpLaws α) (c k a b : α) :
    exp (c * a / k) * exp (c * b / k) = exp (c * (a + b) / k) := by
  rw [← hE.exp_add]; congr 1; ring

/-- salmon-lice survival is independent of the way a time span is divided into steps:
`∏ exp(-0.17·dᵢ/86400) = exp(-0.17·Σdᵢ/86400)` for every list of step lengths. -/
theorem lice_survival_partition (hE : ExpLaws α) (ds : List α) :
    (ds.map (fun d => liceMortFactor d)).prod = liceMortFactor ds.sum := by
  induction ds with
  | nil =>
    simp only [List.map_nil, List.prod_nil, List.sum_nil, liceMortFactor]
    rw [mul_zero, zero_div, hE.exp_zero]
  | cons d ds ih =>
    simp only [List.map_cons, List.prod_cons, List.sum_cons, ih]
    unfold liceMortFactor
    exact exp_rate_add hE _ _ _ _

/-- survival after a whole history of updates with step lengths `ds` -/
theorem lice_survival_history (hE : ExpLaws α) (ds : List α) (s0 : α) :
    ds.foldl (fun s d => s * liceMortFactor d) s0 = s0 * liceMortFactor ds.sum := by
  induction ds generalizing s0 with
  | nil =>
    simp only [List.foldl_nil, List.sum_nil, liceMortFactor]
    rw [mul_zero, zero_div, hE.exp_zero, mul_one]
  | cons d ds ih =>
    simp only [List.foldl, List.sum_cons, ih]
    unfold liceMortFactor
    rw [mul_assoc, exp_rate_add hE]

/-- the per-day rate: one day reduces abundance by `exp(-0.17)` -/
theorem lice_one_day : liceMortFactor (86400 : α) = exp (-0.17 : α) := by
  unfold liceMortFactor; congr 1; norm_num

theorem shrimp_age_advance (temp dt : α) : Gen.shrimp_delta_age temp dt = dt / 86400 := by
  unfold Gen.shrimp_delta_age; norm_num

theorem vps_age_advance (m dt u fu fv : α) (p : Vps α) : (vpsUpdate m dt u fu fv p).age = p.age + dt := by
  unfold vpsUpdate; simp only []

theorem vps_alive_iff (m dt u fu fv : α) (p : Vps α) :
    (vpsUpdate m dt u fu fv p).alive = true ↔
      (p.alive = true ∧ p.age + dt < 1073741824 ∧ (fu ≠ 0 ∨ fv ≠ 0)) := by
  unfold vpsUpdate isZeroS
  simp only [Bool.and_eq_true, decide_eq_true_eq, Bool.or_eq_true, Bool.not_eq_true', Bool.not_eq_eq_eq_not,
    Bool.not_true, Bool.or_eq_false_iff, decide_eq_false_iff_not]
  norm_num
  tauto

end bio

/-! ## once dead, dead for ever -/

/-- if one update cannot revive, no history of updates can -/
theorem dead_forever {σ ι : Type} (alive : σ → Bool) (step : σ → ι → σ)
    (hmono : ∀ s i, alive (step s i) = true → alive s = true) (s₀ : σ) (is : List ι)
    (hdead : alive s₀ = false) : alive (is.foldl step s₀) = false := by
  induction is generalizing s₀ with
  | nil => simpa
  | cons i is ih =>
    apply ih
    by_contra h
    have := hmono s₀ i (by simpa using h)
    simp [hdead] at this

/-- instance: sedimentation particles -/
theorem sed_dead_forever [HasSqrt α] (c : Sed.Config α) (steps : List (Sed.Env α × α))
    (p : Sed.Particle α) (h : p.alive = false) :
    (steps.foldl (fun q s => Sed.update c s.1 s.2 q) p).alive = false :=
  dead_forever (fun q => q.alive) _ (fun q s hq => ((sed_alive_iff c s.1 s.2 q).mp hq).1) p steps h

/-- instance: chemicals particles -/
theorem chem_dead_forever [HasSqrt α] [HasFloor α] [HasRound α] (c : Chemicals.Config α)
    (e : Chemicals.Env α) (steps : List (Chemicals.Draws α)) (p : Chemicals.Particle α)
    (h : p.alive = false) :
    (steps.foldl (fun q d => Chemicals.update c e d q) p).alive = false :=
  dead_forever (fun q => q.alive) _ (fun q d hq => chem_alive_monotone c e d q hq) p steps h

section vpsHist
open Ladim.Bio
variable [HasSqrt α] [HasExp α] [HasLog α] [HasSin α] [HasCos α] [HasAsin α] [HasRpow α] [HasPi α]

/-- instance: vps fish — a dead fish (too old, or stopped where the velocity field vanishes) stays dead over every
history of further updates, whatever fields and time steps follow -/
theorem vps_dead_forever (steps : List (α × α × α × α × α)) (p : Vps α) (h : p.alive = false) :
    (steps.foldl (fun q s => vpsUpdate s.1 s.2.1 s.2.2.1 s.2.2.2.1 s.2.2.2.2 q) p).alive = false :=
  dead_forever (fun q => q.alive) _
    (fun q s hq => ((vps_alive_iff s.1 s.2.1 s.2.2.1 s.2.2.2.1 s.2.2.2.2 q).mp hq).1) p steps h

/-- age over a history = initial age + the sum of the time steps (alive or not) -/
theorem vps_age_history (steps : List (α × α × α × α × α)) (p : Vps α) :
    (steps.foldl (fun q s => vpsUpdate s.1 s.2.1 s.2.2.1 s.2.2.2.1 s.2.2.2.2 q) p).age =
      p.age + (steps.map (fun s => s.2.1)).sum := by
  induction steps generalizing p with
  | nil => simp
  | cons s ss ih =>
    simp only [List.foldl, List.map_cons, List.sum_cons]
    rw [ih, vps_age_advance]; ring

end vpsHist

/-- non-vacuity: the `ExpLaws` bundle is inhabited by the reals -/
example : ExpLaws ℝ := RealInst.expLaws

end C07
