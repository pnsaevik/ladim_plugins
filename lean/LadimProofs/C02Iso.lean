import LadimModel.Release.Iso
import LadimProofs.C02
import Mathlib.Tactic.IntervalCases
import Mathlib.Order.Monotone.Basic
import Mathlib.Data.String.Basic
/-!
C02 (ISO time stamps): the lexicographic order of the strings `YYYY-MM-DDTHH:MM:SS` rendered by
`Ladim.Dates.renderISO` (model of `np.datetime64(secs, 's').astype(str)`) coincides with the time order
for `isoLo ≤ secs ≤ isoHi` (years 0000..9999).

Route:
1. `civilFromDays` (Howard Hinnant's `civil_from_days`): a day of era is decomposed as
   `36524*C + 1461*k + 365*r + j` (`Decomp`); for every valid decomposition the algorithm returns
   year of era `100*C + 4*k + r` and day of year `j` (`decomp_yoe`, `decomp_doy`); the successor of a
   day is the odometer increment of the decomposition (`yoe_doy_succ`), month and day of month step
   accordingly (`mp_dom_succ`), hence the successor property `civI_succ` / `civilFromDays_succ`, and by
   induction (`strictMono_int_of_lt_succ` on a numeric key) strict monotonicity in the lexicographic order.
2. `padChars_lt`: fixed-width zero-padded decimals are strictly monotone (digit argument).
3. `append_lt_append_of_lt`, `seg_lt`: an equal-length differing prefix decides a lexicographic comparison.
4. `renderISO_strictMono` and corollaries.
-/
open Ladim.Dates
namespace C02

/-- a valid (century, 4-year cycle, year in cycle, day of year) decomposition of a day of era -/
structure Decomp (a C k r j : Int) : Prop where
  eq : a = 36524 * C + 1461 * k + 365 * r + j
  hC : 0 ≤ C ∧ C ≤ 3
  hk : 0 ≤ k ∧ k ≤ 24
  hr : 0 ≤ r ∧ r ≤ 3
  hj : 0 ≤ j ∧ j ≤ 365
  leap : j = 365 → r = 3
  cent : j = 365 → k = 24 → C = 3

theorem decomp_exists (a : Int) (h0 : 0 ≤ a) (h1 : a ≤ 146096) : ∃ C k r j, Decomp a C k r j := by
  refine ⟨min (a / 36524) 3, (a - 36524 * min (a / 36524) 3) / 1461,
    min ((a - 36524 * min (a / 36524) 3) % 1461 / 365) 3,
    (a - 36524 * min (a / 36524) 3) % 1461 - 365 * min ((a - 36524 * min (a / 36524) 3) % 1461 / 365) 3, ?_⟩
  constructor <;> omega

/-- the era quotients of `yoeOf`: `⌊a/36524⌋` and `⌊a/146096⌋` both exceed their usual value (`C`, `0`) by one
exactly on the last day of the era -/
theorem era_quot {a C a1 : Int} (eq : a = 36524 * C + a1) (hC : 0 ≤ C ∧ C ≤ 3) (h1 : 0 ≤ a1 ∧ a1 ≤ 36524)
    (h2 : a1 = 36524 → C = 3) : a / 36524 - a / 146096 = C := by
  omega

/-- the quotients of `yoeOf`; `e ∈ {0, 1}` counts the leap day of the 4-year cycle once it is reached.
Each is derived from the fields it needs only: `omega` pays for every hypothesis in sight. -/
theorem decomp_quots {a C k r j : Int} (h : Decomp a C k r j) :
    ∃ e, a / 1460 = 25 * C + k + e ∧ a / 36524 - a / 146096 = C ∧ 0 ≤ j - e ∧ j - e < 365 := by
  have eq := h.eq
  refine ⟨(24 * C + k + 365 * r + j) / 1460, by omega, ?_, ?_⟩
  · obtain ⟨-, hC, hk, hr, hj, -, cent⟩ := h
    exact era_quot (a1 := 1461 * k + 365 * r + j) (by omega) hC (by omega) fun h => cent (by omega) (by omega)
  · obtain ⟨-, hC, hk, hr, hj, leap, -⟩ := h
    clear eq
    omega

theorem decomp_yoe {a C k r j : Int} (h : Decomp a C k r j) : yoeOf a = 100 * C + 4 * k + r := by
  obtain ⟨e, h1, h2, h3⟩ := decomp_quots h
  have := h.eq
  rw [yoeOf, h1]
  omega

theorem decomp_doy {a C k r j : Int} (h : Decomp a C k r j) : doyOf a (yoeOf a) = j := by
  rw [decomp_yoe h]
  obtain ⟨eq, hC, hk, hr, hj, leap, cent⟩ := h
  unfold doyOf
  omega


theorem yoe_doy_range (a : Int) (h0 : 0 ≤ a) (h1 : a ≤ 146096) :
    0 ≤ yoeOf a ∧ yoeOf a ≤ 399 ∧ 0 ≤ doyOf a (yoeOf a) ∧ doyOf a (yoeOf a) ≤ 365 := by
  obtain ⟨C, k, r, j, h⟩ := decomp_exists a h0 h1
  rw [decomp_doy h, decomp_yoe h]
  obtain ⟨eq, hC, hk, hr, hj, leap, cent⟩ := h
  omega

/-- successor step on (year of era, day of year) inside an era -/
theorem yoe_doy_succ (a : Int) (h0 : 0 ≤ a) (h1 : a < 146096) :
    (yoeOf (a + 1) = yoeOf a ∧ doyOf (a + 1) (yoeOf (a + 1)) = doyOf a (yoeOf a) + 1 ∧
        doyOf a (yoeOf a) ≤ 364) ∨
    (yoeOf (a + 1) = yoeOf a + 1 ∧ doyOf (a + 1) (yoeOf (a + 1)) = 0 ∧ 364 ≤ doyOf a (yoeOf a)) := by
  obtain ⟨C, k, r, j, h⟩ := decomp_exists a h0 (by omega)
  rw [decomp_doy h, decomp_yoe h]
  have h' := h
  obtain ⟨eq, hC, hk, hr, hj, leap, cent⟩ := h'
  by_cases c1 : j ≤ 363 ∨ (j = 364 ∧ r = 3 ∧ (k ≤ 23 ∨ C = 3))
  · have hs : Decomp (a + 1) C k r (j + 1) := by constructor <;> omega
    rw [decomp_doy hs, decomp_yoe hs]; omega
  · by_cases c2 : r ≤ 2
    · have hs : Decomp (a + 1) C k (r + 1) 0 := by constructor <;> omega
      rw [decomp_doy hs, decomp_yoe hs]; omega
    · by_cases c3 : k ≤ 23
      · have hs : Decomp (a + 1) C (k + 1) 0 0 := by constructor <;> omega
        rw [decomp_doy hs, decomp_yoe hs]; omega
      · have hs : Decomp (a + 1) (C + 1) 0 0 0 := by constructor <;> omega
        rw [decomp_doy hs, decomp_yoe hs]; omega

theorem yoe_doy_last : yoeOf 146096 = 399 ∧ doyOf 146096 399 = 365 := by decide
theorem yoe_doy_first : yoeOf 0 = 0 ∧ doyOf 0 0 = 0 := by decide

theorem mp_dom_range (j : Int) (h0 : 0 ≤ j) (h1 : j ≤ 365) :
    0 ≤ mpOf j ∧ mpOf j ≤ 11 ∧ 1 ≤ domOf j (mpOf j) ∧ domOf j (mpOf j) ≤ 31 := by
  unfold domOf mpOf
  omega

theorem mp_dom_succ (j : Int) :
    (mpOf (j + 1) = mpOf j ∧ domOf (j + 1) (mpOf (j + 1)) = domOf j (mpOf j) + 1) ∨
    (mpOf (j + 1) = mpOf j + 1 ∧ domOf (j + 1) (mpOf (j + 1)) = 1) := by
  obtain ⟨m, hm⟩ : ∃ m, mpOf j = m := ⟨_, rfl⟩
  by_cases h : mpOf (j + 1) = m
  · left
    rw [h, hm, domOf, domOf]
    omega
  · right
    have h' : mpOf (j + 1) = m + 1 := by unfold mpOf at *; omega
    rw [h', hm, domOf]
    unfold mpOf at *
    omega

theorem mp_last (j : Int) (h0 : 364 ≤ j) (h1 : j ≤ 365) : mpOf j = 11 := by
  unfold mpOf; omega


/-! ### the civil date as a function of (era, day of era), `Int`-valued -/

def civED (era doe : Int) : Int × Int × Int :=
  (yoeOf doe + era * 400 + (if monthOf (mpOf (doyOf doe (yoeOf doe))) ≤ 2 then 1 else 0),
   monthOf (mpOf (doyOf doe (yoeOf doe))),
   domOf (doyOf doe (yoeOf doe)) (mpOf (doyOf doe (yoeOf doe))))

def civI (z : Int) : Int × Int × Int := civED ((z + 719468) / 146097) ((z + 719468) % 146097)

theorem civilFromDays_eq (z : Int) :
    civilFromDays z = ((civI z).1, (civI z).2.1.toNat, (civI z).2.2.toNat) := by
  unfold civilFromDays civI civED
  rfl

/-- the next calendar day: next day of the month, or first of the next month, or 1 January of the next year -/
def Step (c c' : Int × Int × Int) : Prop :=
  (c'.1 = c.1 ∧ c'.2.1 = c.2.1 ∧ c'.2.2 = c.2.2 + 1) ∨
  (c'.1 = c.1 ∧ c'.2.1 = c.2.1 + 1 ∧ c'.2.2 = 1) ∨
  (c'.1 = c.1 + 1 ∧ c'.2.1 = 1 ∧ c'.2.2 = 1)

theorem civED_range (era a : Int) (h0 : 0 ≤ a) (h1 : a ≤ 146096) :
    1 ≤ (civED era a).2.1 ∧ (civED era a).2.1 ≤ 12 ∧ 1 ≤ (civED era a).2.2 ∧ (civED era a).2.2 ≤ 31 := by
  obtain ⟨_, _, hj0, hj1⟩ := yoe_doy_range a h0 h1
  obtain ⟨hm0, hm1, hd0, hd1⟩ := mp_dom_range _ hj0 hj1
  simp only [civED, monthOf]
  split_ifs <;> omega

/-- the civil date of day `d` of the month with index `mp` in the March-based year `y`: the shape of `civED` -/
def civ (y mp d : Int) : Int × Int × Int := (y + (if monthOf mp ≤ 2 then 1 else 0), monthOf mp, d)

theorem step_day (y mp d : Int) : Step (civ y mp d) (civ y mp (d + 1)) := Or.inl ⟨rfl, rfl, rfl⟩

/-- the civil year changes between December (`mp = 9`) and January -/
theorem step_month (y d : Int) {mp : Int} (h0 : 0 ≤ mp) (h1 : mp ≤ 10) :
    Step (civ y mp d) (civ y (mp + 1) 1) := by
  simp only [Step, civ, and_true]
  unfold monthOf
  split_ifs <;> omega

/-- the March-based year ends with February, inside a civil year -/
theorem step_year {y y' : Int} (h : y' = y + 1) (d : Int) : Step (civ y 11 d) (civ y' 0 1) := by
  subst h
  simp [Step, civ, monthOf]

theorem civED_succ_in (era a : Int) (h0 : 0 ≤ a) (h1 : a < 146096) :
    Step (civED era a) (civED era (a + 1)) := by
  obtain ⟨-, -, hj0, hj1⟩ := yoe_doy_range a h0 (by omega)
  unfold civED
  rcases yoe_doy_succ a h0 h1 with ⟨hy, hj, hle⟩ | ⟨hy, hj, hge⟩
  · rw [hj, hy]
    rcases mp_dom_succ (doyOf a (yoeOf a)) with ⟨hm, hd⟩ | ⟨hm, hd⟩
    · rw [hd, hm]
      exact step_day _ _ _
    · have := (mp_dom_range _ (by omega : 0 ≤ doyOf a (yoeOf a) + 1) (by omega)).2.1
      rw [hd, hm]
      exact step_month _ _ (mp_dom_range _ hj0 hj1).1 (by omega)
  · rw [hj, hy, mp_last _ hge hj1]
    exact step_year (by omega) _

theorem civED_succ_era (era : Int) : Step (civED era 146096) (civED (era + 1) 0) :=
  step_year (y := 399 + era * 400) (y' := 0 + (era + 1) * 400) (by omega) 29

theorem civI_range (z : Int) :
    1 ≤ (civI z).2.1 ∧ (civI z).2.1 ≤ 12 ∧ 1 ≤ (civI z).2.2 ∧ (civI z).2.2 ≤ 31 :=
  civED_range _ _ (by omega) (by omega)

/-- successor property of `civil_from_days` -/
theorem civI_succ (z : Int) : Step (civI z) (civI (z + 1)) := by
  unfold civI
  by_cases h : (z + 719468) % 146097 < 146096
  · have e1 : (z + 1 + 719468) / 146097 = (z + 719468) / 146097 := by omega
    have e2 : (z + 1 + 719468) % 146097 = (z + 719468) % 146097 + 1 := by omega
    rw [e1, e2]
    exact civED_succ_in _ _ (by omega) h
  · have e1 : (z + 1 + 719468) / 146097 = (z + 719468) / 146097 + 1 := by omega
    have e2 : (z + 1 + 719468) % 146097 = 0 := by omega
    have e3 : (z + 719468) % 146097 = 146096 := by omega
    rw [e1, e2, e3]
    exact civED_succ_era _

/-- an order-preserving numeric key of a civil date -/
def key (c : Int × Int × Int) : Int := c.1 * 10000 + c.2.1 * 100 + c.2.2

theorem key_strictMono : StrictMono (fun z => key (civI z)) := by
  apply strictMono_int_of_lt_succ
  intro z
  have hs := civI_succ z
  have hr := civI_range z
  unfold Step at hs
  unfold key
  omega

/-- `civil_from_days` is strictly increasing in the lexicographic order of (year, month, day) -/
theorem civI_lex_of_lt {z1 z2 : Int} (h : z1 < z2) :
    (civI z1).1 < (civI z2).1 ∨ (civI z1).1 = (civI z2).1 ∧
      ((civI z1).2.1 < (civI z2).2.1 ∨ (civI z1).2.1 = (civI z2).2.1 ∧ (civI z1).2.2 < (civI z2).2.2) := by
  have hk := key_strictMono h
  have h1 := civI_range z1
  have h2 := civI_range z2
  simp only [key] at hk
  omega

theorem civilFromDays_succ (z : Int) :
    ((civilFromDays (z + 1)).1 = (civilFromDays z).1 ∧ (civilFromDays (z + 1)).2.1 = (civilFromDays z).2.1 ∧
      (civilFromDays (z + 1)).2.2 = (civilFromDays z).2.2 + 1) ∨
    ((civilFromDays (z + 1)).1 = (civilFromDays z).1 ∧ (civilFromDays (z + 1)).2.1 = (civilFromDays z).2.1 + 1 ∧
      (civilFromDays (z + 1)).2.2 = 1) ∨
    ((civilFromDays (z + 1)).1 = (civilFromDays z).1 + 1 ∧ (civilFromDays (z + 1)).2.1 = 1 ∧
      (civilFromDays (z + 1)).2.2 = 1) := by
  obtain ⟨hm, -, hd, -⟩ := civI_range z
  simp only [civilFromDays_eq]
  rcases civI_succ z with ⟨h1, h2, h3⟩ | ⟨h1, h2, h3⟩ | ⟨h1, h2, h3⟩ <;> rw [h1, h2, h3]
  · exact Or.inl ⟨rfl, rfl, by omega⟩
  · exact Or.inr (Or.inl ⟨rfl, by omega, rfl⟩)
  · exact Or.inr (Or.inr ⟨rfl, rfl, rfl⟩)

/-- month in 1..12, day in 1..31 -/
theorem civilFromDays_range (z : Int) :
    1 ≤ (civilFromDays z).2.1 ∧ (civilFromDays z).2.1 ≤ 12 ∧
    1 ≤ (civilFromDays z).2.2 ∧ (civilFromDays z).2.2 ≤ 31 := by
  have h := civI_range z
  simp only [civilFromDays_eq]
  omega

/-- `civilFromDays` is strictly increasing in the lexicographic order of (year, month, day) -/
theorem civilFromDays_lex_of_lt {z1 z2 : Int} (h : z1 < z2) :
    (civilFromDays z1).1 < (civilFromDays z2).1 ∨ (civilFromDays z1).1 = (civilFromDays z2).1 ∧
      ((civilFromDays z1).2.1 < (civilFromDays z2).2.1 ∨ (civilFromDays z1).2.1 = (civilFromDays z2).2.1 ∧
        (civilFromDays z1).2.2 < (civilFromDays z2).2.2) := by
  have hl := civI_lex_of_lt h
  have h1 := civI_range z1
  have h2 := civI_range z2
  simp only [civilFromDays_eq]
  omega

theorem civI_year_range (z : Int) (h0 : -719528 ≤ z) (h1 : z ≤ 2932896) :
    0 ≤ (civI z).1 ∧ (civI z).1 ≤ 9999 := by
  have hk0 := key_strictMono.monotone h0
  have hk1 := key_strictMono.monotone h1
  have e0 : civI (-719528) = (0, 1, 1) := by decide
  have e1 : civI 2932896 = (9999, 12, 31) := by decide
  have hr := civI_range z
  simp only [key, e0, e1] at hk0 hk1
  omega

/-! ### zero-padded decimals -/

theorem digitChar_lt {a b : Nat} (hab : a < b) (hb : b < 10) : digitChar a < digitChar b := by
  have key : ∀ b < 10, ∀ a < b, digitChar a < digitChar b := by decide
  exact key b hb a hab

theorem padChars_length (w n : Nat) : (padChars w n).length = w := by
  induction w generalizing n with
  | zero => rfl
  | succ w ih => simp [padChars, ih]

/-- fixed-width zero-padded decimal rendering is strictly monotone -/
theorem padChars_lt {w m n : Nat} (hmn : m < n) (hn : n < 10 ^ w) : padChars w m < padChars w n := by
  induction w generalizing m n with
  | zero => simp at hn; omega
  | succ w ih =>
    simp only [padChars]
    rw [List.cons_lt_cons_iff]
    have hp : 0 < 10 ^ w := Nat.pow_pos (by decide)
    have hle : m / 10 ^ w ≤ n / 10 ^ w := Nat.div_le_div_right (Nat.le_of_lt hmn)
    rcases Nat.lt_or_eq_of_le hle with hlt | heq
    · left
      apply digitChar_lt hlt
      rw [Nat.div_lt_iff_lt_mul hp, Nat.mul_comm]
      rw [Nat.pow_succ] at hn
      exact hn
    · right
      refine ⟨by rw [heq], ih ?_ (Nat.mod_lt _ hp)⟩
      have h1 := Nat.div_add_mod m (10 ^ w)
      have h2 := Nat.div_add_mod n (10 ^ w)
      rw [heq] at h1
      omega

theorem pad_length (w n : Nat) : (pad w n).length = w := by
  rw [← String.length_toList, pad, String.toList_ofList, padChars_length]

theorem pad_lt {w m n : Nat} (hmn : m < n) (hn : n < 10 ^ w) : pad w m < pad w n := by
  rw [String.lt_iff_toList_lt, pad, pad, String.toList_ofList, String.toList_ofList]
  exact padChars_lt hmn hn

/-! ### lexicographic comparison of concatenations -/

theorem append_lt_append_of_lt {l1 l2 : List Char} (hl : l1.length = l2.length) (h : l1 < l2)
    (r1 r2 : List Char) : l1 ++ r1 < l2 ++ r2 := by
  induction l1 generalizing l2 with
  | nil =>
    cases l2 with
    | nil => exact absurd h (List.lt_irrefl _)
    | cons b l2 => simp at hl
  | cons a l1 ih =>
    cases l2 with
    | nil => simp at hl
    | cons b l2 =>
      simp only [List.cons_append]
      rw [List.cons_lt_cons_iff] at h ⊢
      rcases h with h | ⟨rfl, h⟩
      · exact Or.inl h
      · exact Or.inr ⟨rfl, ih (by simpa using hl) h⟩

theorem append_lt_append_left (l : List Char) {r1 r2 : List Char} (h : r1 < r2) : l ++ r1 < l ++ r2 := by
  induction l with
  | nil => exact h
  | cons a l ih => simp only [List.cons_append]; rw [List.cons_lt_cons_iff]; exact Or.inr ⟨rfl, ih⟩

/-- one field followed by a separator: the field decides, or it is equal and the rest decides -/
theorem seg_lt {w m n : Nat} (hn : n < 10 ^ w) (sep : Char) {r1 r2 : List Char}
    (h : m < n ∨ m = n ∧ r1 < r2) :
    padChars w m ++ sep :: r1 < padChars w n ++ sep :: r2 := by
  rcases h with h | ⟨rfl, h⟩
  · exact append_lt_append_of_lt (by simp [padChars_length]) (padChars_lt h hn) _ _
  · apply append_lt_append_left
    rw [List.cons_lt_cons_iff]; exact Or.inr ⟨rfl, h⟩


/-! ### the rendered string -/

/-- the characters of `YYYY-MM-DDTHH:MM:SS` -/
def isoChars (y m d hh mm ss : Nat) : List Char :=
  padChars 4 y ++ '-' :: (padChars 2 m ++ '-' :: (padChars 2 d ++ 'T' :: (padChars 2 hh ++ ':' ::
    (padChars 2 mm ++ ':' :: padChars 2 ss))))

theorem renderISO_toList (s : Int) :
    (renderISO s).toList =
      isoChars (civilFromDays (s / 86400)).1.toNat (civilFromDays (s / 86400)).2.1 (civilFromDays (s / 86400)).2.2
        ((s % 86400).toNat / 3600) ((s % 86400).toNat % 3600 / 60) ((s % 86400).toNat % 60) := by
  simp only [renderISO, pad, String.toList_append, String.toList_ofList, isoChars, List.append_assoc]
  rfl

theorem isoChars_length (y m d hh mm ss : Nat) : (isoChars y m d hh mm ss).length = 19 := by
  simp [isoChars, padChars_length]

/-- lexicographic order of the six fields gives the order of the rendered characters -/
theorem isoChars_lt {y1 m1 d1 hh1 mm1 ss1 y2 m2 d2 hh2 mm2 ss2 : Nat}
    (hy : y2 < 10 ^ 4) (hm : m2 < 10 ^ 2) (hd : d2 < 10 ^ 2) (hhh : hh2 < 10 ^ 2) (hmm : mm2 < 10 ^ 2)
    (hss : ss2 < 10 ^ 2)
    (h : y1 < y2 ∨ y1 = y2 ∧ (m1 < m2 ∨ m1 = m2 ∧ (d1 < d2 ∨ d1 = d2 ∧ (hh1 < hh2 ∨ hh1 = hh2 ∧
      (mm1 < mm2 ∨ mm1 = mm2 ∧ ss1 < ss2))))) :
    isoChars y1 m1 d1 hh1 mm1 ss1 < isoChars y2 m2 d2 hh2 mm2 ss2 := by
  unfold isoChars
  refine seg_lt hy _ (h.imp_right (And.imp_right fun h => ?_))
  refine seg_lt hm _ (h.imp_right (And.imp_right fun h => ?_))
  refine seg_lt hd _ (h.imp_right (And.imp_right fun h => ?_))
  refine seg_lt hhh _ (h.imp_right (And.imp_right fun h => ?_))
  refine seg_lt hmm _ (h.imp_right (And.imp_right fun h => ?_))
  exact padChars_lt h hss

/-- between `isoLo` and `isoHi` the year is in 0..9999 -/
theorem civilFromDays_year_range (s : Int) (h0 : isoLo ≤ s) (h1 : s ≤ isoHi) :
    0 ≤ (civilFromDays (s / 86400)).1 ∧ (civilFromDays (s / 86400)).1 ≤ 9999 := by
  unfold isoLo at h0; unfold isoHi at h1
  exact civI_year_range (s / 86400) (by omega) (by omega)

/-- the six fields are in range, and the year has four digits between `isoLo` and `isoHi` -/
theorem fields_range (s : Int) (h0 : isoLo ≤ s) (h1 : s ≤ isoHi) :
    (civilFromDays (s / 86400)).1.toNat < 10 ^ 4 ∧ (civilFromDays (s / 86400)).2.1 < 10 ^ 2 ∧
    (civilFromDays (s / 86400)).2.2 < 10 ^ 2 ∧ (s % 86400).toNat / 3600 < 10 ^ 2 ∧
    (s % 86400).toNat % 3600 / 60 < 10 ^ 2 ∧ (s % 86400).toNat % 60 < 10 ^ 2 := by
  have hy := civilFromDays_year_range s h0 h1
  have hr := civilFromDays_range (s / 86400)
  omega

theorem lex_toNat {y1 y2 : Int} {P : Prop} (h1 : 0 ≤ y1) (h : y1 < y2 ∨ y1 = y2 ∧ P) :
    y1.toNat < y2.toNat ∨ y1.toNat = y2.toNat ∧ P := by
  rcases h with h | ⟨rfl, h⟩
  · exact Or.inl (by omega)
  · exact Or.inr ⟨rfl, h⟩

/-- hour, minute and second order a second of the day lexicographically -/
theorem sod_lex {p q : Nat} (h : p < q) :
    p / 3600 < q / 3600 ∨ p / 3600 = q / 3600 ∧
      (p % 3600 / 60 < q % 3600 / 60 ∨ p % 3600 / 60 = q % 3600 / 60 ∧ p % 60 < q % 60) := by
  omega

/-- the sort by the rendered time stamp is the sort by time: the date decides between different days
(`civilFromDays_lex_of_lt`), the second of the day within one -/
theorem renderISO_strictMono (a b : Int) (ha : isoLo ≤ a) (hab : a < b) (hb : b ≤ isoHi) :
    renderISO a < renderISO b := by
  rw [String.lt_iff_toList_lt, renderISO_toList, renderISO_toList]
  obtain ⟨hy, hm, hd, hhh, hmm, hss⟩ := fields_range b (by omega) hb
  apply isoChars_lt hy hm hd hhh hmm hss
  by_cases hday : a / 86400 < b / 86400
  · have hya := civilFromDays_year_range a ha (by omega)
    exact (lex_toNat hya.1 (civilFromDays_lex_of_lt hday)).imp_right
      (And.imp_right (Or.imp_right (And.imp_right Or.inl)))
  · have hday : a / 86400 = b / 86400 := by omega
    rw [hday]
    exact Or.inr ⟨rfl, Or.inr ⟨rfl, Or.inr ⟨rfl, sod_lex (by omega)⟩⟩⟩

theorem renderISO_length (a : Int) : (renderISO a).length = 19 := by
  rw [← String.length_toList, renderISO_toList, isoChars_length]

theorem renderISO_lt_iff (a b : Int) (ha0 : isoLo ≤ a) (ha1 : a ≤ isoHi) (hb0 : isoLo ≤ b) (hb1 : b ≤ isoHi) :
    renderISO a < renderISO b ↔ a < b := by
  constructor
  · intro h
    by_contra hn
    rcases Int.lt_or_eq_of_le (Int.not_lt.mp hn) with hlt | heq
    · exact lt_asymm h (renderISO_strictMono b a hb0 hlt ha1)
    · rw [heq] at h; exact lt_irrefl _ h
  · intro h; exact renderISO_strictMono a b ha0 h hb1

theorem renderISO_injective (a b : Int) (ha0 : isoLo ≤ a) (ha1 : a ≤ isoHi) (hb0 : isoLo ≤ b) (hb1 : b ≤ isoHi)
    (h : renderISO a = renderISO b) : a = b := by
  rcases lt_trichotomy a b with hlt | heq | hgt
  · exact absurd h (ne_of_lt (renderISO_strictMono a b ha0 hlt hb1))
  · exact heq
  · exact absurd h.symm (ne_of_lt (renderISO_strictMono b a hb0 hgt ha1))

/-- **the hypothesis of `sorted_after_sort` discharged for whole-second time stamps**: a table sorted by the
ISO date *string* (what `sort_values('date')` does) is in non-decreasing *time* order, for all times in the
years 0000..9999 — no assumption on the renderer is left -/
theorem sorted_by_iso_string_is_sorted_by_time {ρ : Type} (time : ρ → Int) (rows : List ρ)
    (hrange : ∀ r ∈ rows, isoLo ≤ time r ∧ time r ≤ isoHi)
    (hs : List.Pairwise (fun a b => renderISO (time a) ≤ renderISO (time b)) rows) :
    List.Pairwise (fun a b => time a ≤ time b) rows := by
  induction rows with
  | nil => exact List.Pairwise.nil
  | cons r rs ih =>
    rw [List.pairwise_cons] at hs ⊢
    refine ⟨fun b hb => ?_, ih (fun x hx => hrange x (List.mem_cons_of_mem _ hx)) hs.2⟩
    have h := hs.1 b hb
    by_contra hn
    have hlt : time b < time r := Int.not_le.mp hn
    have := renderISO_strictMono (time b) (time r) (hrange b (List.mem_cons_of_mem _ hb)).1 hlt
      (hrange r (List.mem_cons_self)).2
    exact absurd h (not_le.mpr this)

end C02

