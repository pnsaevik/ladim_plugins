import LadimProofs.Laws
import LadimModel.Generated.Formulas
import LadimModel.IBM.Bio
/-!
# C16 — buoyancy, swimming and light/density formulas are right-signed and consistent

The formulas are the *generated* definitions (`Ladim.Gen`, regenerated from /repo on every run), so
every theorem below is re-checked against what the code says now.
-/
open Ladim
set_option linter.unusedSectionVars false
set_option linter.unusedVariables false

namespace C16
variable {α : Type} [Field α] [LinearOrder α] [IsStrictOrderedRing α]
variable [HasSqrt α] [HasExp α] [HasLog α] [HasSin α] [HasCos α] [HasAsin α] [HasRpow α] [HasPi α]

/-! ## seawater density (EOS-80, one atmosphere) -/

/-- density as a polynomial in `r = √S`: `ρ = ρ_T + B·r² + C·r³ + d₀·r⁴` -/
def rhoT (t : α) : α :=
  999.842594 + (0.06793952 + (-0.00909529 + (0.0001001685 + (-1.120083e-6 + 6.536332e-9 * t) * t) * t) * t) * t
def coefB (t : α) : α := 0.824493 + (-0.0040899 + (7.6438e-5 + (-8.2467e-7 + 5.3875e-9 * t) * t) * t) * t
def coefC (t : α) : α := -0.00572466 + (0.00010227 + -1.6546e-6 * t) * t

theorem density_poly_form (temp salt : α) :
    Gen.eos_density temp salt =
      rhoT (temp * 1.00024) + coefB (temp * 1.00024) * salt + coefC (temp * 1.00024) * salt * sqrt salt
        + 0.00048314 * (salt * salt) := rfl

/-- `B(t) ≥ 0.6` on the oceanic temperature range: term by term, with `t² ≥ 0`,
`(t + 2.01)(40.01 − t) ≥ 0`, `t²(40.01 − t) ≥ 0` and `t⁴ ≥ 0` -/
theorem coefB_lower (t : α) (h0 : -2.01 ≤ t) (h1 : t ≤ 40.01) : 0.6 ≤ coefB t := by
  unfold coefB
  linarith [mul_self_nonneg t, mul_nonneg (sub_nonneg.2 h0) (sub_nonneg.2 h1),
    mul_nonneg (mul_self_nonneg t) (sub_nonneg.2 h1), mul_self_nonneg (t * t)]

/-- `-0.006 ≤ C(t) ≤ 0` on the oceanic temperature range: `C` is concave, so it lies above its chord
and below its vertex value (at `t ≈ 30.9`) -/
theorem coefC_bounds (t : α) (h0 : -2.01 ≤ t) (h1 : t ≤ 40.01) : -0.006 ≤ coefC t ∧ coefC t ≤ 0 := by
  unfold coefC
  constructor
  · linarith [mul_nonneg (sub_nonneg.2 h0) (sub_nonneg.2 h1)]
  · linarith [mul_self_nonneg (t - 30.9)]

/-- `B r² + C r³ + d r⁴` increases strictly in `r` on `[0, R]` when `B ≥ b`, `C ≥ -c`, `d ≥ 0` and
`2cR < b`: the difference is `(r₂ − r₁)·[B(r₁+r₂) + C(r₁²+r₁r₂+r₂²) + d(r₁+r₂)(r₁²+r₂²)]`, and
`r₁²+r₁r₂+r₂² ≤ (r₁+r₂)·2R` -/
theorem quartic_strictMono {B C d b c R s₁ s₂ r₁ r₂ : α} (hB : b ≤ B) (hC : -c ≤ C) (hd : 0 ≤ d)
    (hc : 0 ≤ c) (hbc : 2 * c * R < b) (e₁ : r₁ * r₁ = s₁) (e₂ : r₂ * r₂ = s₂)
    (h0 : 0 ≤ r₁) (h12 : r₁ < r₂) (h2 : r₂ ≤ R) :
    B * s₁ + C * s₁ * r₁ + d * (s₁ * s₁) < B * s₂ + C * s₂ * r₂ + d * (s₂ * s₂) := by
  subst e₁ e₂
  have hs : 0 < r₁ + r₂ := by linarith
  have hr := mul_nonneg h0 (h0.trans h12.le)
  have hq0 : 0 ≤ r₁ * r₁ + r₁ * r₂ + r₂ * r₂ := by
    linarith [mul_self_nonneg r₁, mul_self_nonneg r₂]
  have hq : r₁ * r₁ + r₁ * r₂ + r₂ * r₂ ≤ (r₁ + r₂) * (2 * R) := by
    linarith [mul_nonneg hs.le (by linarith : 0 ≤ 2 * R - r₁ - r₂)]
  have key : 0 < B * (r₁ + r₂) + C * (r₁ * r₁ + r₁ * r₂ + r₂ * r₂)
      + d * ((r₁ + r₂) * (r₁ * r₁ + r₂ * r₂)) := by
    linarith [mul_le_mul_of_nonneg_right hB hs.le, mul_le_mul_of_nonneg_right hC hq0,
      mul_le_mul_of_nonneg_left hq hc, mul_pos (sub_pos.2 hbc) hs,
      mul_nonneg hd (mul_nonneg hs.le (add_nonneg (mul_self_nonneg r₁) (mul_self_nonneg r₂)))]
  linarith [mul_pos (sub_pos.2 h12) key]

/-- seawater density increases with salinity: for every `T ∈ [-2, 40]` and `0 ≤ S₁ < S₂ ≤ 42` -/
theorem density_increases_with_salinity (hS : SqrtLaws α) (temp s₁ s₂ : α)
    (ht0 : -2 ≤ temp) (ht1 : temp ≤ 40) (h0 : 0 ≤ s₁) (h12 : s₁ < s₂) (h2 : s₂ ≤ 42) :
    Gen.eos_density temp s₁ < Gen.eos_density temp s₂ := by
  have ht0 : -2.01 ≤ temp * 1.00024 := by linarith
  have ht1 : temp * 1.00024 ≤ 40.01 := by linarith
  have h0' := h0.trans h12.le
  have := quartic_strictMono (coefB_lower _ ht0 ht1) (coefC_bounds _ ht0 ht1).1
    (by norm_num : (0 : α) ≤ 0.00048314) (by norm_num) (by norm_num : 2 * 0.006 * 6.5 < (0.6 : α))
    (hS.sqrt_sq s₁ h0) (hS.sqrt_sq s₂ h0') (hS.sqrt_nonneg s₁) (hS.sqrt_lt_sqrt h0 h12)
    (hS.sqrt_lt (by norm_num) h0' (by linarith)).le
  rw [density_poly_form, density_poly_form]
  linarith

/-- the independent copies of the density formula are the same function -/
theorem density_copies_equal (temp salt : α) : Gen.eos_density temp salt = Gen.egg_density temp salt := by
  unfold Gen.eos_density Gen.egg_density; rfl

/-- the viscosity expression inlined in the egg IBM equals `utils.eos.viscosity` -/
theorem viscosity_copies_equal (temp salt : α) :
    Gen.eos_viscosity temp salt = 0.001 * (1.7915 - 0.0538 * temp + 0.0007 * (temp * temp) + 0.0023 * salt) := by
  unfold Gen.eos_viscosity; ring

/-- generated from both sources: the viscosity inlined in `egg/ibm.py::update` equals `utils/eos.py::viscosity` -/
theorem viscosity_generated_copies_equal (temp salt : α) :
    Gen.egg_my_w temp salt = Gen.eos_viscosity temp salt := by
  unfold Gen.egg_my_w Gen.eos_viscosity; ring

/-- the sun-height expression of the shrimp IBM equals the one inside `surface_light` -/
theorem sunheight_copy_equal (yday hours lon lat : α) :
    Gen.shrimp_sunheight yday hours lon lat = Gen.surface_light_height yday hours lon lat := by
  unfold Gen.shrimp_sunheight Gen.surface_light_height; rfl

/-- EOS-80 check values (UNESCO 1983).  The published values are for IPTS-68 temperatures; the code
converts its input with `T68 = 1.00024·T`, so they are attained at `T = T68 / 1.00024`:
`ρ(S=0, T68=5) = 999.96675`, `ρ(35, 5) = 1027.67547`, `ρ(35, 25) = 1023.34306` (to 10⁻⁵). -/
theorem density_check_values (hS : SqrtLaws α) :
    |Gen.eos_density (5 / 1.00024 : α) 0 - 999.96675| < 1e-5 ∧
    |Gen.eos_density (5 / 1.00024 : α) 35 - 1027.67547| < 1e-5 ∧
    |Gen.eos_density (25 / 1.00024 : α) 35 - 1023.34306| < 1e-5 := by
  have hlo : (5.9160797 : α) < sqrt 35 := hS.lt_sqrt (by norm_num) (by norm_num)
  have hhi : sqrt (35 : α) < 5.9160798 := hS.sqrt_lt (by norm_num) (by norm_num) (by norm_num)
  have e5 : (5 / 1.00024 : α) * 1.00024 = 5 := by norm_num
  have e25 : (25 / 1.00024 : α) * 1.00024 = 25 := by norm_num
  -- what is left is linear in `√35`
  simp only [density_poly_form, e5, e25, rhoT, coefB, coefC, abs_lt, mul_zero, zero_mul]
  refine ⟨⟨?_, ?_⟩, ⟨?_, ?_⟩, ⟨?_, ?_⟩⟩
  all_goals linarith

/-! ## egg sinking speed -/

theorem fabs_neg (x : α) : fabs (-x) = fabs x := by
  rw [fabs_eq_abs, fabs_eq_abs, abs_neg]

theorem fsign_neg (x : α) : fsign (-x) = -fsign x := by
  rcases lt_trichotomy x 0 with h | rfl | h
  · rw [fsign_of_neg h, fsign_of_pos (neg_pos.2 h), neg_neg]
  · rw [neg_zero, fsign_zero, neg_zero]
  · rw [fsign_of_pos h, fsign_of_neg (neg_neg_iff_pos.2 h)]

theorem fsign_pos_iff (x : α) : 0 < fsign x ↔ 0 < x := by
  rcases lt_trichotomy x 0 with h | rfl | h
  · rw [fsign_of_neg h]; exact iff_of_false (by norm_num) h.not_gt
  · rw [fsign_zero]
  · rw [fsign_of_pos h]; exact iff_of_true one_pos h

theorem fsign_neg_iff (x : α) : fsign x < 0 ↔ x < 0 := by
  rw [← neg_pos, ← fsign_neg, fsign_pos_iff, neg_pos]

theorem mul_fsign_sub_sign {c a b : α} (hc : a ≠ b → c < 0) :
    (b < a → c * fsign (a - b) < 0) ∧ (a < b → 0 < c * fsign (a - b)) :=
  ⟨fun h => mul_neg_of_neg_of_pos (hc h.ne') ((fsign_pos_iff _).2 (sub_pos.2 h)),
    fun h => mul_pos_of_neg_of_neg (hc h.ne) ((fsign_neg_iff _).2 (sub_neg.2 h))⟩

/-- the sinking speed is an odd function of the density difference (larvae module's copy):
exchanging the two densities flips the sign and nothing else -/
theorem sink_speed_odd (mu a b d : α) :
    Gen.larvae_sinkvel_egg mu a b d = -Gen.larvae_sinkvel_egg mu b a d := by
  unfold Gen.larvae_sinkvel_egg
  simp only []
  have e : a - b = -(b - a) := by ring
  rw [e, fabs_neg, fsign_neg]
  lits
  split_ifs <;> ring

/-- … and zero at neutral buoyancy -/
theorem sink_speed_zero_at_neutral (mu a d : α) : Gen.larvae_sinkvel_egg mu a a d = 0 := by
  unfold Gen.larvae_sinkvel_egg fsign
  simp only [sub_self]
  lits
  simp

/-- Stokes branch (small eggs): `W = −(g d²/18μ)·Δρ`, hence lighter eggs rise (negative velocity =
decreasing depth), denser eggs sink, and the speed is monotone in the density difference -/
theorem sink_speed_stokes (mu dw de d : α)
    (hbr : d ≤ rpow ((9.0 * mu * mu) / (1025.0 * 9.81 * (fabs (dw - de) + 1.0e-16))) (1.0 / 3.0)) :
    Gen.larvae_sinkvel_egg mu dw de d = -(9.81 * (d * d) / (18 * mu)) * (dw - de) := by
  unfold Gen.larvae_sinkvel_egg
  simp only [hbr, decide_true, if_true]
  lits
  ring

theorem sink_speed_sign_stokes (mu dw de d : α) (hmu : 0 < mu) (hd : 0 < d)
    (hbr : d ≤ rpow ((9.0 * mu * mu) / (1025.0 * 9.81 * (fabs (dw - de) + 1.0e-16))) (1.0 / 3.0)) :
    (de < dw → Gen.larvae_sinkvel_egg mu dw de d < 0) ∧ (dw < de → 0 < Gen.larvae_sinkvel_egg mu dw de d) := by
  rw [sink_speed_stokes mu dw de d hbr]
  have hk : -(9.81 * (d * d) / (18 * mu)) < 0 :=
    neg_neg_of_pos (div_pos (mul_pos (by norm_num) (mul_pos hd hd)) (mul_pos (by norm_num) hmu))
  exact ⟨fun h => mul_neg_of_neg_of_pos hk (sub_pos.2 h), fun h => mul_pos_of_neg_of_neg hk (sub_neg.2 h)⟩

/-- Dallavalle branch (large eggs): right sign, given positive powers (`RpowLaws`); on this branch
`d > dmax ≥ 0`, so `d − 0.4·dmax > 0` -/
theorem sink_speed_sign_dallavalle (hR : RpowLaws α) (mu dw de d : α) (hmu : 0 < mu)
    (hbr : ¬ d ≤ rpow ((9.0 * mu * mu) / (1025.0 * 9.81 * (fabs (dw - de) + 1.0e-16))) (1.0 / 3.0))
    (hpos : 0 ≤ rpow ((9.0 * mu * mu) / (1025.0 * 9.81 * (fabs (dw - de) + 1.0e-16))) (1.0 / 3.0)) :
    (de < dw → Gen.larvae_sinkvel_egg mu dw de d < 0) ∧ (dw < de → 0 < Gen.larvae_sinkvel_egg mu dw de d) := by
  unfold Gen.larvae_sinkvel_egg
  simp only [hbr, decide_false, if_false, Bool.false_eq_true]
  -- the velocity is `c · sign(dw − de)`, and `c < 0` when `dw ≠ de`: one negative and three positive factors
  refine mul_fsign_sub_sign fun hne => ?_
  exact mul_neg_of_neg_of_pos (mul_neg_of_neg_of_pos (mul_neg_of_neg_of_pos (by norm_num)
    (sub_pos.2 (lt_of_le_of_lt (mul_le_of_le_one_left hpos (by norm_num)) (not_le.1 hbr))))
    (hR.rpow_pos _ _ (by rw [fabs_eq_abs]; exact abs_pos.2 (sub_ne_zero.2 hne)))) (hR.rpow_pos _ _ hmu)

/-! ## swimming directions -/
open Ladim.Bio

/-- larvae swim down (positive velocity) when the light at their depth exceeds their preference and
up when it is lower -/
theorem larva_swims_down_iff (hE : ExpLaws α) (speed desired Eb weight : α) (hs : 0 < speed) :
    (0 < larvaSwim speed desired Eb weight ↔ desired < Eb) ∧ (larvaSwim speed desired Eb weight < 0 ↔ Eb < desired) := by
  have hk : 0 < speed * (0.001 * Gen.larvae_weight_to_length weight) :=
    mul_pos hs (mul_pos (by norm_num) (hE.exp_pos _))
  unfold larvaSwim
  constructor
  · rw [mul_pos_iff_of_pos_left hk, fsign_pos_iff, sub_pos]
  · rw [← sub_neg (a := Eb), ← fsign_neg_iff (Eb - desired)]
    exact ⟨fun h => neg_of_mul_neg_right h hk.le, mul_neg_of_pos_of_neg hk⟩

/-- the light a larva reacts to is the surface light attenuated to *its own depth* with the configured
extinction coefficient (the saithe module used the surface light before the `fix:` commit) -/
theorem larva_uses_light_at_depth [HasNarrow α] (c : LarvaCfg α) (temp salt buoy l0 : α) (p : Larva α)
    (h : c.hatchDay < p.age) :
    (larvaUpdate c temp salt buoy l0 none p).z =
      clipDepth c.minDepth c.maxDepth (p.z + narrow (narrow
        (larvaSwim c.swimSpeed c.desired (l0 * exp (-c.k * p.z)) (larvaWeight c.initWeight temp c.dt p.weight))
          * narrow c.dt)) := by
  unfold larvaUpdate larvaFinalZ Gen.light_at_depth
  simp [not_le.mpr h]

/-- salmon lice: up (negative velocity) in light when the water is salty enough … -/
theorem lice_up_in_light (sv Eb salt r : α) (n : Bool) (hsv : 0 < sv) (hE : 0.01 ≤ Eb)
    (hs : 32 ≤ salt) (hr0 : 0 ≤ r) : liceW sv Eb salt r n < 0 := by
  unfold liceW
  lits
  have h1 : ¬ (salt < 28 - r * 8) := by linarith
  have h2 : ¬ (salt < 32 - r * 2) := by linarith
  simp only [hE, if_true, h1, h2, decide_false, Bool.and_false, Bool.false_eq_true, if_false]
  exact neg_neg_of_pos hsv

/-- … and down (positive) in water fresher than their tolerance, whatever the light -/
theorem lice_down_in_fresh (sv Eb salt r : α) (n : Bool) (hsv : 0 < sv) (hr0 : 0 ≤ r) (hr1 : r < 1)
    (hs : salt < 20) : 0 < liceW sv Eb salt r n := by
  unfold liceW
  lits
  have h1 : salt < 28 - r * 8 := by linarith
  have h2 : salt < 32 - r * 2 := by linarith
  cases n <;> simp [h1, h2, hsv]

theorem lice_velocity_values (sv Eb salt r : α) (n : Bool) :
    liceW sv Eb salt r n = -sv ∨ liceW sv Eb salt r n = 0 ∨ liceW sv Eb salt r n = sv := by
  unfold liceW
  lits
  split_ifs <;> simp

/-- shrimp move toward their preferred depth and never past it: the step is
`m · sign(pref − z)` with `0 ≤ m ≤ |pref − z|` -/
theorem shrimp_toward_pref (dt speed pref z : α) (hs : 0 ≤ dt * speed) :
    |shrimpMigrate dt speed pref z - pref| ≤ |z - pref| := by
  unfold shrimpMigrate
  rw [fabs_eq_abs, fmin_eq_min]
  have hm0 : 0 ≤ min (dt * speed) |pref - z| := le_min hs (abs_nonneg _)
  have hm1 := min_le_right (dt * speed) |pref - z|
  generalize min (dt * speed) |pref - z| = m at hm0 hm1 ⊢
  rcases lt_trichotomy pref z with h | rfl | h
  · rw [abs_of_neg (sub_neg.2 h)] at hm1
    rw [fsign_of_neg (sub_neg.2 h), abs_of_pos (sub_pos.2 h), abs_le]
    constructor <;> linarith
  · rw [sub_self, fsign_zero, mul_zero, add_zero, sub_self]
  · rw [abs_of_pos (sub_pos.2 h)] at hm1
    rw [fsign_of_pos (sub_pos.2 h), abs_of_neg (sub_neg.2 h), abs_le]
    constructor <;> linarith

/-! ## light -/

/-- the five-band light function of sun height `h` (degrees) and the day-band ratio
`q = sin h / sin h₁₂` -/
def bandLight (h q : α) : α :=
  if 0 ≤ h then 1500 * q + 5.76
  else if -6 ≤ h then ((5.76 - 0.048) / 6) * (6 + h) + 0.048
  else if -12 ≤ h then ((0.048 - 1.15e-4) / 6) * (12 + h) + 1.15e-4
  else if -18 ≤ h then ((1.15e-4 - 1.15e-5) / 6) * (18 + h) + 1.15e-5
  else 1.15e-5

/-- surface light stays within `[1.15e-5, 1505.76]` whenever the day-band ratio is in `[0,1]` -/
theorem band_light_bounds (h q : α) (hq0 : 0 ≤ q) (hq1 : q ≤ 1) :
    1.15e-5 ≤ bandLight h q ∧ bandLight h q ≤ 1505.76 := by
  unfold bandLight
  split_ifs <;> constructor <;> linarith

/-- continuity across the band edges: adjacent formulas agree at 0°, −6°, −12°, −18° -/
theorem band_light_continuity :
    (1500 * (0 : α) + 5.76 = ((5.76 - 0.048) / 6) * (6 + 0) + 0.048) ∧
    (((5.76 - 0.048) / 6) * (6 + (-6 : α)) + 0.048 = ((0.048 - 1.15e-4) / 6) * (12 + (-6)) + 1.15e-4) ∧
    (((0.048 - 1.15e-4) / 6) * (12 + (-12 : α)) + 1.15e-4 = ((1.15e-4 - 1.15e-5) / 6) * (18 + (-12)) + 1.15e-5) ∧
    (((1.15e-4 - 1.15e-5) / 6) * (18 + (-18 : α)) + 1.15e-5 = 1.15e-5) := by
  norm_num

/-- the masked-assignment cascade of `surface_light` as a function of height and ratio -/
def cascade (h q : α) : α :=
  let slight : α := (0.0 : α)
  let I0 : Bool := (decide (0.0 ≤ h))
  let I1 : Bool := ((decide ((-6.0) ≤ h)) && (decide (h < 0.0)))
  let I2 : Bool := ((decide ((-12.0) ≤ h)) && (decide (h < (-6.0))))
  let I3 : Bool := ((decide ((-18.0) ≤ h)) && (decide (h < (-12.0))))
  let I4 : Bool := (decide (h < (-18.0)))
  let slight : α := if I0 then ((1500.0 * q) + 5.76) else slight
  let slight : α := if I1 then ((((5.76 - 0.048) / 6.0) * (6.0 + h)) + 0.048) else slight
  let slight : α := if I2 then ((((0.048 - 0.000115) / 6.0) * (12.0 + h)) + 0.000115) else slight
  let slight : α := if I3 then ((((0.000115 - 1.15e-5) / 6.0) * (18.0 + h)) + 1.15e-5) else slight
  let slight : α := if I4 then 1.15e-5 else slight
  slight

theorem cascade_eq_band (h q : α) : cascade h q = bandLight h q := by
  unfold cascade bandLight
  simp only []
  lits
  by_cases h0 : 0 ≤ h
  · have a1 : ¬ h < 0 := not_lt.mpr h0
    have a2 : ¬ h < -6 := by linarith
    have a3 : ¬ h < -12 := by linarith
    have a4 : ¬ h < -18 := by linarith
    simp [h0, a1, a2, a3, a4]
  · have a1 : h < 0 := not_le.mp h0
    by_cases h6 : -6 ≤ h
    · have a2 : ¬ h < -6 := not_lt.mpr h6
      have a3 : ¬ h < -12 := by linarith
      have a4 : ¬ h < -18 := by linarith
      simp [h0, a1, h6, a2, a3, a4]
    · have a2 : h < -6 := not_le.mp h6
      by_cases h12 : -12 ≤ h
      · have a3 : ¬ h < -12 := not_lt.mpr h12
        have a4 : ¬ h < -18 := by linarith
        simp [h0, a1, h6, a2, h12, a3, a4]
      · have a3 : h < -12 := not_le.mp h12
        by_cases h18 : -18 ≤ h
        · have a4 : ¬ h < -18 := not_lt.mpr h18
          simp [h0, a1, h6, a2, h12, a3, h18, a4]
        · have a4 : h < -18 := not_le.mp h18
          simp [h0, a1, h6, a2, h12, a3, h18, a4]

/-- the generated `surface_light` *is* the band function of the generated sun height and day ratio -/
theorem surface_light_is_band (yday hours lon lat : α) :
    Gen.surface_light yday hours lon lat =
      bandLight (Gen.surface_light_height yday hours lon lat) (Gen.surface_light_ratio yday hours lon lat) := by
  rw [← cascade_eq_band]
  unfold Gen.surface_light Gen.surface_light_height Gen.surface_light_ratio cascade
  rfl

/-- hence: surface light is within `[1.15e-5, 1505.76]` whenever the day ratio is in `[0,1]`
(`day_ratio_unit`: that is the case when `sin h₁₂ > 0`; the `0/0` corner `sin h₁₂ = 0` at the pole in
polar night is a stated precondition) -/
theorem surface_light_bounds (yday hours lon lat : α)
    (hq0 : 0 ≤ Gen.surface_light_ratio yday hours lon lat) (hq1 : Gen.surface_light_ratio yday hours lon lat ≤ 1) :
    1.15e-5 ≤ Gen.surface_light yday hours lon lat ∧ Gen.surface_light yday hours lon lat ≤ 1505.76 := by
  rw [surface_light_is_band]
  exact band_light_bounds _ _ hq0 hq1

/-- the day-band ratio is in `[0,1]`: `sin h = a − b·cos τ ≤ a + b = sin h₁₂` for `b ≥ 0`, `|cos τ| ≤ 1` -/
theorem day_ratio_unit (a b c : α) (hb : 0 ≤ b) (hc0 : -1 ≤ c) (hc1 : c ≤ 1) (hnum : 0 ≤ a - b * c)
    (hden : 0 < a + b) : 0 ≤ (a - b * c) / (a + b) ∧ (a - b * c) / (a + b) ≤ 1 := by
  constructor
  · exact div_nonneg hnum hden.le
  · rw [div_le_one hden]; linarith [mul_nonneg hb (neg_le_iff_add_nonneg.1 hc0)]

/-- light decays with depth as `exp(−k·depth)` -/
theorem light_decay (l0 depth k : α) : Gen.light_at_depth l0 depth k = l0 * exp (-k * depth) := by
  unfold Gen.light_at_depth; rfl

theorem light_decay_monotone (hE : ExpLaws α) (l0 k d₁ d₂ : α) (hl : 0 ≤ l0) (hk : 0 ≤ k) (hd : d₁ ≤ d₂) :
    Gen.light_at_depth l0 d₂ k ≤ Gen.light_at_depth l0 d₁ k := by
  rw [light_decay, light_decay]
  apply mul_le_mul_of_nonneg_left _ hl
  apply hE.exp_mono
  rw [neg_mul, neg_mul]
  exact neg_le_neg (mul_le_mul_of_nonneg_left hd hk)

theorem light_decay_additive (hE : ExpLaws α) (l0 k d₁ d₂ : α) :
    Gen.light_at_depth l0 (d₁ + d₂) k = Gen.light_at_depth (Gen.light_at_depth l0 d₁ k) d₂ k := by
  simp only [light_decay]
  rw [mul_assoc, ← hE.exp_add]
  congr 2; ring

example : SqrtLaws ℝ ∧ ExpLaws ℝ ∧ RpowLaws ℝ := ⟨RealInst.sqrtLaws, RealInst.expLaws, RealInst.rpowLaws⟩

end C16
