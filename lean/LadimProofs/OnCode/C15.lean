import LadimProofs.C15
import LadimProofs.Bridge.Grid
/-!
# C15 — property theorems stated for the generated code

`Gen.sample3D_offsets`, `Gen.sample3D_weights`, `Gen.z2s_A`, `Gen.horzdiff_smag`, `Gen.vertdiff_value` are statement
windows of `chemicals/gridforce.py`, translated from /repo's current source on every run.
-/
open Ladim

set_option linter.unusedSectionVars false
set_option linter.unusedVariables false
namespace OnCode
variable {α : Type} [Field α] [LinearOrder α] [IsStrictOrderedRing α]

/-- `sample3D` never extrapolates: whatever the position (inside the grid or not), the sampled value lies between
the smallest and the largest of the eight corner values it reads, for every vertical weight in `[0, 1]` -/
theorem sample3D_between (X Y I J A lo hi : α) (f : Fin 8 → α) (hA0 : 0 ≤ A) (hA1 : A ≤ 1)
    (hf : ∀ i, lo ≤ f i ∧ f i ≤ hi) :
    lo ≤ Gen.sample3D_weights (Gen.sample3D_offsets X Y I J).1 (Gen.sample3D_offsets X Y I J).2 A
          (f 0) (f 1) (f 2) (f 3) (f 4) (f 5) (f 6) (f 7) ∧
    Gen.sample3D_weights (Gen.sample3D_offsets X Y I J).1 (Gen.sample3D_offsets X Y I J).2 A
          (f 0) (f 1) (f 2) (f 3) (f 4) (f 5) (f 6) (f 7) ≤ hi := by
  obtain ⟨p0, p1, q0, q1⟩ := Bridge.sample3D_offsets_unit X Y I J
  rw [← Bridge.sample3D_weights]
  exact C15.sample3D_convex _ _ A lo hi f p0 p1 q0 q1 hA0 hA1 hf

/-- the horizontal diffusivity is zero on land and never negative -/
theorem horzdiff_sign (A u00 u01 u10 u11 v00 v01 v10 v11 dx : α) (hdx : 0 ≤ dx) (atsea : Bool) :
    Gen.horzdiff_smag A u00 u01 u10 u11 v00 v01 v10 v11 dx false = 0 ∧
    0 ≤ Gen.horzdiff_smag A u00 u01 u10 u11 v00 v01 v10 v11 dx atsea := by
  rw [← Bridge.horzdiff_smag, ← Bridge.horzdiff_smag]
  exact ⟨C15.horzdiff_zero_on_land _ _ _, C15.horzdiff_nonneg _ _ _ _ hdx⟩

/-- the vertical diffusivity served is never negative; the `z2s` weight is in `[0, 1]` -/
theorem vertdiff_and_weight (f zk zkm1 Z : α) : 0 ≤ Gen.vertdiff_value f ∧ 0 ≤ Gen.z2s_A zk zkm1 Z ∧ Gen.z2s_A zk zkm1 Z ≤ 1 := by
  refine ⟨?_, Bridge.clip01 _⟩
  rw [← Bridge.vertdiff_value]
  exact C15.vertdiff_nonneg f

end OnCode
