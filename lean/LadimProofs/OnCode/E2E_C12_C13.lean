import LadimProofs.Bridge.FjordIbmSeq
import LadimProofs.Bridge.Nk800ClsSeq
import LadimProofs.Bridge.BioSeq
import Mathlib.Data.Fintype.Card
import Mathlib.Data.Fintype.Prod
import Mathlib.Data.Rat.Floor
/-!
# C12, C13 — the property's clauses stated and proved about the INTERPRETATION OF THE CURRENT SOURCE

**Property C12 — The fish velocity field leads every reachable sea cell to the open ocean.**
STATEMENT: The fjord index of every sea cell equals the length of its shortest four-connected sea path to the open-ocean region (cells farther than the configured distance from land); land cells are obstacles and basins without such a path stay unknown. Following the fish velocity field from any reachable sea cell, in the grid coordinates the tracker uses, lowers the index by one per cell, never enters land or leaves the grid, and ends in the ocean, where the velocity is zero and the fish is retired.
QUANTIFIER: all land/sea masks (exhaustively for small grids, randomly for larger ones), all ocean distances, all start cells

**Property C13 — NorKyst-800 forcing: right time weights, transparent cache, valid grid metrics.**
STATEMENT: Currents returned for time t are the linear interpolation between the hourly fields that bracket t and equal the stored field at whole hours, and fields come from the file of the requested day and hour regardless of which times were requested before. Every position the grid reports as inside yields finite cell sizes and a depth, lon/lat to grid conversion matches the file's own coordinate arrays, and depth to level conversion is monotone and exact at the tabulated depths.
QUANTIFIER: all times within the available files (whole hours, any fraction, crossing hours and days), all sub-step fractions used by the integrators, all request histories (forward, repeated, back-and-forth), all in-grid positions including the outermost cells

Every `c12_…` / `c13_…` theorem below has the interpretation of the generated statement sequences (`Gen.vps_*_seq`,
`Gen.nk_*_seq`, run by the interpreters of `LadimModel/Grid/{FjordSeq,FjordIbmSeq}.lean`,
`LadimModel/Forcing/{Nk800Seq,Nk800ClsSeq}.lean`, `LadimModel/IBM/BioSeq.lean`) or the generated formula
`Gen.nk_interp` as its subject; the bridges (`LadimProofs/Bridge/*.lean`) and the model theorems (`LadimProofs/C12*.lean`,
`C13*.lean`) are used as lemmas only.  The specification side is written with notions defined here from the inputs
alone (`OceanCell`, `SeaPath`, `ShortestSeaPath`, `fishTrajectory`, `LiveEntries`, `nkRunHistory`), not with the
functions of the hand-written model.

C12 (`vps/ibm.py`, `vps/gridforce.py`; scipy's `generic_filter` / `binary_dilation` are the reference instances
`fiGenericFilterRef` / `fiBinaryDilationRef` of the interpreter):
* `c12_fjord_index_is_shortest_sea_path` — clause 1, full strength (new here: the open-ocean region characterised by
  the taxicab distance to land, and "no path of any length" for closed basins — a shortest path is shorter than the
  number of cells);
* `c12_descent_lowers_index` — index decrease / u-direction / zero velocity in the ocean, for the text as it is;
* `c12_follow_reaches_ocean` — following the field, for the orientation the text SHOULD have (known finding F-C12a);
  `c12_current_orientation_enters_land` — the finding on the interpreted functions;
* `c12_served_field`, `c12_velocity_serves_grid_cell` — what the gridforce stores and serves; `c12_fish_retired`.

C13 (`nk800met/gridforce.py`):
* `c13_time_blend` — linear interpolation for the repaired text, the mirrored interpolant for the text as it is
  (known finding F-C13a);
* `c13_velocity_served`, `c13_velocity_history` — `update` + `velocity` with every callee interpreted;
* `c13_get_var_history`, `c13_get_dset_history`, `c13_buffer_two_frames` — the cache is transparent, two frames live;
* `c13_ingrid_metric_depth`, `c13_ll2xy_matches_coordinates_partial`, `c13_z2k_monotone_exact` — the grid.
-/
open Ladim Ladim.Seq Ladim.Fjord Ladim.Nk800

set_option linter.unusedSectionVars false
set_option linter.unusedVariables false
namespace OnCode

/-! ## Concrete instances for the `example`s (each main theorem is followed by an `example` that instantiates its
hypotheses) -/

/-- a 4 × 1 grid `sea, sea, sea, land` -/
def c12ExLand : Mat := ⟨4, 1, fun i _ => if i = 3 then 1 else 0⟩
/-- its sea mask -/
def c12ExMask : Mat := ⟨4, 1, fun i _ => if i = 3 then 0 else 1⟩

theorem c12ExLand_land01 : C12.Land01 c12ExLand := by
  intro i j _
  by_cases h : i = 3 <;> simp [c12ExLand, h]

theorem c12ExMask_01 : ∀ i j, c12ExMask.inBox i j = true → (c12ExMask.val i j = 0 ∨ c12ExMask.val i j = 1) := by
  intro i j _
  by_cases h : i = 3 <;> simp [c12ExMask, h]

namespace C1213ExQ
/-- the rationals with `round` = nearest integer (ties up), `astype(int)` = floor, `ofInt` = the cast; the other
function classes (not used by the functions instantiated below) get placeholders -/
scoped instance e2eC12C13_HasRoundRat : HasRound ℚ := ⟨fun q => ((⌊q + 1 / 2⌋ : Int) : ℚ)⟩
scoped instance e2eC12C13_HasTruncRat : HasTrunc ℚ := ⟨fun q => ⌊q⌋⟩
scoped instance e2eC12C13_HasOfIntRat : HasOfInt ℚ := ⟨fun i => (i : ℚ)⟩
scoped instance e2eC12C13_HasSqrtRat : HasSqrt ℚ := ⟨id⟩
scoped instance e2eC12C13_HasExpRat : HasExp ℚ := ⟨id⟩
scoped instance e2eC12C13_HasLogRat : HasLog ℚ := ⟨id⟩
scoped instance e2eC12C13_HasSinRat : HasSin ℚ := ⟨id⟩
scoped instance e2eC12C13_HasCosRat : HasCos ℚ := ⟨id⟩
scoped instance e2eC12C13_HasAsinRat : HasAsin ℚ := ⟨id⟩
scoped instance e2eC12C13_HasRpowRat : HasRpow ℚ := ⟨fun a _ => a⟩
scoped instance e2eC12C13_HasPiRat : HasPi ℚ := ⟨3⟩
scoped instance e2eC12C13_HasNarrowRat : HasNarrow ℚ := ⟨id⟩

theorem exQ_trunc (k : Int) : trunc (ofInt k : ℚ) = k := Int.floor_intCast k
theorem exQ_lt (a b : Int) : (ofInt a : ℚ) < ofInt b ↔ a < b := Int.cast_lt
theorem exQ_ofInt (i : Int) : (ofInt i : ℚ) = (i : ℚ) := rfl
theorem exQ_round (x : ℚ) : ((roundInt x : Int) : ℚ) - 1 / 2 ≤ x ∧ x ≤ ((roundInt x : Int) : ℚ) + 1 / 2 := by
  have e : roundInt x = ⌊x + 1 / 2⌋ := by
    show ⌊((⌊x + 1 / 2⌋ : Int) : ℚ)⌋ = _
    exact Int.floor_intCast _
  rw [e]
  exact ⟨sub_le_iff_le_add.2 (Int.floor_le _), by linarith [Int.lt_floor_add_one (x + 1 / 2)]⟩
theorem exQ_round_eq (x : ℚ) (k : Int) (h : (k : ℚ) ≤ x + 1 / 2 ∧ x + 1 / 2 < k + 1) : Ladim.round x = (ofInt k : ℚ) :=
  congrArg Int.cast (Int.floor_eq_iff.2 h)
end C1213ExQ

/-! ## C12 -/

/-- `ibm.fjord_index(land, d)` as the generated sequences say -/
abbrev fjordIndexOnCode (land : Mat) (d : Int) : Option (Option Mat) :=
  fiFjordIndexSeq fiGenericFilterRef fiBinaryDilationRef fiTaxicab land d

/-- `ibm.descent(w)` as the generated sequences say -/
abbrev descentOnCode (w : Mat) : Option (Option ((Int → Int → Int) × (Int → Int → Int))) :=
  fiDescentSeq fiGenericFilterRef fiTaxicab w

/-- taxicab distance between two cells -/
def c12Taxi (i j a b : Int) : Nat := (i - a).natAbs + (j - b).natAbs

/-- open-ocean cell: a sea cell at least `d` cells (taxicab) from every land cell of the grid -/
def OceanCell (land : Mat) (d : Int) (i j : Int) : Prop :=
  land.val i j = 0 ∧ ∀ a b, land.inBox a b = true → land.val a b = 1 → d ≤ (c12Taxi i j a b : Int)

theorem c12_inBox_of_shape {m m' : Mat} (hr : m.rows = m'.rows) (hc : m.cols = m'.cols) (i j : Int) :
    m.inBox i j = m'.inBox i j := by
  unfold Mat.inBox
  rw [hr, hc]

theorem c12_get_ne_zero (m : Mat) (i j : Int) : m.get 0 i j ≠ 0 ↔ m.inBox i j = true ∧ m.val i j ≠ 0 := by
  by_cases hb : m.inBox i j = true
  · rw [C12BFS.get_of_inBox m 0 i j hb, and_iff_right hb]
  · rw [C12BFS.get_of_not_inBox m 0 i j hb]
    exact ⟨fun h => absurd rfl h, fun h => absurd h.1 hb⟩

theorem c12_bdilateIter_get (land : Mat) (k : Nat) (i j : Int) :
    (bdilateIter land k).get 0 i j ≠ 0 ↔
      (land.inBox i j = true ∧ ∃ a b, land.inBox a b = true ∧ land.val a b ≠ 0 ∧ c12Taxi i j a b ≤ k) := by
  induction k generalizing i j with
  | zero =>
    show land.get 0 i j ≠ 0 ↔ _
    rw [c12_get_ne_zero]
    refine and_congr_right fun hb => ⟨fun h => ⟨i, j, hb, h, by unfold c12Taxi; omega⟩, ?_⟩
    rintro ⟨a, b, _, hv, ht⟩
    obtain ⟨rfl, rfl⟩ : a = i ∧ b = j := by unfold c12Taxi at ht; omega
    exact hv
  | succ k ih =>
    rw [c12_get_ne_zero, c12_inBox_of_shape (C12.bdilateIter_rows land (k + 1)).1 (C12.bdilateIter_rows land (k + 1)).2]
    refine and_congr_right fun hb => ?_
    show bdilateAt (bdilateIter land k) i j ≠ 0 ↔ _
    rw [bdilateAt, ite_ne_right_iff, and_iff_left (by decide)]
    simp only [ih]
    constructor
    · rintro (h | h | h | h | h) <;>
      · obtain ⟨_, a, b, hab, hv, ht⟩ := h
        exact ⟨a, b, hab, hv, by unfold c12Taxi at ht ⊢; omega⟩
    · rintro ⟨a, b, hab, hv, ht⟩
      have near : ∀ {i' j'}, land.inBox i' j' = true ∧ c12Taxi i' j' a b ≤ k →
          land.inBox i' j' = true ∧ ∃ a b, land.inBox a b = true ∧ land.val a b ≠ 0 ∧ c12Taxi i' j' a b ≤ k :=
        fun h => ⟨h.1, a, b, hab, hv, h.2⟩
      -- the cell itself, or its neighbour one step towards `(a, b)`, which lies in the grid because both ends do
      have key : (land.inBox i j = true ∧ c12Taxi i j a b ≤ k) ∨
          (land.inBox (i - 1) j = true ∧ c12Taxi (i - 1) j a b ≤ k) ∨
          (land.inBox i (j - 1) = true ∧ c12Taxi i (j - 1) a b ≤ k) ∨
          (land.inBox i (j + 1) = true ∧ c12Taxi i (j + 1) a b ≤ k) ∨
          (land.inBox (i + 1) j = true ∧ c12Taxi (i + 1) j a b ≤ k) := by
        simp only [Mat.inBox, decide_eq_true_eq, c12Taxi] at hb hab ht ⊢
        by_cases h0 : (i - a).natAbs + (j - b).natAbs ≤ k
        · exact Or.inl ⟨hb, h0⟩
        by_cases h1 : i < a
        · exact Or.inr (Or.inr (Or.inr (Or.inr (by omega))))
        by_cases h2 : a < i
        · exact Or.inr (Or.inl (by omega))
        by_cases h3 : j < b
        · exact Or.inr (Or.inr (Or.inr (Or.inl (by omega))))
        · exact Or.inr (Or.inr (Or.inl (by omega)))
      exact key.imp near (Or.imp near (Or.imp near (Or.imp near near)))

/-- the sources of the distance computation are exactly the open-ocean cells -/
theorem c12_fjordInput_zero_iff (land : Mat) (hl : C12.Land01 land) (d : Int) (i j : Int) (hb : land.inBox i j = true) :
    (fjordInput land d).val i j = 0 ↔ OceanCell land d i j := by
  obtain ⟨h01, -⟩ := C12.notOcean_spec land hl d i j hb
  have hsum : (fjordInput land d).val i j = 0 ↔ land.val i j = 0 ∧ ¬ (notOcean land d).get 0 i j ≠ 0 := by
    rw [C12.fjordInput_val, C12BFS.get_of_inBox land 0 i j hb]
    rcases hl i j hb with h | h <;> rcases h01 with a | a <;> omega
  have hno : (notOcean land d).get 0 i j ≠ 0 ↔
      (1 < d ∧ ∃ a b, land.inBox a b = true ∧ land.val a b ≠ 0 ∧ c12Taxi i j a b ≤ (d - 1).toNat) ∨
      (¬ 1 < d ∧ land.val i j ≠ 0) := by
    unfold notOcean
    split_ifs with hd
    · unfold binaryDilation
      rw [if_neg (by omega), c12_bdilateIter_get, and_iff_right hb, or_iff_left (fun h => h.1 hd), and_iff_right hd]
    · rw [C12BFS.get_of_inBox land 0 i j hb, or_iff_right (fun h => hd h.1), and_iff_right hd]
  rw [hsum, hno]
  refine and_congr_right fun hv0 => ⟨fun h a b hab hv => ?_, fun hall => ?_⟩
  · by_contra hlt
    apply h
    by_cases hd : 1 < d
    · exact Or.inl ⟨hd, a, b, hab, by omega, by omega⟩
    · obtain ⟨rfl, rfl⟩ : a = i ∧ b = j := by unfold c12Taxi at hlt; omega
      omega
  · rintro (⟨hd, a, b, hab, hv, ht⟩ | ⟨-, h⟩)
    · have := hall a b hab ((hl a b hab).resolve_left hv)
      omega
    · exact h hv0

/-- the obstacles of the distance computation are exactly the land cells -/
theorem c12_fjordInput_obstacle_iff (land : Mat) (hl : C12.Land01 land) (d : Int) (i j : Int)
    (hb : land.inBox i j = true) : (fjordInput land d).val i j ≠ -2 ↔ land.val i j = 0 := by
  constructor
  · intro h
    rcases hl i j hb with h0 | h1
    · exact h0
    · exact absurd (C12.land_is_obstacle land hl d i j hb h1) h
  · intro h0
    obtain ⟨h01, _⟩ := C12.notOcean_spec land hl d i j hb
    rw [C12.fjordInput_val, C12BFS.get_of_inBox land 0 i j hb, h0]
    rcases h01 with a | a <;> rw [a] <;> decide

/-- a four-connected walk of exactly `n` steps from an open-ocean cell to `(i, j)` through sea cells of the grid -/
inductive SeaPath (land : Mat) (d : Int) : Nat → Int → Int → Prop
  | src (i j : Int) : land.inBox i j = true → OceanCell land d i j → SeaPath land d 0 i j
  | step (n : Nat) (i j i' j' : Int) : SeaPath land d n i j → C12.Adj i j i' j' → land.inBox i' j' = true →
      land.val i' j' = 0 → SeaPath land d (n + 1) i' j'

/-- `n` is the length of the shortest such walk -/
def ShortestSeaPath (land : Mat) (d : Int) (n : Nat) (i j : Int) : Prop :=
  SeaPath land d n i j ∧ ∀ n' < n, ¬ SeaPath land d n' i j

theorem c12_seaPath_iff_reach (land : Mat) (hl : C12.Land01 land) (d : Int) (n : Nat) (i j : Int) :
    SeaPath land d n i j ↔ C12.Reach (fjordInput land d) n i j := by
  constructor
  · intro h
    induction h with
    | src i j hb ho => exact C12.Reach.src i j hb ((c12_fjordInput_zero_iff land hl d i j hb).2 ho)
    | step n i j i' j' _ ha hb hv ih =>
      exact C12.Reach.step n i j i' j' ih ha hb ((c12_fjordInput_obstacle_iff land hl d i' j' hb).2 hv)
  · intro h
    induction h with
    | src i j hb hv => exact SeaPath.src i j hb ((c12_fjordInput_zero_iff land hl d i j hb).1 hv)
    | step n i j i' j' _ ha hb hv ih =>
      exact SeaPath.step n i j i' j' ih ha hb ((c12_fjordInput_obstacle_iff land hl d i' j' hb).1 hv)

theorem c12_shortest_iff_isDist (land : Mat) (hl : C12.Land01 land) (d : Int) (n : Nat) (i j : Int) :
    ShortestSeaPath land d n i j ↔ C12.IsDist (fjordInput land d) n i j := by
  simp only [ShortestSeaPath, C12.IsDist, c12_seaPath_iff_reach land hl]

/-! #### a shortest path visits every cell at most once: its length is below the number of cells -/

theorem c12_isDist_pred (m : Mat) (n : Nat) (i j : Int) (h : C12.IsDist m (n + 1) i j) :
    ∃ a b, C12.IsDist m n a b := by
  obtain ⟨_, _, a, b, hadj, hr⟩ := (C12BFS.reach_succ_iff m n i j).1 h.1
  refine ⟨a, b, hr, ?_⟩
  intro n' hn' hr'
  have hib := C12BFS.reach_inBox m _ i j h.1
  exact h.2 (n' + 1) (by omega) (C12.Reach.step n' a b i j hr' (C12BFS.adj_symm hadj) hib.1 hib.2)

theorem c12_isDist_levels (m : Mat) (n : Nat) (i j : Int) (h : C12.IsDist m n i j) :
    ∀ t ≤ n, ∃ a b, C12.IsDist m t a b := by
  induction n generalizing i j with
  | zero => intro t ht; exact ⟨i, j, by rwa [Nat.le_zero.1 ht]⟩
  | succ n ih =>
    intro t ht
    rcases Nat.lt_or_ge t (n + 1) with hlt | hge
    · obtain ⟨a, b, hab⟩ := c12_isDist_pred m n i j h
      exact ih a b hab t (by omega)
    · exact ⟨i, j, by rwa [Nat.le_antisymm ht hge]⟩

theorem c12_isDist_lt_size (m : Mat) (n : Nat) (i j : Int) (h : C12.IsDist m n i j) : n < m.rows * m.cols := by
  classical
  have hlev := c12_isDist_levels m n i j h
  choose! fa fb hf using hlev
  have hbox : ∀ t : Fin (n + 1), 0 ≤ fa t ∧ fa t < m.rows ∧ 0 ≤ fb t ∧ fb t < m.cols := by
    intro t
    have := (C12BFS.reach_inBox m _ _ _ (hf t (by omega)).1).1
    simpa [Mat.inBox] using this
  let g : Fin (n + 1) → Fin m.rows × Fin m.cols := fun t =>
    (⟨(fa t).toNat, by have := hbox t; omega⟩, ⟨(fb t).toNat, by have := hbox t; omega⟩)
  have hg : Function.Injective g := by
    intro s t hst
    have h1 : (fa s).toNat = (fa t).toNat := congrArg (fun p => p.1.val) hst
    have h2 : (fb s).toNat = (fb t).toNat := congrArg (fun p => p.2.val) hst
    have hs := hbox s
    have ht := hbox t
    have ea : fa s = fa t := by omega
    have eb : fb s = fb t := by omega
    have := C12BFS.isDist_unique m (fa s) (fb s) s t (hf s (by omega)) (by rw [ea, eb]; exact hf t (by omega))
    exact Fin.ext this
  have := Fintype.card_le_of_injective g hg
  simp only [Fintype.card_fin, Fintype.card_prod] at this
  omega

theorem c12_fjordIndex_sea (land : Mat) (hl : C12.Land01 land) (d : Int) (i j : Int) (hb : land.inBox i j = true)
    (h0 : land.val i j = 0) :
    (∀ n : Nat, (fjordIndex land d).val i j = (n : Int) ↔ ShortestSeaPath land d n i j) ∧
      ((fjordIndex land d).val i j = -1 ↔ ∀ n, ¬ SeaPath land d n i j) ∧
      (OceanCell land d i j ↔ (fjordIndex land d).val i j = 0) := by
  obtain ⟨ha, hb'⟩ := (C12.fjord_index_is_shortest_path land hl d i j hb).2 h0
  have hbound : ∀ n, C12.IsDist (fjordInput land d) n i j → n ≤ land.rows * land.cols := fun n hn =>
    Nat.le_of_lt (c12_isDist_lt_size (fjordInput land d) n i j hn)
  have hshort : ∀ n : Nat, (fjordIndex land d).val i j = (n : Int) ↔ ShortestSeaPath land d n i j := by
    intro n
    rw [ha n, c12_shortest_iff_isDist land hl]
    exact ⟨fun h => h.2, fun h => ⟨hbound n h, h⟩⟩
  refine ⟨hshort, ?_, ?_⟩
  · rw [hb']
    constructor
    · intro h n hp
      obtain ⟨n', _, hd⟩ := C12BFS.reach_exists_dist _ i j n ((c12_seaPath_iff_reach land hl d n i j).1 hp)
      exact h n' (hbound n' hd) hd.1
    · intro h n _ hr
      exact h n ((c12_seaPath_iff_reach land hl d n i j).2 hr)
  · have := hshort 0
    rw [Nat.cast_zero] at this
    rw [this]
    constructor
    · intro ho; exact ⟨SeaPath.src i j hb ho, fun n' hn' => absurd hn' (Nat.not_lt_zero n')⟩
    · rintro ⟨hp, _⟩
      cases hp with
      | src _ _ _ ho => exact ho

theorem c12_sea_of_index (land : Mat) (hl : C12.Land01 land) (d : Int) (i j : Int) (hb : land.inBox i j = true)
    (h : (fjordIndex land d).val i j ≠ -2) : land.val i j = 0 :=
  (hl i j hb).resolve_right fun h1 => h ((C12.fjord_index_is_shortest_path land hl d i j hb).1 h1)

/-- **C12, clause 1 (the fjord index is the shortest-path distance), on the interpretation of
`Gen.vps_fjord_index_seq` / `vps_distance_seq` / `vps_dilate_seq` / `vps_dilate_filter_seq`.**
For every 0/1 land matrix and every ocean distance `d` the code returns a matrix `w` of the shape of `land` with, for
every cell of the grid: `-2` on land (obstacle); on a sea cell, `w[i, j] = n ≥ 0` iff `n` is the length of the
shortest four-connected sea path from the open-ocean region (sea cells at least `d` cells from all land) to `(i, j)`;
and `-1` ("unknown") iff there is no such path at all (closed basin).

Hypothesis forced by the bridge (`Bridge.vps_fjord_index_land01`): `Land01 land` — the matrix holds only 0 and 1; it
is also the property's side condition "land/sea mask" (the code normalises with `astype(bool)`, the model does not). -/
theorem c12_fjord_index_is_shortest_sea_path (land : Mat) (hl : C12.Land01 land) (d : Int) :
    ∃ w : Mat, fjordIndexOnCode land d = some (some w) ∧ w.rows = land.rows ∧ w.cols = land.cols ∧
      ∀ i j, land.inBox i j = true →
        (land.val i j = 1 → w.val i j = -2) ∧
        (land.val i j = 0 →
          (∀ n : Nat, w.val i j = (n : Int) ↔ ShortestSeaPath land d n i j) ∧
          (w.val i j = -1 ↔ ∀ n, ¬ SeaPath land d n i j) ∧
          (OceanCell land d i j ↔ w.val i j = 0)) := by
  exact ⟨fjordIndex land d, Bridge.vps_fjord_index_land01 land hl d, C12BFS.dilateIter_rows _ _,
    C12BFS.dilateIter_cols _ _, fun i j hb =>
      ⟨(C12.fjord_index_is_shortest_path land hl d i j hb).1, c12_fjordIndex_sea land hl d i j hb⟩⟩

/-- example: `c12ExLand`, ocean distance 2 — the hypothesis `Land01` holds; the theorem gives: cell `(2, 0)` (index 1) has
a shortest sea path of length 1, cell `(1, 0)` is an open-ocean cell -/
example : ShortestSeaPath c12ExLand 2 1 2 0 ∧ OceanCell c12ExLand 2 1 0 := by
  obtain ⟨w, hw, _, _, h⟩ := c12_fjord_index_is_shortest_sea_path c12ExLand c12ExLand_land01 2
  obtain rfl : fjordIndex c12ExLand 2 = w :=
    Option.some.inj (Option.some.inj ((Bridge.vps_fjord_index_land01 _ c12ExLand_land01 2).symm.trans hw))
  exact ⟨((h 2 0 (by decide)).2 (by decide)).1 1 |>.1 (by decide),
    ((h 1 0 (by decide)).2 (by decide)).2.2.2 (by decide)⟩

/-! #### the direction field of `descent` on the fjord index -/

theorem c12_fjordIndex_inBox (land : Mat) (d : Int) (i j : Int) :
    (fjordIndex land d).inBox i j = land.inBox i j :=
  c12_inBox_of_shape (C12BFS.dilateIter_rows _ _) (C12BFS.dilateIter_cols _ _) i j

theorem c12_dir_zero (land : Mat) (d : Int) (i j : Int) (hb : land.inBox i j = true)
    (hle : (fjordIndex land d).val i j ≤ 0) : descentDir (fjordIndex land d) i j = 0 :=
  C12.ocean_velocity_zero _ i j
    (by rw [C12BFS.get_of_inBox _ (-1) i j (by rw [c12_fjordIndex_inBox]; exact hb)]; exact hle)

theorem c12_uv_unit (k : Nat) (h0 : k ≠ 0) (h5 : k < 5) :
    (uOf k, vOf k) = (-1, 0) ∨ (uOf k, vOf k) = (1, 0) ∨ (uOf k, vOf k) = (0, -1) ∨ (uOf k, vOf k) = (0, 1) := by
  revert h0
  revert k
  decide

/-- **C12, clause 2a (index decrease, u-direction; the text as it is), on the interpretation of
`Gen.vps_fjord_index_seq` and `Gen.vps_descent_seq` / `vps_descent_filter_type_seq`.**
`descent(fjord_index(land, d))` returns `(u, v)` with, for every cell of the grid:
* fjord index `n + 1 > 0` (a fish cell inside the fjord): `(u, v)` is one of the four unit steps, and the neighbour in
  column direction `+u` and row direction `−v` (`v = +1` means "up" = row − 1: picture orientation, the orientation in
  which `ibm.descent` is written and documented) lies inside the grid, is a sea cell, and has fjord index exactly `n`;
* fjord index `0` (open ocean), `-1` (closed basin) or `-2` (land): `u = v = 0`.
In particular the `u` (column / `X`) component is served by the gridforce with the right sign: when the step is
horizontal (`v = 0`) the cell `(i, j + u)` has the smaller index.

Hypothesis forced by the bridge: `Land01 land` (see `c12_fjord_index_is_shortest_sea_path`). -/
theorem c12_descent_lowers_index (land : Mat) (hl : C12.Land01 land) (d : Int) :
    ∃ (w : Mat) (u v : Int → Int → Int), fjordIndexOnCode land d = some (some w) ∧
      descentOnCode w = some (some (u, v)) ∧
      ∀ i j, land.inBox i j = true →
        (∀ n : Nat, w.val i j = (n : Int) + 1 →
          ((u i j, v i j) = (-1, 0) ∨ (u i j, v i j) = (1, 0) ∨ (u i j, v i j) = (0, -1) ∨ (u i j, v i j) = (0, 1)) ∧
          land.inBox (i - v i j) (j + u i j) = true ∧ land.val (i - v i j) (j + u i j) = 0 ∧
          w.val (i - v i j) (j + u i j) = (n : Int)) ∧
        (w.val i j ≤ 0 → u i j = 0 ∧ v i j = 0) := by
  refine ⟨fjordIndex land d, _, _, Bridge.vps_fjord_index_land01 land hl d, Bridge.vps_descent _, ?_⟩
  intro i j hb
  have hbw : (fjordIndex land d).inBox i j = true := by rw [c12_fjordIndex_inBox]; exact hb
  have hdesc : C12BFS.Descending (fjordIndex land d) :=
    C12BFS.dilateIter_descending _ (C12.fjordInput_init land hl d) _
  constructor
  · intro n hv
    obtain ⟨hlow, hex⟩ := hdesc i j n hbw hv
    obtain ⟨hne, _, hb2, hv2⟩ := C12BFS.descent_lowers _ i j n hbw hv hlow hex
    have hb2' : land.inBox (i - vOf (descentDir (fjordIndex land d) i j))
        (j + uOf (descentDir (fjordIndex land d) i j)) = true := by rw [← c12_fjordIndex_inBox land d]; exact hb2
    exact ⟨c12_uv_unit _ hne (Bridge.vps_descent_dir_lt _ i j), hb2',
      c12_sea_of_index land hl d _ _ hb2' (by rw [hv2]; omega), hv2⟩
  · intro hle
    simp only [c12_dir_zero land d i j hb hle]
    exact ⟨rfl, rfl⟩

/-- example: the theorem applies to `c12ExLand` (its only hypothesis is `Land01`) -/
example := c12_descent_lowers_index c12ExLand c12ExLand_land01 2

/-! #### following the field -/

/-- one step of the particle tracker on a direction field `(u, v)` indexed `[row, column]`: the column index (`X`)
grows by `u`, the row index (`Y`) by `sv * v`; `sv = 1`: `v` used as it comes from `ibm.descent` (the text
`self._fish_v = v * …`), `sv = -1`: the text `self._fish_v = -v * …` -/
def fishTrackerStep (sv : Int) (u v : Int → Int → Int) (c : Int × Int) : Int × Int :=
  (c.1 + sv * v c.1 c.2, c.2 + u c.1 c.2)

/-- the cells visited in `k` tracker steps, the start cell first -/
def fishTrajectory (f : Int × Int → Int × Int) : Nat → Int × Int → List (Int × Int)
  | 0, c => [c]
  | k + 1, c => c :: fishTrajectory f k (f c)

/-- the sign with which the text of `_compute_fish_velocity` stores `v` -/
def vSignFactor : VSign → Int
  | .picture => 1
  | .grid => -1

theorem c12_trajectory_eq_follow (w : Mat) (k : Nat) (c : Int × Int) :
    fishTrajectory (fishTrackerStep (-1) (fun i j => uOf (descentDir w i j)) (fun i j => vOf (descentDir w i j))) k c
      = follow .grid w k c := by
  induction k generalizing c with
  | zero => rfl
  | succ k ih =>
    show c :: _ = c :: _
    rw [ih]
    congr 2
    show (c.1 + -1 * vOf (descentDir w c.1 c.2), _) = (c.1 - vOf (descentDir w c.1 c.2), _)
    congr 1; omega

/-- **C12, clause 2b (following the field reaches the ocean), on the interpretation of `Gen.vps_fjord_index_seq` and
`Gen.vps_descent_seq`, for the orientation the gridforce text SHOULD have** (`sv = -1`, i.e. `self._fish_v = -v * …`;
known finding F-C12a: the current text has `sv = +1`, see `c12_served_field` and `c12_current_orientation_enters_land`).
From any cell of the grid with fjord index `n ≥ 0` (a reachable sea cell) the tracker visits `n + 1` cells; every one of
them is inside the grid and a sea cell; the `t`-th has fjord index `n − t` (one lower per step); the last one has index
0, is an open-ocean cell, and there `u = v = 0` (the fish stays, and `update_ibm` retires it: `c12_fish_retired`).

Hypothesis forced by the bridge: `Land01 land`. -/
theorem c12_follow_reaches_ocean (land : Mat) (hl : C12.Land01 land) (d : Int) :
    ∃ (w : Mat) (u v : Int → Int → Int), fjordIndexOnCode land d = some (some w) ∧
      descentOnCode w = some (some (u, v)) ∧
      ∀ (n : Nat) (i j : Int), land.inBox i j = true → w.val i j = (n : Int) →
        (fishTrajectory (fishTrackerStep (-1) u v) n (i, j)).length = n + 1 ∧
        (∀ c ∈ fishTrajectory (fishTrackerStep (-1) u v) n (i, j), land.inBox c.1 c.2 = true ∧ land.val c.1 c.2 = 0) ∧
        (∀ t : Nat, t ≤ n → ∃ c, (fishTrajectory (fishTrackerStep (-1) u v) n (i, j))[t]? = some c ∧
            w.val c.1 c.2 = (n : Int) - (t : Int)) ∧
        (∃ c, (fishTrajectory (fishTrackerStep (-1) u v) n (i, j))[n]? = some c ∧ OceanCell land d c.1 c.2 ∧
            u c.1 c.2 = 0 ∧ v c.1 c.2 = 0 ∧ fishTrackerStep (-1) u v c = c) := by
  refine ⟨fjordIndex land d, _, _, Bridge.vps_fjord_index_land01 land hl d, Bridge.vps_descent _, ?_⟩
  intro n i j hb hv
  rw [c12_trajectory_eq_follow]
  obtain ⟨h1, h2, h3⟩ := C12.follow_fjord_index_reaches_ocean land hl d n i j hb hv
  have hsea : ∀ c ∈ follow .grid (fjordIndex land d) n (i, j), land.inBox c.1 c.2 = true ∧ land.val c.1 c.2 = 0 := by
    intro c hc
    obtain ⟨hcb, hcv⟩ := h2 c hc
    rw [c12_fjordIndex_inBox] at hcb
    exact ⟨hcb, c12_sea_of_index land hl d _ _ hcb hcv⟩
  refine ⟨h1, hsea, h3, ?_⟩
  obtain ⟨c, hc, hcv⟩ := h3 n (Nat.le_refl n)
  have hcv0 : (fjordIndex land d).val c.1 c.2 = 0 := by rw [hcv]; omega
  have hmem : c ∈ follow .grid (fjordIndex land d) n (i, j) := List.mem_of_getElem? hc
  obtain ⟨hcb, hcs⟩ := hsea c hmem
  have hd0 := c12_dir_zero land d c.1 c.2 hcb hcv0.le
  refine ⟨c, hc, ?_, ?_, ?_, ?_⟩
  · exact (c12_fjordIndex_sea land hl d c.1 c.2 hcb hcs).2.2.2 hcv0
  · simp only [hd0]; rfl
  · simp only [hd0]; rfl
  · unfold fishTrackerStep; simp only [hd0]; show (c.1 + -1 * 0, c.2 + 0) = c; simp

/-- example: the theorem applies to `c12ExLand`; there cell `(2, 0)` has index 1 (`c12_current_orientation_enters_land`) -/
example := c12_follow_reaches_ocean c12ExLand c12ExLand_land01 2

/-! #### `vps/gridforce.py`: the field that is stored and served -/

/-- **C12, the gridforce side (`_ocean_dist_cells`, `_compute_fish_velocity`, `fish_u`, `fish_v`), on the
interpretation of `Gen.vps_ocean_dist_cells_seq`, `Gen.vps_compute_fish_velocity_seq`, `Gen.vps_fish_u_seq`,
`Gen.vps_fish_v_seq`, tied to the interpretation of the `ibm` functions.**
For a 0/1 sea mask `M`: the field stored is the swimming speed times the direction field `(u, v)` that the
interpreted `ibm.descent(ibm.fjord_index(1 - M, d))` returns, `d` the interpreted `_ocean_dist_cells()`; the `u`
component as it is, the `v` component with the sign `vSignFactor s`, `s` the sign the generated text shows
(`self._fish_v = v * …`: `+1`, the text as it is, known finding F-C12a; `self._fish_v = -v * …`: `-1`, the orientation
for which `c12_follow_reaches_ocean` holds).  From the empty cache of the constructor `fish_u` computes both arrays,
`fish_v` then serves the cached one.

Hypothesis forced by the bridges: `M` holds only 0 and 1 (then `1 - M` is a `Land01` matrix). -/
theorem c12_served_field {α : Type} [Add α] [Sub α] [Mul α] [Div α] [LT α] [DecidableLT α] [OfScientific α]
    [HasRound α] [HasTrunc α] [HasOfInt α]
    (M : Mat) (hM : ∀ i j, M.inBox i j = true → (M.val i j = 0 ∨ M.val i j = 1)) (oceanDistance dx00 speed : α) :
    ∃ (s : VSign) (d : Int) (w : Mat) (u v : Int → Int → Int) (f : Fjord.Field α),
      vSignSeen Gen.vps_compute_fish_velocity_seq = some s ∧
      oceanDistCellsSeq oceanDistance dx00 = some (some d) ∧
      fjordIndexOnCode ⟨M.rows, M.cols, fun i j => 1 - M.val i j⟩ d = some (some w) ∧
      descentOnCode w = some (some (u, v)) ∧
      computeFishVelocitySeq M oceanDistance dx00 speed = some (some f) ∧
      (∀ i j, f.u i j = ofInt (u i j) * speed ∧ f.v i j = ofInt (vSignFactor s * v i j) * speed) ∧
      fiFishUSeq M oceanDistance dx00 speed ⟨none, none⟩ = some (some (some f.u, ⟨some f.u, some f.v⟩)) ∧
      fiFishVSeq M oceanDistance dx00 speed ⟨some f.u, some f.v⟩ = some (some (some f.v, ⟨some f.u, some f.v⟩)) := by
  obtain ⟨s, hs⟩ := Bridge.vps_vsign_seen
  have hl : C12.Land01 (landOfMask M) := Bridge.landOfMask_land01 M hM
  refine ⟨s, oceanDistCells oceanDistance dx00, fjordIndex (landOfMask M) (oceanDistCells oceanDistance dx00), _, _,
    fishField s M (oceanDistCells oceanDistance dx00) speed, hs, Bridge.vps_ocean_dist_cells _ _,
    Bridge.vps_fjord_index_land01 (landOfMask M) hl _, Bridge.vps_descent _,
    Bridge.vps_compute_fish_velocity_of s hs M _ _ _, ?_, ?_, ?_⟩
  · intro i j
    refine ⟨rfl, ?_⟩
    show ofInt (vDir s _) * speed = _
    cases s <;> simp only [vDir, vSignFactor, Int.one_mul, Int.neg_mul]
  · rw [Bridge.vps_fish_u_of s hs]; rfl
  · rw [Bridge.vps_fish_v_of s hs]; rfl

open C1213ExQ in
/-- example over ℚ: ocean distance 1.6 km, `dx = 800` m, speed 0.14 m/s, on the mask of `c12ExLand` -/
example := c12_served_field (α := ℚ) c12ExMask c12ExMask_01 (16 / 10) 800 (14 / 100)

/-- **C12, `velocity` / `fish_velocity` "in the grid coordinates the tracker uses", on the interpretation of
`Gen.vps_velocity_seq` and `Gen.vps_fish_velocity_seq`.**  With `use_currents = False` (the constructor's value) the
velocity of a particle at `(X, Y)` is the pair of entries `[r, c]` of the two stored arrays, where `(r, c)` always is a
cell of the grid (never outside it), and is the cell `(round(Y − j0), round(X − i0))` whenever that is one.

Hypotheses forced by the bridge (`Bridge.fishIndex_eq_clampIdx`; facts about the scalar type, true of floats below
2^53): `trunc (ofInt k) = k`, `ofInt` strictly monotone, and the two rounded offsets are (images of) integers. -/
theorem c12_velocity_serves_grid_cell {α : Type} [Add α] [Sub α] [Mul α] [Div α] [LT α] [DecidableLT α]
    [OfScientific α] [HasRound α] [HasTrunc α] [HasOfInt α]
    (hto : ∀ k : Int, trunc (ofInt k : α) = k) (hlt : ∀ a b : Int, (ofInt a : α) < ofInt b ↔ a < b)
    (i0 j0 : Int) (shape : Nat × Nat) (h1 : 1 ≤ shape.1) (h2 : 1 ≤ shape.2) (fishU fishV : Int → Int → α) (X Y : α)
    (kx ky : Int) (hX : round (X - ofInt i0) = (ofInt kx : α)) (hY : round (Y - ofInt j0) = (ofInt ky : α))
    (cur : α × α) :
    ∃ r c : Int, (0 ≤ r ∧ r < shape.1) ∧ (0 ≤ c ∧ c < shape.2) ∧
      fiVelocitySeq i0 j0 shape fishU fishV X Y false cur = some (some (fishU r c, fishV r c)) ∧
      fishVelocitySeq i0 j0 shape fishU fishV X Y = some (some (fishU r c, fishV r c)) ∧
      (0 ≤ ky ∧ ky < shape.1 → r = ky) ∧ (0 ≤ kx ∧ kx < shape.2 → c = kx) := by
  have er := Bridge.fishIndex_eq_clampIdx hto hlt shape.1 j0 Y ky hY
  have ec := Bridge.fishIndex_eq_clampIdx hto hlt shape.2 i0 X kx hX
  refine ⟨GridSample.clampIdx shape.1 ky, GridSample.clampIdx shape.2 kx, Bridge.clampIdx_inBox _ _ h1,
    Bridge.clampIdx_inBox _ _ h2, ?_, ?_, ?_, ?_⟩
  · rw [← er, ← ec]; exact Bridge.vps_velocity_no_currents _ _ _ _ _ _ _ _
  · rw [← er, ← ec]; exact Bridge.vps_fish_velocity _ _ _ _ _ _ _
  · intro h; unfold GridSample.clampIdx; omega
  · intro h; unfold GridSample.clampIdx; omega

open C1213ExQ in
/-- example over ℚ: a particle at `X = 1.2`, `Y = 2.7` with offsets `i0 = 1`, `j0 = 0` on a 4 × 1 grid:
`round(X − i0) = 0`, `round(Y − j0) = 3` -/
example (fishU fishV : Int → Int → ℚ) (cur : ℚ × ℚ) :=
  c12_velocity_serves_grid_cell (α := ℚ) exQ_trunc exQ_lt 1 0 (4, 1) (by decide) (by decide) fishU fishV (12 / 10)
    (27 / 10) 0 3
    (exQ_round_eq _ _ (by norm_num [exQ_ofInt])) (exQ_round_eq _ _ (by norm_num [exQ_ofInt])) cur

/-- **C12, last clause ("in the ocean the velocity is zero and the fish is retired"), on the interpretation of
`Gen.vps_update_seq` (`IBM.update_ibm`, one particle).**  Where the fish velocity is `(0, 0)` — by
`c12_descent_lowers_index` exactly the cells of index ≤ 0, the open ocean among them — the particle is not alive after
the update; where one component is non-zero the particle stays alive unless it is too old.  No hypothesis (the
uniform draw for the depth must be available: the list of draws is non-empty).  The instance arguments `HasSqrt … HasNarrow`
are section variables of `LadimProofs/Bridge/BioSeq.lean` (forced by the bridge `Bridge.vps_run_core`; not used). -/
theorem c12_fish_retired {α : Type} [_root_.Field α] [LinearOrder α] [IsStrictOrderedRing α]
    [HasSqrt α] [HasExp α] [HasLog α] [HasSin α] [HasCos α] [HasAsin α] [HasRpow α] [HasPi α] [HasNarrow α]
    (e : BioSeq.VpsEnv α) (x y : α) (p : Bio.Vps α) (u : α) (rest : List α) :
    ∃ s, BioSeq.vpsRun e x y p (u :: rest) = some (some s) ∧
      (e.fishVel x y = (0, 0) → s.alive = false) ∧
      ((e.fishVel x y).1 ≠ 0 ∨ (e.fishVel x y).2 ≠ 0 → s.alive = (p.alive && decide (p.age + e.dt < e.maxAge))) := by
  obtain ⟨md, dt, ma, fv⟩ := e
  obtain ⟨s, hs, hp, _⟩ := Bridge.vps_run_core md dt ma fv x y p u rest
  have hz : ∀ a : α, Gen.feq a 0.0 = decide (a = 0) := by
    intro a
    unfold Gen.feq
    lits
    by_cases h : a = 0
    · subst h; simp
    · rcases lt_or_gt_of_ne h with h' | h' <;> simp [h, h', not_lt.2 h'.le]
  have ha : s.alive = ((p.alive && decide (p.age + dt < ma)) &&
      (!decide ((fv x y).1 = 0) || !decide ((fv x y).2 = 0))) := by
    rw [← hz, ← hz]; exact congrArg Bio.Vps.alive hp
  refine ⟨s, hs, fun h0 => ?_, fun hne => ?_⟩
  · simp only at h0
    rw [ha, h0]; simp
  · simp only at hne
    rcases hne with h | h <;> simp [ha, h]

open C1213ExQ in
/-- example over ℚ: `max_depth = 2`, `dt = 600`, `max_age = 2**30`, zero fish velocity -/
example (p : Bio.Vps ℚ) :=
  c12_fish_retired (α := ℚ) ⟨2, 600, 1073741824, fun _ _ => (0, 0)⟩ 1 1 p (1 / 2) []

/-- **Known finding F-C12a on the interpreted `ibm` functions**: a 4 × 1 grid `sea, sea, sea, land` with an ocean
distance of 2 cells.  Cell `(2, 0)` has fjord index 1; `descent` gives `v = +1` there ("up": row − 1).  A tracker that
adds `v` to the row index (`sv = +1`, the text `self._fish_v = v * …`) steps onto the land cell `(3, 0)`; with
`sv = -1` it steps onto the ocean cell `(1, 0)`. -/
theorem c12_current_orientation_enters_land :
    ∃ (w : Mat) (u v : Int → Int → Int),
      fjordIndexOnCode ⟨4, 1, fun i _ => if i = 3 then 1 else 0⟩ 2 = some (some w) ∧
      descentOnCode w = some (some (u, v)) ∧
      w.val 2 0 = 1 ∧ u 2 0 = 0 ∧ v 2 0 = 1 ∧
      fishTrackerStep 1 u v (2, 0) = (3, 0) ∧ fishTrackerStep (-1) u v (2, 0) = (1, 0) ∧ w.val 1 0 = 0 ∧ w.val 3 0 = -2 := by
  refine ⟨_, _, _, Bridge.vps_fjord_index_land01 c12ExLand c12ExLand_land01 2, Bridge.vps_descent _, ?_⟩
  decide

/-! ## C13 -/

/-! #### class `Buffer`: two frame slots, every entry belongs to a live frame -/

section
variable {κ ν φ : Type} [DecidableEq κ] [DecidableEq φ]

/-- every cached entry carries a frame tag that is one of the (two) live ones -/
def LiveEntries (b : Buffer κ ν φ) : Prop :=
  ∀ kv ∈ b.buf, ∃ f, lookup b.fidx kv.1 = some f ∧ some f ∈ b.fidxList

/-- two frame slots, and every entry belongs to one of them -/
def TwoLiveFrames (b : Buffer κ ν φ) : Prop := b.fidxList.length = 2 ∧ LiveEntries b

theorem c13_live_keyed (b : Buffer κ ν φ) (h : LiveEntries b) : nkcKeyed b = true := by
  rw [Bridge.nkcKeyed_iff]
  intro kv hkv
  obtain ⟨f, hf, _⟩ := h kv hkv
  exact ⟨f, hf⟩

theorem c13_twoFrames_empty : TwoLiveFrames (Buffer.empty : Buffer κ ν φ) :=
  ⟨rfl, fun kv hkv => absurd hkv List.not_mem_nil⟩

theorem c13_live_prePush (b : Buffer κ ν φ) (f : φ) (h : LiveEntries b) :
    LiveEntries (C13.prePush b f) ∧ some f ∈ (C13.prePush b f).fidxList := by
  unfold C13.prePush
  split
  · rename_i hc
    exact ⟨h, by simpa using hc⟩
  · refine ⟨Bridge.nkc_prune_entries_live _, ?_⟩
    rw [C13.prune_fidxList]
    show some f ∈ b.fidxList.tail ++ [some f]
    simp

theorem c13_twoFrames_push (b : Buffer κ ν φ) (k : κ) (v : ν) (f : φ) (h : TwoLiveFrames b) :
    TwoLiveFrames (b.push k v f) := by
  refine ⟨C13.push_two_live_frames b k v f h.1, ?_⟩
  obtain ⟨hl, hf⟩ := c13_live_prePush b f h.2
  rw [C13.push_eq]
  intro kv hkv
  show ∃ g, lookup (assign (C13.prePush b f).fidx k f) kv.1 = some g ∧ some g ∈ (C13.prePush b f).fidxList
  by_cases hk : kv.1 = k
  · exact ⟨f, by rw [hk]; exact C13.lookup_assign_self _ k f, hf⟩
  · rw [C13.lookup_assign_other _ k kv.1 f hk]
    rcases Bridge.nkc_mem_assign_key _ k v kv hkv with h1 | ⟨q', hq', e⟩
    · exact absurd h1 hk
    · rw [← e]; exact hl q' hq'

theorem c13_twoFrames_getVar (load : κ → ν) (frameOf : κ → φ) (b : Buffer κ ν φ) (k : κ) (h : TwoLiveFrames b) :
    TwoLiveFrames (getVar load frameOf b k).1 := by
  unfold getVar
  split
  · exact h
  · exact c13_twoFrames_push _ _ _ _ h

/-- **C13, "at most two frames live", on the interpretation of the class `Buffer`** (`Gen.nk_buffer_ctor_seq`,
`nk_buffer_push_seq`, `nk_buffer_prune_seq`, `nk_buffer_contains_seq`, `nk_buffer_getitem_seq`).  `Buffer()` followed
by any history of `push(k, v, frame)` calls never raises; the resulting buffer has exactly two frame slots, and every
entry it holds carries the tag of one of these two frames (everything older has been pruned); pushing one more
`(k, v, frame)` makes `k in buffer` true and `buffer[k]` equal to `v`.  No hypothesis. -/
theorem c13_buffer_two_frames (reqs : List (κ × ν × φ)) :
    ∃ b0 b : Buffer κ ν φ, nkcBufferCtorSeq = some (some b0) ∧ Bridge.nkcPushAll b0 reqs = some (some b) ∧
      b.fidxList.length = 2 ∧
      (∀ kv ∈ b.buf, ∃ f, lookup b.fidx kv.1 = some f ∧ some f ∈ b.fidxList) ∧
      ∀ (k : κ) (v : ν) (f : φ), ∃ b', nkcPushSeq b k v f = some (some b') ∧
        nkcContainsSeq b' k = some (some true) ∧ nkcGetitemSeq b' k = some (some v) ∧
        b'.fidxList.length = 2 := by
  have hgood : ∀ (rs : List (κ × ν × φ)) (b : Buffer κ ν φ), TwoLiveFrames b →
      TwoLiveFrames (rs.foldl (fun b r => b.push r.1 r.2.1 r.2.2) b) := by
    intro rs
    induction rs with
    | nil => intro b h; exact h
    | cons r rest ih => intro b h; exact ih _ (c13_twoFrames_push b _ _ _ h)
  have hfin := hgood reqs _ (c13_twoFrames_empty (κ := κ) (ν := ν) (φ := φ))
  refine ⟨Buffer.empty, _, Bridge.nk_buffer_ctor, (Bridge.nkcPushAll_keyed reqs _ Bridge.nkcKeyed_empty).1,
    hfin.1, hfin.2, ?_⟩
  intro k v f
  obtain ⟨h1, h2, h3, _⟩ := Bridge.nk_buffer_push_served _ k v f (c13_live_keyed _ hfin.2)
  exact ⟨_, h1, h2, h3, (c13_twoFrames_push _ k v f hfin).1⟩

end

/-- example: three pushes over three frames (no hypothesis to discharge) -/
example := c13_buffer_two_frames (κ := String) (ν := Nat) (φ := String) [("a", 1, "h0"), ("b", 2, "h1"), ("a", 3, "h2")]

/-! #### request histories -/

/-- a history of calls of a method that threads the state `B`: `none` = unknown text, `some none` = a call raises -/
def nkRunHistory {B Q R : Type} (call : B → Q → Option (Option (B × R))) : B → List Q → Option (Option (B × List R))
  | b, [] => some (some (b, []))
  | b, q :: qs =>
    match call b q with
    | some (some (b', r)) => (nkRunHistory call b' qs).map (Option.map fun p => (p.1, r :: p.2))
    | some none => some none
    | none => none

theorem nkRunHistory_spec {B Q R : Type} (call : B → Q → Option (Option (B × R))) (Inv : B → Prop) (spec : Q → R)
    (h : ∀ b q, Inv b → ∃ b', call b q = some (some (b', spec q)) ∧ Inv b') (qs : List Q) (b : B) (hb : Inv b) :
    ∃ b', nkRunHistory call b qs = some (some (b', qs.map spec)) ∧ Inv b' := by
  induction qs generalizing b with
  | nil => exact ⟨b, rfl, hb⟩
  | cons q qs ih =>
    obtain ⟨b1, h1, hb1⟩ := h b q hb
    obtain ⟨b2, h2, hb2⟩ := ih b1 hb1
    refine ⟨b2, ?_, hb2⟩
    simp only [nkRunHistory, h1, h2, Option.map_some, List.map_cons]

theorem c13_history {κ ν φ Q R : Type} [DecidableEq κ] [DecidableEq φ] (load : κ → ν)
    (call : Buffer κ ν φ → Q → Option (Option (Buffer κ ν φ × R))) (spec : Q → R)
    (h : ∀ b q, C13.Valid load b ∧ TwoLiveFrames b →
      ∃ b', call b q = some (some (b', spec q)) ∧ C13.Valid load b' ∧ TwoLiveFrames b') (qs : List Q) :
    ∃ b0 b : Buffer κ ν φ, nkcBufferCtorSeq = some (some b0) ∧
      nkRunHistory call b0 qs = some (some (b, qs.map spec)) ∧ TwoLiveFrames b := by
  obtain ⟨b, hb, hinv⟩ := nkRunHistory_spec call _ spec h qs Buffer.empty ⟨C13.valid_empty load, c13_twoFrames_empty⟩
  exact ⟨Buffer.empty, b, Bridge.nk_buffer_ctor, hb, hinv.2⟩

/-! #### `OnlineDatabase.get_dset`: the file of the requested day -/

section
variable {κ D φ : Type} [DecidableEq κ] [DecidableEq φ]

/-- **C13, "fields come from the file of the requested day … regardless of which times were requested before" (file
level), on the interpretation of `Gen.nk_get_dset_seq` with the interpreted `Buffer` methods as callees.**  From
`Buffer()` and for every history of requested days (forward, repeated, back and forth) `get_dset` never raises and
returns, for each request, the data set `nc.Dataset(pattern.format(day))` of that very day; the buffer of open data sets
keeps two frame slots.  No hypothesis. -/
theorem c13_get_dset_history (fmt : Int → κ) (dayStr : Int → φ) (openDs : κ → D) (days : List Int) :
    ∃ b0 b : Buffer κ D φ, nkcBufferCtorSeq = some (some b0) ∧
      nkRunHistory (fun b day => (nkcGetDsetSeq fmt dayStr openDs b day).map (Option.map fun r => (r.1, r.2.1))) b0 days
        = some (some (b, days.map fun day => some (openDs (fmt day)))) ∧
      b.fidxList.length = 2 := by
  refine (c13_history openDs _ _ ?_ days).imp fun b0 h => h.imp fun b h => ⟨h.1, h.2.1, h.2.2.1⟩
  intro b day ⟨hv, ht⟩
  obtain ⟨h1, _⟩ := Bridge.nk_get_dset fmt dayStr openDs b day (c13_live_keyed b ht.2)
  obtain ⟨h3, h4⟩ := C13.getVar_transparent openDs (fun _ => dayStr day) b (fmt day) hv
  refine ⟨(getVar openDs (fun _ => dayStr day) b (fmt day)).1, ?_, h4, c13_twoFrames_getVar _ _ _ _ ht⟩
  rw [h1, ← h3]; rfl

end

/-- example: today, tomorrow, today again (no hypothesis to discharge) -/
example := c13_get_dset_history (κ := Int) (D := Int) (φ := Int) id id id [19000, 19001, 19000]

/-! #### `OnlineDatabase._get_var`: the record of the requested day and hour -/

section
variable {ν φ D : Type} [DecidableEq φ]

/-- two times in the same hour lie in the same day: `get_dset`, which opens the file of the day of `time`
(`c13_get_dset_history`), satisfies the hypothesis `hday` below -/
theorem c13_sameHour_sameDay (t t' : Int) (h : hourOfUs t = hourOfUs t') : nkcDayOfUs t = nkcDayOfUs t' := by
  unfold hourOfUs at h
  unfold nkcDayOfUs
  rw [Int.fdiv_eq_ediv_of_nonneg _ (by decide)] at h
  rw [Int.fdiv_eq_ediv_of_nonneg _ (by decide)] at h
  rw [Int.fdiv_eq_ediv_of_nonneg _ (by decide), Int.fdiv_eq_ediv_of_nonneg _ (by decide)]
  omega

/-- the backing-file read is a function of the key `(name, hour string)`: the `load` of the bridges exists -/
theorem c13_load_exists (getDset : Int → D) (readVar : D → String → Int → ν) (hourStr : Int → φ)
    (hinj : Function.Injective hourStr) (hday : ∀ t t', hourOfUs t = hourOfUs t' → getDset t = getDset t') :
    ∃ load : String × φ → ν, ∀ n t, load (n, hourStr (hourOfUs t)) = readVar (getDset t) n (hourOfDayUs t) := by
  classical
  refine ⟨fun k => if h : ∃ t, hourStr (hourOfUs t) = k.2 then
      readVar (getDset h.choose) k.1 (hourOfDayUs h.choose) else readVar (getDset 0) k.1 0, ?_⟩
  intro n t
  have hex : ∃ t', hourStr (hourOfUs t') = hourStr (hourOfUs t) := ⟨t, rfl⟩
  simp only [dif_pos hex]
  have he := hinj hex.choose_spec
  rw [hday _ _ he]
  unfold hourOfDayUs
  rw [he]

/-- **C13, "fields come from the file of the requested day and hour regardless of which times were requested before",
on the interpretation of `Gen.nk_get_var1_seq` (`OnlineDatabase._get_var`; `self._vars_buf` starts as the interpreted
`Buffer()`).**  For every history of requests `(name, time)` — forward, repeated, back and forth, across hours and
days — no call raises and the `i`-th call returns `dset[name][hour of day of time]` of the data set of its own `time`
(never a stale array); the buffer keeps two frame slots and only entries of these two hours.

Hypotheses forced by the bridge `Bridge.nk_get_var1` (its `hload`: the array read is a function of the buffer key
`(name, str(hour))`): `hinj` — `str` of distinct hours are distinct; `hday` — `get_dset` returns the same data set
for two times within the same hour (it returns the file of the day: `c13_get_dset_history`, `c13_sameHour_sameDay`). -/
theorem c13_get_var_history (getDset : Int → D) (readVar : D → String → Int → ν) (hourStr : Int → φ)
    (hinj : Function.Injective hourStr) (hday : ∀ t t', hourOfUs t = hourOfUs t' → getDset t = getDset t')
    (reqs : List (String × Int)) :
    ∃ b0 b : Buffer (String × φ) ν φ, nkcBufferCtorSeq = some (some b0) ∧
      nkRunHistory (fun b q => (getVar1Seq getDset readVar hourStr b q.1 q.2).map (Option.map fun r => (r.1, r.2.1)))
          b0 reqs
        = some (some (b, reqs.map fun q => some (readVar (getDset q.2) q.1 (hourOfDayUs q.2)))) ∧
      b.fidxList.length = 2 ∧
      (∀ kv ∈ b.buf, ∃ f, lookup b.fidx kv.1 = some f ∧ some f ∈ b.fidxList) := by
  obtain ⟨load, hload⟩ := c13_load_exists getDset readVar hourStr hinj hday
  refine c13_history load _ _ ?_ reqs
  intro b q ⟨hv, ht⟩
  obtain ⟨h3, h4⟩ := C13.getVar_transparent load Prod.snd b (q.1, hourStr (hourOfUs q.2)) hv
  refine ⟨(getVar load Prod.snd b (q.1, hourStr (hourOfUs q.2))).1, ?_, h4, c13_twoFrames_getVar _ _ _ _ ht⟩
  rw [Bridge.nk_get_var1 getDset readVar hourStr load b q.1 q.2 (hload q.1 q.2), ← hload, ← h3]; rfl

end

/-- example: hour strings = hour numbers, the data set of a time = its day number (`hday` by `c13_sameHour_sameDay`); a
request at 00:00, one 25 h later, and the first one again -/
example := c13_get_var_history (ν := Int × String × Int) (φ := Int) (D := Int) nkcDayOfUs (fun d n i => (d, n, i)) id
  (fun _ _ h => h) c13_sameHour_sameDay [("u", 0), ("v", 90000000000), ("u", 0)]

/-! #### `Forcing.update` + `Forcing.velocity` → `OnlineDatabase.get_var` → `_get_var` → `interp` -/

section
variable {α : Type} [_root_.Field α] [LinearOrder α] [IsStrictOrderedRing α] [HasOfInt α]

/-- **C13, the time blend of `interp` (the generated formula `Gen.nk_interp`).**  The generated text is one of two:
the repaired one (`Weights.forward`), for which the blend is the linear interpolation `v1 + q (v2 − v1)` between the
field of the hour (`v1`) and of the next hour (`v2`), equals the stored field `v1` at whole hours (`q = 0`) and lies
between the two fields for `0 ≤ q ≤ 1` — the property's clause; or the text as it is (`Weights.backward`, KNOWN finding
F-C13a), for which the blend is the mirror image in time `v1 + (1 − q)(v2 − v1)` of that interpolant and returns the field
of the NEXT hour at whole hours. -/
theorem c13_time_blend (v1 v2 q : α) :
    ∃ w : Weights, (∀ a b c : α, Gen.nk_interp a b c = interpW w a b c) ∧
      (w = .forward → Gen.nk_interp v1 v2 q = v1 + q * (v2 - v1) ∧ Gen.nk_interp v1 v2 0 = v1 ∧
        (0 ≤ q → q ≤ 1 → min v1 v2 ≤ Gen.nk_interp v1 v2 q ∧ Gen.nk_interp v1 v2 q ≤ max v1 v2)) ∧
      (w = .backward → Gen.nk_interp v1 v2 q = v1 + (1 - q) * (v2 - v1) ∧ Gen.nk_interp v1 v2 0 = v2) := by
  obtain ⟨w, hw⟩ := Bridge.nk_interp_weights (α := α)
  refine ⟨w, hw, ?_, ?_⟩
  · rintro rfl
    rw [hw, hw]
    exact ⟨C13.interp_is_lerp v1 v2 q, C13.interp_whole_hour v1 v2, fun h0 h1 => C13.interp_between v1 v2 q h0 h1⟩
  · rintro rfl
    rw [hw, hw]
    refine ⟨?_, C13.backward_whole_hour_fails v1 v2⟩
    rw [C13.backward_is_mirrored, C13.interp_is_lerp]

variable {ν φ D K Z : Type} [DecidableEq φ]

theorem getVarSpec_inv {B V : Type} (P : B → Prop) (g : B → String → Int → Option (B × V))
    (hg : ∀ b n τ r, P b → g b n τ = some r → P r.1) (b : B) (n : String) (τ : Int) (r : B × (V × V) × (Int × Int))
    (hb : P b) (h : getVarSpec g b n τ = some r) : P r.1 := by
  simp only [getVarSpec, Option.bind_eq_some_iff, Option.some.injEq] at h
  obtain ⟨r1, h1, r2, h2, rfl⟩ := h
  exact hg _ _ _ _ (hg _ _ _ _ hb h1) h2

theorem velocitySpec_inv {B G X R : Type} (P : B → Prop) (z2k : Z → K) (gv : B → String → Int → Option (B × G))
    (hg : ∀ b n τ r, P b → gv b n τ = some r → P r.1) (interp : G → X → X → K → R) (x y : X) (z : Z) (τ : Int)
    (b : B) (r : B × R × R) (hb : P b) (h : velocitySpec z2k gv interp x y z τ b = some r) : P r.1 := by
  simp only [velocitySpec, Option.bind_eq_some_iff, Option.some.injEq] at h
  obtain ⟨r1, h1, r2, h2, rfl⟩ := h
  exact hg _ _ _ _ (hg _ _ _ _ hb h1) h2

theorem c13_twoFrames_fetch (load : String × φ → ν) (hourStr : Int → φ) (b : Buffer (String × φ) ν φ) (n : String)
    (τ : Int) (r : Buffer (String × φ) ν φ × ν) (ht : TwoLiveFrames b) (h : fetch load hourStr b n τ = some r) :
    TwoLiveFrames r.1 := by
  obtain ⟨v, -, rfl⟩ := Option.map_eq_some_iff.mp h
  exact c13_twoFrames_getVar load Prod.snd b _ ht

/-- **C13, "currents returned for time t are the … interpolation between the hourly fields that bracket t", on the
interpretation of `Gen.nk_update_seq`, `Gen.nk_velocity_seq`, `Gen.nk_get_var_seq`, `Gen.nk_get_var1_seq` and the
generated formula `Gen.nk_interp`, every callee interpreted.**  After `update(t)`, `velocity(x, y, z, num/den)` on a
data base whose buffer `b` was reached by any history of such calls from `Buffer()` (invariant `Valid ∧ TwoLiveFrames`,
true of `Buffer()` and re-established by every call — `c13_velocity_history` unrolls it) does not raise and returns,
for `'u'` and for `'v'`,
`Gen.nk_interp (field of the hour of time) (field of the next hour) q`, both fields read from the data set of their own
time (`dset[name][hour of day]`, the next hour possibly in the next day's file), sampled by `map_coordinates` at
`(z2k(z), y, x)`; `time` is `current_time + step·num/den` to the microsecond (exactly so for the sub-steps 0, 1/2, 1
that LADiM's integrators use); the weight `q ∈ [0, 1)` is the fraction of the hour elapsed and is 0 exactly at whole
hours.  With `c13_time_blend`: linear interpolation for the repaired text, its mirror image for the text as it is.

Hypotheses: `hload` (forced by `Bridge.nk_get_var1`: the array read is a function `load` of the buffer key
`(name, str(hour))`; `c13_load_exists` constructs it from `hinj`, `hday` of `c13_get_var_history`); `hof` — `ofInt` is the
integer cast of the field (the bridge leaves `HasOfInt` abstract); the loop invariant on `b` (stated with that `load`). -/
theorem c13_velocity_served (hof : ∀ i : Int, (ofInt i : α) = (i : α))
    (start step t num den : Int) (z2k : Z → K) (getDset : Int → D) (readVar : D → String → Int → ν)
    (hourStr : Int → φ)
    (sample : ν → K → α → α → α) (x y : α) (z : Z) (cur0 : Option Int) (b : Buffer (String × φ) ν φ)
    (load : String × φ → ν)
    (hload : ∀ n t, load (n, hourStr (hourOfUs t)) = readVar (getDset t) n (hourOfDayUs t))
    (hb : C13.Valid load b ∧ TwoLiveFrames b) :
    ∃ (cur time : Int) (q : α) (b' : Buffer (String × φ) ν φ),
      updateSeq start step t cur0 = some (some (some cur)) ∧ cur = start + step * t ∧
      time = subTimeUs start step t num den ∧
      (den = 2 → (num = 0 ∨ num = 1 ∨ num = 2) → time = (start + step * t) * 1000000 + step * num * 500000) ∧
      q = ((time % 3600000000 : Int) : α) / 3600000000 ∧ 0 ≤ q ∧ q < 1 ∧ (q = 0 ↔ (3600000000 : Int) ∣ time) ∧
      velocityFull step num den z2k getDset readVar hourStr sample x y z (some cur) b
        = some (some (b',
            Gen.nk_interp (sample (readVar (getDset time) "u" (hourOfDayUs time)) (z2k z) y x)
              (sample (readVar (getDset (time + hourUs)) "u" (hourOfDayUs (time + hourUs))) (z2k z) y x) q,
            Gen.nk_interp (sample (readVar (getDset time) "v" (hourOfDayUs time)) (z2k z) y x)
              (sample (readVar (getDset (time + hourUs)) "v" (hourOfDayUs (time + hourUs))) (z2k z) y x) q)) ∧
      (C13.Valid load b' ∧ TwoLiveFrames b') := by
  obtain ⟨w, hw⟩ := Bridge.nk_interp_weights (α := α)
  obtain ⟨b', hv', he⟩ := Bridge.velocityModel_valid w z2k load hourStr sample x y z
    (subTimeUs start step t num den) b hb.1
  obtain ⟨h0, h1, hz⟩ := C13.hour_fraction_us_range (subTimeUs start step t num den)
  simp only [hourFractionUs] at h0 h1 hz
  have hpos : (0 : α) < 3600000000 := by norm_num
  refine ⟨timeOfStep start step t, subTimeUs start step t num den, _, b', Bridge.nk_update start step t cur0, rfl, rfl,
    ?_, rfl, div_nonneg (by exact_mod_cast h0) hpos.le, (div_lt_one hpos).2 (by exact_mod_cast h1), ?_, ?_, hv', ?_⟩
  · rintro rfl hn; exact C13.substep_time_exact start step t num hn
  · rw [div_eq_zero_iff, or_iff_left hpos.ne', Int.cast_eq_zero]; exact hz
  · rw [Bridge.nk_velocity_full_of w hw start step t num den z2k getDset readVar hourStr load hload sample x y z b, he]
    have hn : ∀ n τ, load (n, hourStr (hourOfUs τ + 1)) = readVar (getDset (τ + hourUs)) n (hourOfDayUs (τ + hourUs)) := by
      intro n τ
      rw [← Bridge.hour_of_next, hload]
    simp only [interpArr, hourFractionUs, hload, hn, hw, hof]
    norm_num
    exact ⟨rfl, rfl⟩
  · -- the frame invariant: `velocityModel` is four cached fetches
    exact velocitySpec_inv TwoLiveFrames _ _ (getVarSpec_inv TwoLiveFrames _ (c13_twoFrames_fetch load hourStr)) _ _ _ _
      _ _ _ hb.2 he

end

open C1213ExQ in
/-- example over ℚ: `Buffer()` satisfies the invariant; `load` from `c13_load_exists`; start 2020-01-01, `dt = 600 s`,
step 5, half step -/
example (sample : (Int × String × Int) → ℚ → ℚ → ℚ → ℚ) : True := by
  obtain ⟨load, hload⟩ := c13_load_exists (ν := Int × String × Int) (φ := Int) nkcDayOfUs (fun d n i => (d, n, i)) id
    (fun _ _ h => h) c13_sameHour_sameDay
  have := c13_velocity_served (α := ℚ) (K := ℚ) (Z := ℚ) exQ_ofInt 1577836800 600 5 1 2 id nkcDayOfUs
    (fun d n i => (d, n, i)) id sample (3 / 2) (5 / 2) 10 none Buffer.empty load hload
    ⟨C13.valid_empty load, c13_twoFrames_empty⟩
  trivial

section
variable {α : Type} [_root_.Field α] [LinearOrder α] [IsStrictOrderedRing α] [HasOfInt α]
variable {ν φ D K Z : Type} [DecidableEq φ]

/-- one request of the particle tracker: `update(t)` then `velocity(x, y, z, num/den)` -/
structure NkVelReq (α Z : Type) where
  t : Int
  num : Int
  den : Int
  x : α
  y : α
  z : Z

/-- **C13, the same for every request history (forward, repeated, back and forth, crossing hours and days, all
sub-step fractions), from the interpreted `Buffer()`.**  The `i`-th call returns the blend (`Gen.nk_interp`) of the two
hourly fields that bracket ITS time, each read from the data set of its own day and hour — whatever was requested
before; no call raises; the buffer ends with two frame slots.  Hypotheses: `hinj`, `hday`, `hof` as above. -/
theorem c13_velocity_history (hof : ∀ i : Int, (ofInt i : α) = (i : α))
    (start step : Int) (z2k : Z → K) (getDset : Int → D) (readVar : D → String → Int → ν)
    (hourStr : Int → φ) (hinj : Function.Injective hourStr)
    (hday : ∀ t t', hourOfUs t = hourOfUs t' → getDset t = getDset t')
    (sample : ν → K → α → α → α) (reqs : List (NkVelReq α Z)) :
    ∃ b0 b : Buffer (String × φ) ν φ, nkcBufferCtorSeq = some (some b0) ∧
      nkRunHistory (fun b (r : NkVelReq α Z) =>
          match updateSeq start step r.t none with
          | some (some cur) => velocityFull step r.num r.den z2k getDset readVar hourStr sample r.x r.y r.z cur b
          | some none => some none
          | none => none) b0 reqs
        = some (some (b, reqs.map fun r =>
            let time := subTimeUs start step r.t r.num r.den
            let q : α := ((time % 3600000000 : Int) : α) / 3600000000
            (Gen.nk_interp (sample (readVar (getDset time) "u" (hourOfDayUs time)) (z2k r.z) r.y r.x)
               (sample (readVar (getDset (time + hourUs)) "u" (hourOfDayUs (time + hourUs))) (z2k r.z) r.y r.x) q,
             Gen.nk_interp (sample (readVar (getDset time) "v" (hourOfDayUs time)) (z2k r.z) r.y r.x)
               (sample (readVar (getDset (time + hourUs)) "v" (hourOfDayUs (time + hourUs))) (z2k r.z) r.y r.x) q))) ∧
      b.fidxList.length = 2 := by
  obtain ⟨load, hload⟩ := c13_load_exists getDset readVar hourStr hinj hday
  refine (c13_history load _ _ ?_ reqs).imp fun b0 h => h.imp fun b h => ⟨h.1, h.2.1, h.2.2.1⟩
  intro b r hb
  obtain ⟨cur, time, q, b', h1, _, h3, _, h5, _, _, _, h9, h10⟩ :=
    c13_velocity_served hof start step r.t r.num r.den z2k getDset readVar hourStr sample r.x r.y r.z none b
      load hload hb
  refine ⟨b', ?_, h10⟩
  subst h3 h5
  simp only [h1, h9]

end

open C1213ExQ in
/-- example over ℚ: forward, further forward with a half step, back with a full step -/
example (sample : (Int × String × Int) → ℚ → ℚ → ℚ → ℚ) :=
  c13_velocity_history (α := ℚ) (K := ℚ) (Z := ℚ) (ν := Int × String × Int) (φ := Int) (D := Int) exQ_ofInt
    1577836800 600 id nkcDayOfUs (fun d n i => (d, n, i)) id (fun _ _ h => h)
    c13_sameHour_sameDay sample
    [⟨0, 0, 2, 3 / 2, 5 / 2, 10⟩, ⟨7, 1, 2, 3 / 2, 5 / 2, 10⟩, ⟨3, 2, 2, 1, 1, 0⟩]

/-! #### class `Grid`: `ingrid`, `sample_metric`, `sample_depth`, `ll2xy`, `z2k` -/

section
variable {α : Type} [_root_.Field α] [LinearOrder α] [IsStrictOrderedRing α] [HasOfInt α] [HasRound α] [HasTrunc α]

/-- **C13, "every position the grid reports as inside yields finite cell sizes and a depth", on the interpretation of
`Gen.nk_init_gridlimits_seq`, `Gen.nk_ingrid_seq`, `Gen.nk_sample_metric_seq`, `Gen.nk_sample_depth_seq`.**  With the
limits that `_init_gridlimits` sets for a file with `dimX × dimY` grid points: if `ingrid(x, y)` is true, then
`sample_metric` returns `(dx[i], dy[j])` with `i = min(round x, dimX − 2) ∈ [0, dimX − 2]`,
`j = min(round y, dimY − 2) ∈ [0, dimY − 2]` — valid indices of `dx = diff(X)`, `dy = diff(Y)` (lengths `dimX − 1`,
`dimY − 1`), the outermost in-grid cells included — and `sample_depth` returns `h[round y, round x]` with
`1 ≤ round x ≤ dimX − 1`, `1 ≤ round y ≤ dimY − 1`, a valid index of `h` (shape `dimY × dimX`): the nearest cell.

Hypotheses forced by the bridges, which leave the scalar operations abstract: `hof` (`ofInt` is the integer cast) and
`hround` (`x.round().astype(int)` is a nearest integer, whatever the tie rule). -/
theorem c13_ingrid_metric_depth {β : Type} (hof : ∀ i : Int, (ofInt i : α) = (i : α))
    (hround : ∀ x : α, ((roundInt x : Int) : α) - 1 / 2 ≤ x ∧ x ≤ ((roundInt x : Int) : α) + 1 / 2)
    (dimX dimY : Int) (dxArr dyArr : Int → β) (hArr : Int → Int → β) (x y : α) :
    ∃ l : NkcLimits, nkcInitGridlimitsSeq dimX dimY = some (some l) ∧
      (nkcIngridSeq l x y = some (some true) →
        ∃ i j : Int, (0 ≤ i ∧ i ≤ dimX - 2) ∧ (0 ≤ j ∧ j ≤ dimY - 2) ∧
          i = min (roundInt x) (dimX - 2) ∧ j = min (roundInt y) (dimY - 2) ∧
          (1 ≤ roundInt x ∧ roundInt x ≤ dimX - 1) ∧ (1 ≤ roundInt y ∧ roundInt y ≤ dimY - 1) ∧
          sampleMetricSeq l.xmin l.xmax l.ymin l.ymax dxArr dyArr x y = some (some (dxArr i, dyArr j)) ∧
          sampleDepthSeq hArr x y = some (some (hArr (roundInt y) (roundInt x)))) := by
  refine ⟨⟨0, dimX, 0, dimY⟩, Bridge.nk_init_gridlimits dimX dimY, ?_⟩
  intro hin
  obtain ⟨⟨hx1, hx2⟩, ⟨hy1, hy2⟩⟩ := (Bridge.nk_ingrid_iff hof dimX dimY x y).1 hin
  -- a nearest integer `r` of a coordinate strictly between `1/2` and `d - 1/2` lies in `1 … d - 1`
  have hr : ∀ (r d : Int) (x : α), (r : α) - 1 / 2 ≤ x → x ≤ (r : α) + 1 / 2 → 1 / 2 < x → x < (d : α) - 1 / 2 →
      1 ≤ r ∧ r ≤ d - 1 := by
    intro r d x ha hb h1 h2
    have h0 : (0 : Int) < r := Int.cast_pos.mp (lt_of_add_lt_add_right ((zero_add _).trans_lt (h1.trans_le hb)))
    have hd : r < d := Int.cast_lt.mp ((sub_lt_sub_iff_right _).mp (ha.trans_lt h2))
    omega
  have hrx := hr _ dimX x (hround x).1 (hround x).2 hx1 hx2
  have hry := hr _ dimY y (hround y).1 (hround y).2 hy1 hy2
  refine ⟨metricIndex (dimX - 2) (roundInt x), metricIndex (dimY - 2) (roundInt y), ?_, ?_, ?_, ?_, hrx, hry,
    Bridge.nk_sample_metric 0 dimX 0 dimY dxArr dyArr x y rfl rfl, Bridge.nk_sample_depth hArr x y⟩
  · have := C13.metric_index_in_range dimX (roundInt x) hrx.1 hrx.2 (by omega); exact ⟨this.1, this.2.1⟩
  · have := C13.metric_index_in_range dimY (roundInt y) hry.1 hry.2 (by omega); exact ⟨this.1, this.2.1⟩
  · unfold metricIndex; omega
  · unfold metricIndex; omega

open C1213ExQ in
/-- example over ℚ, a 5 × 4 file: the position `(4.4, 1)` is inside, in the outermost column: `round x = 4 = dimX − 1`,
metric index `3 = dimX − 2` -/
example : nkcIngridSeq ⟨0, 5, 0, 4⟩ (44 / 10 : ℚ) (1 : ℚ) = some (some true) := by
  rw [Bridge.nk_ingrid_iff exQ_ofInt]; norm_num
open C1213ExQ in
example (dxArr dyArr : Int → ℚ) (hArr : Int → Int → ℚ) :=
  c13_ingrid_metric_depth (α := ℚ) exQ_ofInt exQ_round 5 4 dxArr dyArr hArr (44 / 10) 1

/-- **C13, "lon/lat to grid conversion matches the file's own coordinate arrays" (PARTIAL), on the interpretation of
`Gen.nk_ll2xy_seq` with the interpreted `sample_metric` / `_init_gridlimits`.**  `ll2xy` divides the projected
coordinates by the metric of cell `(0, 0)`, `dx[0] = X[1] − X[0]`.  Hence a point whose projection is the file's grid
point `(X[i], Y[j])` is mapped to the grid coordinates `(i, j)` — PROVIDED the file's coordinate arrays are uniformly
spaced and start at 0 (`X[i] = i · dx[0]`, `Y[j] = j · dy[0]`: true of the polar-stereographic NorKyst-800 files, not
implied by the property's side conditions; what is missing is a statement for non-uniform or offset arrays, for which
the code is not exact) and the grid has at least 2 × 2 points (forced by `Bridge.nk_ll2xy_grid`).  The projection
(`pyproj`) is a parameter. -/
theorem c13_ll2xy_matches_coordinates_partial (transform : α → α → α × α) (dimX dimY : Int) (dxArr dyArr : Int → α)
    (Xc Yc : Int → α) (hx : 2 ≤ dimX) (hy : 2 ≤ dimY) (hdx : dxArr 0 ≠ 0) (hdy : dyArr 0 ≠ 0)
    (hX : ∀ i : Int, Xc i = (i : α) * dxArr 0) (hY : ∀ j : Int, Yc j = (j : α) * dyArr 0)
    (lon lat : α) (i j : Int) (hpt : transform lon lat = (Xc i, Yc j)) :
    ∃ l : NkcLimits, nkcInitGridlimitsSeq dimX dimY = some (some l) ∧
      nkcLl2xySeq transform (nkcMetric00 l dxArr dyArr) lon lat = some (some ((i : α), (j : α))) := by
  refine ⟨⟨0, dimX, 0, dimY⟩, Bridge.nk_init_gridlimits dimX dimY, ?_⟩
  rw [Bridge.nk_ll2xy_grid transform dimX dimY dxArr dyArr lon lat hx hy, hpt, hX, hY]
  simp only [mul_div_assoc, div_self hdx, div_self hdy, mul_one]

open C1213ExQ in
/-- example over ℚ: 800 m spacing, identity projection; the point `(1600, 800)` is grid point `(2, 1)` -/
example := c13_ll2xy_matches_coordinates_partial (α := ℚ) (fun a b => (a, b)) 5 4 (fun _ => 800) (fun _ => 800)
  (fun i => (i : ℚ) * 800) (fun j => (j : ℚ) * 800) (by decide) (by decide) (by norm_num) (by norm_num)
  (fun _ => rfl) (fun _ => rfl) 1600 800 2 1 (by norm_num)

/-! #### `z2k` -/

theorem c13_arange_pairwise (hof : ∀ i : Int, (ofInt i : α) = (i : α)) (n : Nat) :
    List.Pairwise (· ≤ ·) (nkcArange n : List α) := by
  unfold nkcArange
  rw [List.pairwise_map]
  refine List.Pairwise.imp ?_ List.pairwise_lt_range
  intro a b hab
  rw [hof, hof]
  exact Int.cast_le.2 (Int.ofNat_le.2 hab.le)

theorem c13_interp_knot (xs ys : List α) (hlen : xs.length = ys.length) (hx : List.Pairwise (· < ·) xs)
    (i : Nat) (hi : i < xs.length) : interp xs ys xs[i] = some (ys[i]'(hlen ▸ hi)) := by
  induction xs generalizing ys i with
  | nil => simp at hi
  | cons x0 xs ih =>
    obtain ⟨y0, ys, rfl⟩ := List.exists_cons_of_length_eq_add_one hlen.symm
    cases xs with
    | nil =>
      obtain rfl : ys = [] := List.eq_nil_of_length_eq_zero (Nat.succ.inj hlen.symm)
      obtain rfl : i = 0 := by simpa using hi
      simp [interp, interpGo]
    | cons x1 xs =>
      obtain ⟨y1, ys, rfl⟩ := List.exists_cons_of_length_eq_add_one (Nat.succ.inj hlen.symm)
      have h01 : x0 < x1 := (List.pairwise_cons.1 hx).1 x1 (by simp)
      cases i with
      | zero => exact C13.z2k_exact_first x0 x1 y0 y1 xs ys h01
      | succ i =>
        have hi' : i < (x1 :: xs).length := by simpa using hi
        have hx' := (List.pairwise_cons.1 hx).2
        have hge : x1 ≤ (x1 :: xs)[i] := by
          cases i with
          | zero => exact le_refl _
          | succ i => exact le_of_lt ((List.pairwise_cons.1 hx').1 _ (List.getElem_mem _))
        show interp (x0 :: x1 :: xs) (y0 :: y1 :: ys) (x1 :: xs)[i] = some ((y1 :: ys)[i]'_)
        rw [C13.z2k_tail x0 x1 y0 y1 xs ys _ h01 hge]
        exact ih (y1 :: ys) (by simpa using hlen) hx' i hi'

/-- **C13, "depth to level conversion is monotone and exact at the tabulated depths", on the interpretation of
`Gen.nk_grid_z2k_seq` (`Grid.z2k`) and `Gen.nk_forcing_z2k_seq` (`Forcing.z2k`, the one `velocity` calls).**  For a
non-empty table of strictly increasing level depths: `z2k` never raises; it is non-decreasing in the depth; and at the
`i`-th tabulated depth it returns exactly the level number `i` (every `i`).

Hypotheses: the depth table is non-empty and strictly increasing (well-formed file); `hof` (`ofInt` is the integer cast;
the bridge leaves it abstract). -/
theorem c13_z2k_monotone_exact (hof : ∀ i : Int, (ofInt i : α) = (i : α)) (prog : List Stmt)
    (hprog : prog = Gen.nk_grid_z2k_seq ∨ prog = Gen.nk_forcing_z2k_seq) (depth : List α) (hne : depth ≠ [])
    (hd : List.Pairwise (· < ·) depth) :
    (∀ z, ∃ k, nkcZ2kSeq prog depth z = some (some k)) ∧
    (∀ z₁ z₂ k₁ k₂, z₁ ≤ z₂ → nkcZ2kSeq prog depth z₁ = some (some k₁) → nkcZ2kSeq prog depth z₂ = some (some k₂) →
      k₁ ≤ k₂) ∧
    (∀ (i : Nat) (hi : i < depth.length), nkcZ2kSeq prog depth depth[i] = some (some ((i : Nat) : α))) := by
  have hrun : ∀ z, nkcZ2kSeq prog depth z = some (interp depth (nkcArange depth.length) z) := by
    intro z
    rcases hprog with rfl | rfl
    · exact Bridge.nk_grid_z2k depth z
    · exact Bridge.nk_forcing_z2k depth z
  have hlen : depth.length = (nkcArange depth.length : List α).length := by simp [nkcArange]
  refine ⟨?_, ?_, ?_⟩
  · intro z
    rw [hrun]
    cases depth with
    | nil => exact absurd rfl hne
    | cons d0 ds => rw [List.length_cons, Bridge.nkcArange_succ]; exact ⟨_, rfl⟩
  · intro z₁ z₂ k₁ k₂ hz h1 h2
    rw [hrun] at h1 h2
    exact C13.z2k_monotone depth _ z₁ z₂ k₁ k₂ hd (c13_arange_pairwise hof _) hz (Option.some.inj h1) (Option.some.inj h2)
  · intro i hi
    rw [hrun, c13_interp_knot depth _ hlen hd i hi]
    simp [nkcArange, hof]

end

open C1213ExQ in
/-- example over ℚ: level depths 0, 3, 10, 25 -/
example := c13_z2k_monotone_exact (α := ℚ) exQ_ofInt Gen.nk_forcing_z2k_seq (Or.inr rfl) [0, 3, 10, 25]
  (by simp) (by simp; norm_num)

end OnCode
