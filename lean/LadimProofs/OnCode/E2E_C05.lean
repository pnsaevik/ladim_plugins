import LadimProofs.C05
import LadimProofs.OnCode.C05
import LadimProofs.Bridge.BioSeq
import LadimProofs.Bridge.BioCtorSeq
import LadimProofs.Bridge.SedimentSeq
import LadimProofs.Bridge.Seq
import LadimProofs.Bridge.ChemSeq
import LadimProofs.Bridge.DevelopSeq
import LadimProofs.Bridge.Order
/-!
# C05 — end-to-end: the depth bands stated about the INTERPRETATION OF THE CURRENT SOURCE

Property C05 — Particles stay inside the water column / the module's depth band
STATEMENT: After every IBM update every particle's depth lies within the vertical band its module documents: never above the sea surface, never below the local sea bed for modules that model the bed (chemicals, sedimentation, mine, sand eel), and within the configured or biological limits for the others (egg [0,200) m, salmon lice [0,20) m, larvae and saithe larvae [min,max] depth, eel vertical limits, vps [0,max depth]). This holds for every random draw, provided a single random vertical step is smaller than the local water depth where only one reflection is applied.
QUANTIFIER: all particle states inside the band, all bathymetries and forcing values in the oceanic range, all time steps and mixing coefficients, every value the random generator can return (including extreme tails), and every sequence of consecutive updates

Every main theorem below is about `run… Gen.…_seq …`: the statement sequences that the translator regenerates from
/repo's source on every run, interpreted by `LadimModel/**/*Seq.lean`.  The bridges (`LadimProofs/Bridge/*`) and the
model theorems (`LadimProofs/C05.lean`) are used as lemmas.  All theorems are over an arbitrary linear ordered field
`α` with arbitrary `sqrt`, `exp`, `rpow`, `narrow`, … (so every random number and every forcing value is an arbitrary
element of `α`, "extreme tails" included); the conclusion always contains "the run finishes" (`= some (some s)`: no
unknown statement text, no raise).

Forms of the interpretations
* salmon lice, egg, larvae, saithe, vps, sand eel, shrimp: the whole `update_ibm` sequence with every statement (sand eel,
  shrimp: every called method too) interpreted — `c05_lice_band`, `c05_egg_update_ibm_band`,
  `c05_larvae_band` (+ constructor: `c05_larvae_cod_ctor_band`), `c05_saithe_band` (+ constructor:
  `c05_saithe_ctor_band`), `c05_vps_band`, `c05_sandeel_update` / `c05_sandeel_band` / `c05_sandeel_history`,
  `c05_shrimp_band` (+ `c05_shrimp_mixing_nonneg`, `c05_shrimp_diel_migration_band`).
* chemicals, sedimentation, mine: the existing interpreters of `update_ibm` (`Seq.chemStep`, `Seq.sedStep`,
  `Seq.mineStep`) map a `call` statement to the hand-written rule (`Bridge.chem_update_seq`, `sed_update_seq`,
  `mine_update_seq`).  Here the composition is made: `c05_chemStepCode`, `c05_sedStepCode`, `c05_mineStepCode`
  run the interpretation of the callee's generated sequence instead (`Bridge.chem_call_*`, `sed_call_*`,
  `mine_call_*` say the two agree), and `c05_chem_update_code_band` (+ constructor: `c05_chem_ctor_update_band`,
  histories: `c05_chem_history`), `c05_sed_update_code_band`, `c05_mine_update_code_band` are the bands for these
  runs: every statement of `update_ibm` AND of `advect`, `reflect`, `diffuse_const`, `diffuse_labolle`, `horzdiff`,
  `clamp_to_seabed`, `kill_old` / `initialize`, `resuspend`, `shear_velocity_btm`, `diffuse`, `sink`, `bury`, `kill_old`
  is the generated text.
* lunar eel: only the method bodies are bridged (`update_ibm` calls `horizontal_advect`, which has no interpreter):
  `c05_eel_band_partial` = `vertical_diffuse` is the last call of `update_ibm`, and after the interpreted
  `vertical_diffuse` the depth is inside the configured limits.

"Every sequence of consecutive updates": for salmon lice, egg, larvae, saithe, vps, eel and shrimp the band holds after
ONE update from an arbitrary state, hence after the last update of any sequence; for the modules whose band needs an
in-band start the histories are `c05_chem_history` (any forcing / draws over one bathymetry) and
`c05_sandeel_history` (the particle is moved horizontally between the updates); sedimentation / mine: the conclusion of
the one-step theorem is its own precondition for the next update at the same local depth (`history_invariant` is
the generic induction).

Hypotheses.  Beside the property's side conditions (valid configuration, in-band start where the property needs it,
step smaller than the depth) the bridges force: a supply of random numbers long enough for the generator calls
(the run raises otherwise), `self.growth` / `self.length` = the module's functions (larvae), `min_depth ≤ max_depth`
(saithe: `np.clip`), a `hatch_time` that returns (sand eel), successful table reads (shrimp), a coherent
shear-velocity cache and a flag value the state array can hold (sedimentation, mine), `has_active()` or no
resuspension (mine), `vertical_mixing ≠ ''` (chemicals constructor).  They are listed at each theorem.

Each main theorem is followed by an `example` that instantiates it over `ℚ` on a concrete configuration (all
hypotheses are discharged there); theorems without hypotheses other than the shape of the supply have none.
-/
open Ladim

set_option linter.unusedSectionVars false
set_option linter.unusedVariables false
set_option linter.unusedSimpArgs false
namespace OnCode

/-! ## tools -/

/-- a bridge equation on a view `(f s, g s)` of the final state `s`: the run finishes, and what holds of the first
component of the value holds of `f s` -/
theorem c05_run_fst {σ β γ : Type} {r : Option (Option σ)} {f : σ → β} {g : σ → γ} {v : β} {w : γ} (P : β → Prop)
    (h : r.map (Option.map fun s => (f s, g s)) = some (some (v, w))) (hv : P v) :
    ∃ s, r = some (some s) ∧ P (f s) :=
  run_view h fun _ hq => hq ▸ hv

/-- the guard of a statement does not look at a second component of the state -/
theorem c05_guardVal_fst {σ κ : Type} (atom : σ → String → Option Bool) (sc : σ × κ) (g : List Seq.Cond) :
    Seq.guardVal (fun sc : σ × κ => atom sc.1) sc g = Seq.guardVal atom sc.1 g := by
  induction g with
  | nil => rfl
  | cons c g ih => simp only [Seq.guardVal, ih]

/-- `x`, the value at statement `k tx` of an interpreter on states paired with a second component, is what `step` does
on the first component of `sc`, with some new second component that re-establishes `Inv` -/
abbrev c05_PairStep {σ κ : Type} (step : σ → String → String → Option σ) (Inv : σ × κ → Prop) (sc : σ × κ)
    (x : Option (σ × κ)) (k tx : String) : Prop :=
  ∃ c', x = (step sc.1 k tx).map (fun s => (s, c')) ∧ ∀ s', step sc.1 k tx = some s' → Inv (s', c')

/-- an interpreter `stepC` on states paired with a component the guards do not read: if from a state satisfying `Inv`
every statement is a `c05_PairStep`, then the run of `stepC` is the run of `step`, with some final second component -/
theorem c05_run_pair {σ κ : Type} (atom : σ → String → Option Bool) (step : σ → String → String → Option σ)
    (stepC : σ × κ → String → String → Option (σ × κ)) (Inv : σ × κ → Prop)
    (hstep : ∀ sc, Inv sc → ∀ k tx, c05_PairStep step Inv sc (stepC sc k tx) k tx) (prog : List Seq.Stmt) :
    ∀ sc, Inv sc → ∃ c', Seq.run (fun sc : σ × κ => atom sc.1) stepC prog sc
      = (Seq.run atom step prog sc.1).map (fun s => (s, c')) := by
  induction prog with
  | nil => intro sc _; exact ⟨sc.2, rfl⟩
  | cons st rest ih =>
    obtain ⟨g, k, tx⟩ := st
    intro sc hI
    simp only [Seq.run, c05_guardVal_fst]
    cases Seq.guardVal atom sc.1 g with
    | none => exact ⟨sc.2, rfl⟩
    | some b =>
      cases b with
      | false => exact ih sc hI
      | true =>
        by_cases hk : k = "return"
        · simp only [hk, if_true]; exact ⟨sc.2, rfl⟩
        · simp only [hk, if_false]
          obtain ⟨c1, hs1, hinv⟩ := hstep sc hI k tx
          rw [hs1]
          cases hs : step sc.1 k tx with
          | none => exact ⟨sc.2, rfl⟩
          | some s' => exact ih (s', c1) (hinv s' hs)

/-- a step function that treats the statement `call name` apart: what holds of the special value at `call name` and of
the other value at the statement itself holds of the conditional -/
theorem c05_ite_call {β : Type} {P : β → String → String → Prop} {name k tx : String} {a b : β}
    (ha : P a "call" name) (hb : P b k tx) : P (if k = "call" ∧ tx = name then a else b) k tx := by
  split_ifs with h
  · obtain ⟨rfl, rfl⟩ := h
    exact ha
  · exact hb

/-- a statement whose value `r.map f` for `step` comes from a run `r` that does not touch the second component -/
theorem c05_pair_step_keep {σ κ β : Type} {step : σ → String → String → Option σ} {Inv : σ × κ → Prop} {sc : σ × κ}
    {k tx : String} {r : Option β} {f : β → σ} (h : step sc.1 k tx = r.map f)
    (hI : ∀ s', step sc.1 k tx = some s' → Inv (s', sc.2)) :
    c05_PairStep step Inv sc (r.map fun v => (f v, sc.2)) k tx :=
  ⟨sc.2, by rw [h, Option.map_map]; rfl, hI⟩

/-! ## stand-ins over `ℚ` for the `example`s -/

/-- stand-ins over `ℚ` for the non-field operations (the theorems hold for arbitrary such functions) -/
local instance exSqrt : HasSqrt ℚ := ⟨fun x => x⟩
local instance exExp : HasExp ℚ := ⟨fun x => 1 + x⟩
local instance exLog : HasLog ℚ := ⟨fun x => x - 1⟩
local instance exSin : HasSin ℚ := ⟨fun x => x⟩
local instance exCos : HasCos ℚ := ⟨fun _ => 1⟩
local instance exAsin : HasAsin ℚ := ⟨fun x => x⟩
local instance exRpow : HasRpow ℚ := ⟨fun x _ => x⟩
local instance exPi : HasPi ℚ := ⟨22 / 7⟩
local instance exNarrow : HasNarrow ℚ := ⟨fun x => x⟩
local instance exFloor : HasFloor ℚ := ⟨fun x => (⌊x⌋ : ℤ)⟩
local instance exRound : HasRound ℚ := ⟨fun x => (⌊x + 1 / 2⌋ : ℤ)⟩
local instance exTrunc : HasTrunc ℚ := ⟨fun x => ⌊x⌋⟩

section bio
open Ladim.BioSeq Ladim.BioCtorSeq
variable {α : Type} [Field α] [LinearOrder α] [IsStrictOrderedRing α]
  [HasSqrt α] [HasExp α] [HasLog α] [HasSin α] [HasCos α] [HasAsin α] [HasRpow α] [HasPi α] [HasNarrow α]

/-! ## salmon lice `[0, 20)` -/

/-- **salmon lice** — after the interpreted `update_ibm` (`Gen.lice_update_seq`, every statement) the depth is in `[0, 20)`:
for every particle, position, forcing (`e.temp`, `e.salt`, `e.light0` arbitrary functions), every attribute value
(`dt`, `D`, `swim_vel`, … arbitrary, negative or zero included) and every pair of random numbers.
Bridge-forced: the supply has (at least) two numbers `r :: xi :: rest` (uniform `state_rand`, then the normal mixing
draw; with one number and mixing on the code raises: `Bridge.lice_one_draw_raises`). -/
theorem c05_lice_band (e : LiceEnv α) (x y : α) (p : Bio.Lice α) (r xi : α) (rest : List α) :
    ∃ s, runProc (liceAtom e) (liceStep e) Gen.lice_update_seq (LiceSt.init x y p (r :: xi :: rest)) = some (some s) ∧
      0 ≤ s.z ∧ s.z < 20 :=
  c05_run_fst (fun q : Bio.Lice α => 0 ≤ q.z ∧ q.z < 20) (Bridge.lice_update_seq e x y p r xi rest)
    (C05.lice_band _ _ _ _ _ _ _ _ _ _ _ _)

/-! ## egg `[0, 200)` -/

/-- **egg** — after the interpreted `update_ibm` (`Gen.egg_update_ibm_seq`: bind `self.model[...]`, then `self.update()`)
with the interpreted `update` (`Gen.egg_update_seq`) as the callee the depth is in `[0, 200)`, for every state, forcing,
attribute value and random number.  Bridge-forced: a supply with one number `xi :: rest`. -/
theorem c05_egg_update_ibm_band [HasFloor α] (e : EggEnv α) (x y z age buoy xi : α) (rest : List α) :
    ∃ s, eggUpdateIbmRunWith
        (runProc (eggAtom e) (eggStep e) Gen.egg_update_seq (EggSt.init x y z age buoy (xi :: rest)))
        Gen.egg_update_ibm_seq = some (some s) ∧ 0 ≤ s.z ∧ s.z < 200 := by
  rw [Bridge.egg_update_ibm_with]
  exact c05_run_fst (fun z' : α => 0 ≤ z' ∧ z' < 200) (Bridge.egg_update_seq e x y z age buoy xi rest)
    (C05.eggZ_band _ _ _ _ _ _ _ _)

/-! ## larvae `[min_depth, max_depth]` -/

/-- environment of the larvae and saithe examples: configuration record `c`, default growth / length, the switch
`extra_spreading` (then `spread()` moves the particle by `(1, -1)`) -/
private abbrev c05_exLarvaEnv (c : Bio.LarvaCfg ℚ) (spreading : Bool) : LarvaEnv ℚ :=
  ⟨c, fun _ _ _ => 7, fun _ _ _ => 35, fun _ _ => 100, Gen.larvae_growth, Gen.larvae_weight_to_length, spreading,
    fun x y => (x + 1, y - 1)⟩

/-- **larvae** — after the interpreted `update_ibm` (`Gen.larvae_update_seq`) EVERY particle (egg or larva) is in
`[min_depth, max_depth]`; side condition of the property: `min_depth ≤ max_depth` (a surface-side limit `0 ≤ min_depth`
then gives `0 ≤ Z`).  For every forcing, light, draw, `dt`, `D`.
Bridge-forced: `hg`, `hl` — the configured callables `self.growth` / `self.length` are the module's
`growth_cod_larvae` / `weight_to_length` (the defaults of every species in the table; the bridge
`Bridge.larvae_update_seq` is stated for them — they do not enter the depth clip); a supply `xi :: rest`. -/
theorem c05_larvae_band (e : LarvaEnv α) (hg : e.growth = Gen.larvae_growth)
    (hl : e.length = Gen.larvae_weight_to_length) (hband : e.c.minDepth ≤ e.c.maxDepth)
    (x y buoy : α) (p : Bio.Larva α) (xi : α) (rest : List α) :
    ∃ s, runProc (larvaAtom (!Bio.isZeroS e.c.D) e.extraSpreading) (larvaeStep e) Gen.larvae_update_seq
        (LarvaSt.init x y buoy p (xi :: rest)) = some (some s) ∧
      e.c.minDepth ≤ s.z ∧ s.z ≤ e.c.maxDepth := by
  refine c05_run_fst (fun q : Bio.Larva α => e.c.minDepth ≤ q.z ∧ q.z ≤ e.c.maxDepth)
    (Bridge.larvae_update_seq e hg hl x y buoy p xi rest) ?_
  simp only [Bio.larvaUpdate, Bio.larvaFinalZ, Bool.not_true, Bool.and_false, Bool.false_eq_true, if_false]
  exact C05.clipDepth_band _ _ _ hband

/-- larvae: band `[10, 40]`, default growth / length, `D = 0` -/
example : True := by
  have h : ∃ s : LarvaSt ℚ, _ ∧ (10 : ℚ) ≤ s.z ∧ s.z ≤ 40 :=
    c05_larvae_band (α := ℚ)
      (c05_exLarvaEnv ⟨93.7, 0.093, 0.1, 1, 10, 40, 0.2, 0, 600, 600, 0.0014, true⟩ false)
      rfl rfl (by norm_num) 1 2 32 ⟨55, 100, 1 / 10⟩ (-5) []
  trivial

/-- **larvae, constructor then update**: the object that the interpreted `__init__` (`Gen.larvae_ctor_seq`) builds from
`config['ibm'] = {species: 'cod', min_depth: lo?, max_depth: hi?}` keeps every particle in
`[lo or 0, hi or 1000]` — the band IS the configured one.  `hc`, `hg`, `hl`: the record / callables the interpreter of
`update_ibm` takes are the attributes of that object.  Bridge-forced: no other key in `config['ibm']`
(`Bridge.larvae_ctor_cod_result`), numeric `config['dt']`. -/
theorem c05_larvae_cod_ctor_band [HasFloor α] (ce : CtorEnv α) (lo hi : Option α) (dt sdt desired : α) (clip : Bool)
    (hsp : ce.ibm "species" = some (.str .cod)) (hlo : ce.ibm "min_depth" = lo.map .num)
    (hhi : ce.ibm "max_depth" = hi.map .num)
    (hnone : ∀ k, k ≠ "species" → k ≠ "min_depth" → k ≠ "max_depth" → ce.ibm k = none)
    (hdt : ce.dt = some (.num dt)) (attrs : List (String × BcVal α))
    (hctor : (ctorRun ce Gen.larvae_ctor_seq).map (Option.map CtorSt.result) = some (some (some attrs)))
    (e : LarvaEnv α) (hc : larvaCfgOf attrs desired sdt clip = some e.c)
    (hg : attrs.lookup "growth" = some (.fn3 e.growth)) (hl : attrs.lookup "length" = some (.fn1 e.length))
    (hband : lo.getD 0 ≤ hi.getD 1000)
    (x y buoy : α) (p : Bio.Larva α) (xi : α) (rest : List α) :
    ∃ s, runProc (larvaAtom (!Bio.isZeroS e.c.D) e.extraSpreading) (larvaeStep e) Gen.larvae_update_seq
        (LarvaSt.init x y buoy p (xi :: rest)) = some (some s) ∧
      lo.getD 0 ≤ s.z ∧ s.z ≤ hi.getD 1000 := by
  rw [Bridge.larvae_ctor_cod_result ce lo hi dt hsp hlo hhi hnone hdt] at hctor
  obtain rfl : Bridge.larvaeCodAttrs lo hi dt = attrs := Option.some.inj (Option.some.inj (Option.some.inj hctor))
  rw [(Bridge.larvae_cod_cfg lo hi dt sdt).2.2.1] at hg
  rw [(Bridge.larvae_cod_cfg lo hi dt sdt).2.2.2] at hl
  -- the record is read off the attribute list by unfolding `larvaCfgOf`
  have hcfg : (⟨_, _, _, _, lo.getD 0.0, hi.getD 1000.0, _, _, _, _, _, _⟩ : Bio.LarvaCfg α) = e.c := Option.some.inj hc
  rw [lit_0, lit_1000] at hcfg
  obtain ⟨s, hs, h1⟩ := c05_larvae_band e (BcVal.fn3.inj (Option.some.inj hg)).symm
    (BcVal.fn1.inj (Option.some.inj hl)).symm (by rw [← hcfg]; exact hband) x y buoy p xi rest
  rw [← hcfg] at h1
  exact ⟨s, hs, h1⟩

/-- larvae constructor: `species = 'cod'`, `min_depth = 5`, no `max_depth` (default 1000) -/
example : True := by
  let ce : CtorEnv ℚ :=
    ⟨fun k => if k = "species" then some (.str .cod) else if k = "min_depth" then some (.num 5) else none, some (.num 600)⟩
  have hnone : ∀ k, k ≠ "species" → k ≠ "min_depth" → k ≠ "max_depth" → ce.ibm k = none := by
    intro k h1 h2 _; simp [ce, h1, h2]
  have h := c05_larvae_cod_ctor_band ce (some 5) none 600 600 1.0 true rfl rfl rfl hnone rfl _
    (Bridge.larvae_ctor_cod_result ce (some 5) none 600 rfl rfl rfl hnone rfl)
    (c05_exLarvaEnv ⟨93.7, 0.093, 0.1, 1, 5, 1000, 0.2, 0, 600, 600, 0.0014, true⟩ false)
    (by rw [(Bridge.larvae_cod_cfg (some 5) none 600 600).1]; norm_num) rfl rfl (by norm_num) 1 2 32 ⟨55, 100, 1 / 10⟩ (-5) []
  trivial

/-! ## saithe -/

/-- **saithe** — after the interpreted `update_ibm` (`Gen.saithe_update_seq`): larvae (`age > hatch_day` before the update)
in `[min_depth, max_depth]`, eggs at or below the surface (`Z ≥ 0`), and every particle `≥ 0` when `0 ≤ min_depth`.
`hband : min_depth ≤ max_depth` is the property's "valid configuration" AND forced by the bridge (`np.clip` vs
`max∘min`, `Bridge.clip_forms_differ`).  For every forcing, light, `spread()`, draw.  Bridge-forced: supply `xi :: rest`. -/
theorem c05_saithe_band (e : LarvaEnv α) (hband : e.c.minDepth ≤ e.c.maxDepth)
    (x y buoy : α) (p : Bio.Larva α) (xi : α) (rest : List α) :
    ∃ s, runProc (larvaAtom (!Bio.isZeroS e.c.D) e.extraSpreading) (saitheStep e) Gen.saithe_update_seq
        (LarvaSt.init x y buoy p (xi :: rest)) = some (some s) ∧
      (¬ p.age ≤ e.c.hatchDay → e.c.minDepth ≤ s.z ∧ s.z ≤ e.c.maxDepth) ∧
      (p.age ≤ e.c.hatchDay → 0 ≤ s.z) ∧
      (0 ≤ e.c.minDepth → 0 ≤ s.z) := by
  refine run_view (Bridge.saithe_update_seq e hband x y buoy p xi rest) fun s hp => ?_
  rw [show s.z = (LarvaSt.particle s).z from rfl, hp]
  obtain ⟨zraw, hraw⟩ := C05.larva_update_z_final { e.c with clipEggs := false, desired := 1.0 } (e.temp x y p.z)
    (e.salt x y p.z) buoy (if e.extraSpreading then e.light0 (e.spread x y).1 (e.spread x y).2 else e.light0 x y)
    (if Bio.isZeroS e.c.D then none else some xi) p
  rw [hraw, larvaFinalZ_of_not_clipEggs _ rfl]
  have hclip := C05.clipDepth_band e.c.minDepth e.c.maxDepth zraw hband
  have hegg : 0 ≤ fmax zraw 0.0 := by
    rw [fmax_eq_max, lit_0]
    exact le_max_right _ _
  split_ifs with hage
  · exact ⟨fun h => (h hage).elim, fun _ => hegg, fun _ => hegg⟩
  · exact ⟨fun _ => hclip, fun h => (hage h).elim, fun h0 => le_trans h0 hclip.1⟩

/-- saithe: band `[30, 60]` -/
example : True := by
  have h := c05_saithe_band (α := ℚ)
    (c05_exLarvaEnv ⟨60, 0.093, 0.2, 1, 30, 60, 0.2, 0.0001, 600, 600, 0.0011, false⟩ true)
    (by norm_num) 1 2 32 ⟨55, 100, 1 / 10⟩ (-5) []
  trivial

/-- **saithe, constructor then update**: for the object the interpreted `__init__` (`Gen.saithe_ctor_seq`) builds — whatever
`config['ibm']` contains — larvae end in `[30, 60]` and every particle at `Z ≥ 0`.  Bridge-forced: numeric
`config['dt']`; `hc`: the configuration record of the interpreter is the one of the constructed attributes. -/
theorem c05_saithe_ctor_band [HasFloor α] (ce : CtorEnv α) (dt sdt : α) (hdt : ce.dt = some (.num dt))
    (attrs : List (String × BcVal α))
    (hctor : (ctorRun ce Gen.saithe_ctor_seq).map (Option.map CtorSt.result) = some (some (some attrs)))
    (e : LarvaEnv α) (hc : larvaCfgOf attrs 1.0 sdt false = some e.c)
    (x y buoy : α) (p : Bio.Larva α) (xi : α) (rest : List α) :
    ∃ s, runProc (larvaAtom (!Bio.isZeroS e.c.D) e.extraSpreading) (saitheStep e) Gen.saithe_update_seq
        (LarvaSt.init x y buoy p (xi :: rest)) = some (some s) ∧
      (¬ p.age ≤ 60 → 30 ≤ s.z ∧ s.z ≤ 60) ∧ 0 ≤ s.z := by
  rw [Bridge.saithe_ctor_result ce dt hdt] at hctor
  obtain rfl : Bridge.saitheAttrs ce dt = attrs := Option.some.inj (Option.some.inj (Option.some.inj hctor))
  rw [Bridge.saithe_attrs_cfg] at hc
  obtain ⟨hmin, hmax, hhd⟩ : e.c.minDepth = 30 ∧ e.c.maxDepth = 60 ∧ e.c.hatchDay = 60 := by
    rw [← Option.some.inj hc]
    simp only [Bridge.saitheCfg]
    norm_num
  obtain ⟨s, hs, h1, _, h3⟩ := c05_saithe_band e (by rw [hmin, hmax]; norm_num) x y buoy p xi rest
  rw [hmin, hmax, hhd] at h1
  exact ⟨s, hs, h1, h3 (by rw [hmin]; norm_num)⟩

/-- saithe constructor (`config['dt'] = 600`, no `ibm` keys), then `update_ibm` -/
example : True := by
  have h := c05_saithe_ctor_band (α := ℚ) ⟨fun _ => none, some (.num 600)⟩ 600 600 rfl _
    (Bridge.saithe_ctor_result _ 600 rfl)
    (c05_exLarvaEnv (Bridge.saitheCfg 600 600) true)
    (Bridge.saithe_attrs_cfg _ 600 600) 1 2 32 ⟨55, 100, 1 / 10⟩ (-5) []
  trivial

/-! ## vps `[0, max_depth]` -/

/-- **vps** — after the interpreted `update_ibm` (`Gen.vps_update_seq`) the depth is in `[0, max_depth]`.  Side conditions:
`0 ≤ max_depth`, the uniform draw is in `[0, 1)`.  No bridge-forced hypothesis (`Bridge.vps_run_core` is used, so
`max_age` is arbitrary) beyond a supply `u :: rest`. -/
theorem c05_vps_band (e : VpsEnv α) (hm : 0 ≤ e.maxDepth) (x y : α) (p : Bio.Vps α) (u : α) (rest : List α)
    (hu0 : 0 ≤ u) (hu1 : u < 1) :
    ∃ s, runProc vpsAtom (vpsStep e) Gen.vps_update_seq (VpsSt.init x y p (u :: rest)) = some (some s) ∧
      0 ≤ s.z ∧ s.z ≤ e.maxDepth := by
  obtain ⟨md, dt, ma, fv⟩ := e
  obtain ⟨s, hs, hp, _⟩ := Bridge.vps_run_core md dt ma fv x y p u rest
  refine ⟨s, hs, ?_⟩
  have hz : s.z = (VpsSt.particle s).z := rfl
  rw [hz, hp]
  exact C05.vpsZ_band md u hm hu0 hu1

/-- vps: `max_depth = 3`, draw `u = 9/10` -/
example : True := by
  have h := c05_vps_band (α := ℚ) ⟨3, 600, 1073741824, fun _ _ => (1, 0)⟩ (by norm_num) 1 2 ⟨1, 0, true⟩ (9 / 10) []
    (by norm_num) (by norm_num)
  trivial

/-! ## lunar eel -/

/-- **lunar eel** — PARTIAL: `update_ibm` itself is not interpreted (`horizontal_advect` has no bridge).  Shown: the last
call of `Gen.eel_update_seq` is `vertical_diffuse`, and after the interpreted `vertical_diffuse`
(`Gen.eel_vertical_diffuse_seq`, which applies `Gen.eel_reflexive`) the depth is inside the configured
`vertical_limits = (lo, hi)`, `lo ≤ hi`, for every start depth, `D`, `dt` and draw.  Missing for the full clause: that
`init_grid` / `horizontal_advect` leave `Z` untouched. -/
theorem c05_eel_band_partial [HasFloor α] :
    (Bridge.callsOf Gen.eel_update_seq).getLast? = some "vertical_diffuse" ∧
    ∀ (D dt lo hi z xi : α) (rest : List α), lo ≤ hi →
      ∃ s, eelVerticalDiffuseRun D dt (lo, hi) z (xi :: rest) Gen.eel_vertical_diffuse_seq = some (some s) ∧
        lo ≤ s.z ∧ s.z ≤ hi := by
  refine ⟨by rw [Bridge.eel_order.1]; rfl, ?_⟩
  intro D dt lo hi z xi rest h
  exact c05_run_fst (fun z' : α => lo ≤ z' ∧ z' ≤ hi) (Bridge.eel_vertical_diffuse_seq D dt lo hi z xi rest)
    (C05.eelZ_band D dt lo hi xi z h)

/-- lunar eel: `vertical_limits = (20, 300)` -/
example : True := by
  have h := (c05_eel_band_partial (α := ℚ)).2 (1 / 100) 600 20 300 25 (-4) [] (by norm_num)
  trivial

end bio
section develop
open Ladim.BioSeq Ladim.DevSeq
variable {α : Type} [Field α] [LinearOrder α] [IsStrictOrderedRing α]
  [HasSqrt α] [HasExp α] [HasLog α] [HasSin α] [HasCos α] [HasAsin α] [HasRpow α] [HasPi α]

/-! ## sand eel -/

/-- environment of the sand eel examples: `max_depth = 100`, local depth `H`, `hatch_time(r, t) = 60 - r - t` -/
private abbrev c05_exEelEnv (H : ℚ → ℚ → ℚ) : SandeelEnv ℚ :=
  ⟨1 / 100, 600, 100, 0, 0, fun _ _ => 6, fun _ _ _ => 8, H, fun r t => some (some (60 - r - t)), false⟩

/-- sand eel `vertical_diffuse` alone (`Gen.sandeel_vertical_diffuse_seq`, calling the interpreted `reflexive`): an active
particle ends in `[0, min(maxdepth, H)]` from ANY start depth -/
theorem c05_sandeel_vertical_diffuse_band (e : SandeelEnv α) (x y z xi : α) (rest : List α) (log : List Draw)
    (hm : 0 ≤ e.maxdepth) (hH : 0 ≤ e.sampleDepth x y) :
    ∃ r, (runProc vertAtom (vertStep e) Gen.sandeel_vertical_diffuse_seq
        ⟨x, y, z, true, false, none, none, none, none, none, none, none, ⟨xi :: rest, log⟩⟩).map
          (Option.map fun s => (s.Z, s.rng)) = some (some r) ∧
      0 ≤ r.1 ∧ r.1 ≤ e.sampleDepth x y ∧ r.1 ≤ e.maxdepth := by
  have h := Bridge.sandeel_vertical_diffuse_seq e x y z true ⟨xi :: rest, log⟩
  unfold sandeelVertRun at h
  refine ⟨_, h, ?_⟩
  exact C05.sandeelZ_band e.D e.dt e.maxdepth (e.sampleDepth x y) xi z hm hH

/-- **sand eel**, the whole interpreted `update_ibm` (`Gen.sandeel_update_seq` and every callee): the horizontal position is
untouched; a particle that is active after development ends in `[0, H] ∩ [0, maxdepth]` (`H` the local depth) from ANY
start depth and for every draw; an inactive one keeps its depth.  Side conditions: `0 ≤ maxdepth`, `0 ≤ H`.
Bridge-forced: `hh` — the module-level `hatch_time` returns a value for every argument (`Bridge.sandeel_update_core`; see
`c05_sandeel_band_hatch_func`); a supply of two numbers. -/
theorem c05_sandeel_update [HasRound α] [HasTrunc α] (e : SandeelEnv α) (f : α → α → α)
    (hh : e.hatchTime = fun r t => some (some (f r t))) (x y z stage hr : α) (active : Bool) (u xi : α)
    (rest : List α) (hm : 0 ≤ e.maxdepth) (hH : 0 ≤ e.sampleDepth x y) :
    ∃ s, runProc sandeelUpdAtom (sandeelUpdStep e) Gen.sandeel_update_seq
        ⟨x, y, z, stage, hr, active, none, ⟨u :: xi :: rest, []⟩⟩ = some (some s) ∧
      s.x = x ∧ s.y = y ∧
      (s.active = true → 0 ≤ s.z ∧ s.z ≤ e.sampleDepth s.x s.y ∧ s.z ≤ e.maxdepth) ∧
      (s.active = false → s.z = z) := by
  obtain ⟨s, hs, hv⟩ := Bridge.of_map_view_some (Bridge.sandeel_update_core e f hh x y z stage hr active u xi rest)
  refine ⟨s, hs, ?_⟩
  simp only [Prod.mk.injEq] at hv
  obtain ⟨hx, hy, hz, hp, _⟩ := hv
  rw [← hp] at hz
  dsimp only at hz
  refine ⟨hx, hy, fun ha => ?_, fun ha => ?_⟩
  · rw [hz, ha, hx, hy]
    exact C05.sandeelZ_band e.D e.dt e.maxdepth (e.sampleDepth x y) _ z hm hH
  · rw [hz, ha]; rfl

/-- **sand eel band**: a particle inside the band of its position stays inside it (never above the surface, never below the
bed, never below `maxdepth`) -/
theorem c05_sandeel_band [HasRound α] [HasTrunc α] (e : SandeelEnv α) (f : α → α → α)
    (hh : e.hatchTime = fun r t => some (some (f r t))) (x y z stage hr : α) (active : Bool) (u xi : α)
    (rest : List α) (hm : 0 ≤ e.maxdepth) (hH : 0 ≤ e.sampleDepth x y)
    (hz0 : 0 ≤ z) (hz1 : z ≤ e.sampleDepth x y) (hz2 : z ≤ e.maxdepth) :
    ∃ s, runProc sandeelUpdAtom (sandeelUpdStep e) Gen.sandeel_update_seq
        ⟨x, y, z, stage, hr, active, none, ⟨u :: xi :: rest, []⟩⟩ = some (some s) ∧
      0 ≤ s.z ∧ s.z ≤ e.sampleDepth s.x s.y ∧ s.z ≤ e.maxdepth := by
  obtain ⟨s, hs, hx, hy, h1, h2⟩ := c05_sandeel_update e f hh x y z stage hr active u xi rest hm hH
  refine ⟨s, hs, ?_⟩
  cases ha : s.active with
  | true => exact h1 ha
  | false => rw [h2 ha, hx, hy]; exact ⟨hz0, hz1, hz2⟩

/-- sand eel: `max_depth = 100`, local depth 60, particle at 30 m -/
example : True := by
  have h := c05_sandeel_band (α := ℚ)
    (c05_exEelEnv fun _ _ => 60) _ rfl 3 4 30 (1 / 2) 0 true (1 / 3) (-2) [] (by norm_num) (by norm_num) (by norm_num)
    (by norm_num) (by norm_num)
  trivial

/-- … with `hatch_time` = what the interpreted `get_hatch_time_func` (`Gen.sandeel_hatch_time_func_seq`) returns, for ANY
spline library `mk` (no assumption on the spline) -/
theorem c05_sandeel_band_hatch_func [HasRound α] [HasTrunc α] (e : SandeelEnv α)
    (mk : List α → List α → List (List α) → Nat → Nat → α → α → α)
    (hh : sandeelHatchFuncRun mk = some (some e.hatchTime)) (x y z stage hr : α) (active : Bool) (u xi : α)
    (rest : List α) (hm : 0 ≤ e.maxdepth) (hH : 0 ≤ e.sampleDepth x y)
    (hz0 : 0 ≤ z) (hz1 : z ≤ e.sampleDepth x y) (hz2 : z ≤ e.maxdepth) :
    ∃ s, runProc sandeelUpdAtom (sandeelUpdStep e) Gen.sandeel_update_seq
        ⟨x, y, z, stage, hr, active, none, ⟨u :: xi :: rest, []⟩⟩ = some (some s) ∧
      0 ≤ s.z ∧ s.z ≤ e.sampleDepth s.x s.y ∧ s.z ≤ e.maxdepth := by
  rw [Bridge.sandeel_hatch_time_func_seq] at hh
  exact c05_sandeel_band e _ (Option.some.inj (Option.some.inj hh)).symm x y z stage hr active u xi rest hm hH hz0 hz1 hz2

/-- **every sequence of consecutive updates** of a sand eel particle that LADiM moves horizontally between the updates
(`(x, y)` and the local depth change from update to update): state `(Z, stage, hatch_rate, active)`, one step =
position and the two numbers of the supply; `0 ≤ Z ≤ maxdepth` throughout (and `Z ≤ H` after every update in which the
particle is active: `c05_sandeel_update`) -/
theorem c05_sandeel_history [HasRound α] [HasTrunc α] (e : SandeelEnv α) (f : α → α → α)
    (hh : e.hatchTime = fun r t => some (some (f r t))) (hm : 0 ≤ e.maxdepth)
    (steps : List (α × α × α × α)) (hH : ∀ st ∈ steps, 0 ≤ e.sampleDepth st.1 st.2.1)
    (s₀ : α × α × α × Bool) (h₀ : 0 ≤ s₀.1 ∧ s₀.1 ≤ e.maxdepth) :
    ∃ s', steps.foldlM (fun s st =>
        (runProc sandeelUpdAtom (sandeelUpdStep e) Gen.sandeel_update_seq
          ⟨st.1, st.2.1, s.1, s.2.1, s.2.2.1, s.2.2.2, none, ⟨[st.2.2.1, st.2.2.2], []⟩⟩).join.map
          fun r => (r.z, r.stage, r.hatchRate, r.active)) s₀ = some s' ∧
      0 ≤ s'.1 ∧ s'.1 ≤ e.maxdepth := by
  refine history_invariant (fun s : α × α × α × Bool => 0 ≤ s.1 ∧ s.1 ≤ e.maxdepth) _ steps ?_ s₀ h₀
  intro st hst s hs
  obtain ⟨r, hr, _, _, h1, h2⟩ :=
    c05_sandeel_update e f hh st.1 st.2.1 s.1 s.2.1 s.2.2.1 s.2.2.2 st.2.2.1 st.2.2.2 [] hm (hH st hst)
  refine ⟨_, by rw [hr]; rfl, ?_⟩
  cases ha : r.active with
  | true => exact ⟨(h1 ha).1, (h1 ha).2.2⟩
  | false => show 0 ≤ r.z ∧ r.z ≤ e.maxdepth; rw [h2 ha]; exact hs

/-- sand eel, two consecutive updates at two positions (local depths 60 m and 25 m) -/
example : True := by
  have h := c05_sandeel_history (α := ℚ)
    (c05_exEelEnv fun x _ => if x ≤ 3 then 60 else 25) _ rfl (by norm_num) [(3, 4, 1 / 3, -2), (4, 4, 1 / 2, 5)]
    (by intro st hst; simp only [List.mem_cons, List.mem_nil_iff, or_false] at hst; rcases hst with rfl | rfl <;> norm_num)
    (30, 1 / 2, 0, true) (by norm_num)
  trivial

/-! ## shrimp -/

/-- shrimp `mixing` alone (`Gen.shrimp_mixing_seq`): never above the surface, from any depth, for every draw and
coefficient.  Bridge-forced: the table read `vertical_mixing[int_stage]` succeeds; supply `xi :: rest`. -/
theorem c05_shrimp_mixing_nonneg [HasTrunc α] (vm : List α) (dt : α) (p : Shrimp α) (xi : α) (rest : List α)
    (log : List Draw) (v : α) (hv : npIndex vm (shrimpIntStage p.stage) = some v) :
    ∃ r, (runProc shrimpMixAtom (shrimpMixStep vm dt) Gen.shrimp_mixing_seq ⟨p, none, none, none, none, none, ⟨xi :: rest, log⟩⟩).map
        (Option.map fun s => (s.p, s.rng)) = some (some r) ∧ 0 ≤ r.1.z := by
  have h := Bridge.shrimp_mixing_seq vm dt p ⟨xi :: rest, log⟩
  rw [hv] at h
  refine ⟨_, h, ?_⟩
  exact C05.shrimpMix_nonneg v dt xi p.z

/-- helper (model level): one migration step towards the preferred depth of the day or the night band, each a band
`[lo, hi]` with `0 ≤ lo ≤ hi`, quantile in `[0, 1]`: the depth stays `≥ 0` and ends between the old depth and that band -/
theorem c05_migrate_band (dt speed minDay maxDay minNgh maxNgh q z : α) (day : Bool) (hz : 0 ≤ z)
    (hs : 0 ≤ dt * speed) (hd : 0 ≤ minDay ∧ minDay ≤ maxDay) (hn : 0 ≤ minNgh ∧ minNgh ≤ maxNgh)
    (hq0 : 0 ≤ q) (hq1 : q ≤ 1) :
    let z' := Bio.shrimpMigrate dt speed
      (Bio.shrimpPreferred (if day then minDay else minNgh) (if day then maxDay else maxNgh) q) z
    0 ≤ z' ∧ ∃ lo hi, ((lo, hi) = (minDay, maxDay) ∨ (lo, hi) = (minNgh, maxNgh)) ∧ min z lo ≤ z' ∧ z' ≤ max z hi := by
  have key : ∀ lo hi, 0 ≤ lo → lo ≤ hi →
      let z' := Bio.shrimpMigrate dt speed (Bio.shrimpPreferred lo hi q) z
      0 ≤ z' ∧ min z lo ≤ z' ∧ z' ≤ max z hi := fun lo hi hlo h => by
    -- the preferred depth lies in the band
    have hd := sub_nonneg.mpr h
    have hp0 : lo ≤ Bio.shrimpPreferred lo hi q := le_add_of_nonneg_right (mul_nonneg hd hq0)
    have hp1 : Bio.shrimpPreferred lo hi q ≤ hi :=
      (add_le_add_right (mul_le_of_le_one_right hd hq1) lo).trans_eq (add_sub_cancel lo hi)
    obtain ⟨h0, h1, h2⟩ := C05.migration_band_clamped dt speed (Bio.shrimpPreferred lo hi q) z hz (le_trans hlo hp0) hs
    exact ⟨h0, le_trans (min_le_min le_rfl hp0) h1, le_trans h2 (max_le_max le_rfl hp1)⟩
  cases day
  · exact ⟨(key _ _ hn.1 hn.2).1, minNgh, maxNgh, Or.inr rfl, (key _ _ hn.1 hn.2).2⟩
  · exact ⟨(key _ _ hd.1 hd.2).1, minDay, maxDay, Or.inl rfl, (key _ _ hd.1 hd.2).2⟩

/-- shrimp `diel_migration` alone (`Gen.shrimp_diel_migration_seq`, with the interpreted `sunheight`): from a depth `≥ 0`
the particle stays `≥ 0` and ends between its old depth and the day / night band of its stage.
Bridge-forced: the five table reads succeed. -/
theorem c05_shrimp_diel_migration_band [HasTrunc α] {τ : Type} (e : ShrimpEnv α τ) (p : Shrimp α)
    (speed maxDay maxNgh minDay minNgh : α)
    (h1 : npIndex e.vertSpeed (shrimpIntStage p.stage) = some speed)
    (h2 : npIndex e.maxDay (shrimpIntStage p.stage) = some maxDay)
    (h3 : npIndex e.maxNgh (shrimpIntStage p.stage) = some maxNgh)
    (h4 : npIndex e.minDay (shrimpIntStage p.stage) = some minDay)
    (h5 : npIndex e.minNgh (shrimpIntStage p.stage) = some minNgh)
    (hz : 0 ≤ p.z) (hs : 0 ≤ e.dt * speed) (hd : 0 ≤ minDay ∧ minDay ≤ maxDay) (hn : 0 ≤ minNgh ∧ minNgh ≤ maxNgh)
    (hq : 0 ≤ p.q ∧ p.q ≤ 1) :
    ∃ p', (runProc (shrimpDielAtom e.hasTimestamp) (shrimpDielStep e) Gen.shrimp_diel_migration_seq
        ⟨p, none, none, none, none, none, none, none, none, none, none, none, none, none, none, none, none, none,
          none⟩).map (Option.map fun s => s.p) = some (some p') ∧
      0 ≤ p'.z ∧
      ∃ lo hi, ((lo, hi) = (minDay, maxDay) ∨ (lo, hi) = (minNgh, maxNgh)) ∧ min p.z lo ≤ p'.z ∧ p'.z ≤ max p.z hi := by
  have h := Bridge.shrimp_diel_migration_seq e p speed maxDay maxNgh minDay minNgh h1 h2 h3 h4 h5
  unfold shrimpDielRun at h
  exact ⟨_, h, c05_migrate_band e.dt speed minDay maxDay minNgh maxNgh p.q p.z _ hz hs hd hn hq.1 hq.2⟩

/-- **shrimp** — after the interpreted `update_ibm` (`Gen.shrimp_update_seq` and every callee: `initialize`,
`update_ibm_forcing`, `growth`, `mixing`, `diel_migration`, `sunheight`): `Z ≥ 0` from ANY start depth, and `Z` lies
between the depth after mixing (`zmix ≥ 0`) and the migration band `[lo, hi]` of the stage (day or night): the
migration never overshoots the band and never leaves it.  Side conditions (valid configuration): `dt * speed ≥ 0`,
`0 ≤ mindepth ≤ maxdepth` day and night, quantile (stored, and the uniform draw that initialises it) in `[0, 1]`.
Bridge-forced: `h0 … h5` — the six stage tables have an entry at the index of the stage after growth
(`Bridge.shrimp_table_read`: tables with five entries, integer part of the stage `≥ 1`); a supply of two numbers. -/
theorem c05_shrimp_band [HasTrunc α] {τ : Type} (e : ShrimpEnv α τ) (p : Shrimp α) (u xi : α) (rest : List α)
    (vm speed maxDay maxNgh minDay minNgh : α)
    (h0 : npIndex e.vertMix (shrimpIntStage (Bridge.shrimpStageAfter e p)) = some vm)
    (h1 : npIndex e.vertSpeed (shrimpIntStage (Bridge.shrimpStageAfter e p)) = some speed)
    (h2 : npIndex e.maxDay (shrimpIntStage (Bridge.shrimpStageAfter e p)) = some maxDay)
    (h3 : npIndex e.maxNgh (shrimpIntStage (Bridge.shrimpStageAfter e p)) = some maxNgh)
    (h4 : npIndex e.minDay (shrimpIntStage (Bridge.shrimpStageAfter e p)) = some minDay)
    (h5 : npIndex e.minNgh (shrimpIntStage (Bridge.shrimpStageAfter e p)) = some minNgh)
    (hs : 0 ≤ e.dt * speed) (hd : 0 ≤ minDay ∧ minDay ≤ maxDay) (hn : 0 ≤ minNgh ∧ minNgh ≤ maxNgh)
    (hq : 0 ≤ p.q ∧ p.q ≤ 1) (hu : 0 ≤ u ∧ u ≤ 1) :
    ∃ s, runProc shrimpUpdAtom (shrimpUpdStep e) Gen.shrimp_update_seq ⟨p, ⟨u :: xi :: rest, []⟩⟩ = some (some s) ∧
      0 ≤ s.p.z ∧
      ∃ zmix lo hi, 0 ≤ zmix ∧ ((lo, hi) = (minDay, maxDay) ∨ (lo, hi) = (minNgh, maxNgh)) ∧
        min zmix lo ≤ s.p.z ∧ s.p.z ≤ max zmix hi := by
  refine run_view (Bridge.shrimp_update_seq e p u xi rest vm speed maxDay maxNgh minDay minNgh h0 h1 h2 h3 h4 h5)
    fun s hp => ?_
  rw [hp]
  have hzm := C05.shrimpMix_nonneg vm e.dt (if Bio.isZeroS p.q then xi else u) p.z
  have hq' : 0 ≤ (if Bio.isZeroS p.q then u else p.q) ∧ (if Bio.isZeroS p.q then u else p.q) ≤ 1 := by
    split_ifs
    · exact hu
    · exact hq
  obtain ⟨a, lo, hi, hlh, b, c⟩ := c05_migrate_band e.dt speed minDay maxDay minNgh maxNgh _ _ _ hzm hs hd hn hq'.1 hq'.2
  exact ⟨a, _, lo, hi, hzm, hlh, b, c⟩

/-- shrimp: five-entry stage tables, stage 2 particle at 30 m, new quantile -/
example : True := by
  let e : ShrimpEnv ℚ ℕ :=
    ⟨[1/1000, 1/1000, 1/1000, 1/1000, 1/1000], [1/100, 1/100, 1/100, 1/100, 1/100], [50, 60, 70, 80, 90],
      [20, 25, 30, 35, 40], [10, 15, 20, 25, 30], [1, 2, 3, 4, 5], 600, fun _ _ _ => 5, fun _ _ _ => 35,
      fun x y => (x, y), true, 100, 100, fun _ => (150, 12), false⟩
  let p : Shrimp ℚ := ⟨3, 4, 30, 2, 10, 0, true, none, none, none⟩
  -- after growth the stage is still in `[2, 3)`: every table is read at index 1
  have hst : shrimpIntStage (Bridge.shrimpStageAfter e p) = 1 := by decide +kernel
  have h := c05_shrimp_band e p (1 / 2) (-1) [] (1/1000) (1/100) 60 25 15 2
    (by rw [hst]; rfl) (by rw [hst]; rfl) (by rw [hst]; rfl) (by rw [hst]; rfl) (by rw [hst]; rfl) (by rw [hst]; rfl)
    (by norm_num) (by norm_num) (by norm_num) (by norm_num) (by norm_num)
  trivial

end develop

section sediment
open Ladim.Seq Ladim.Sed Ladim.Grain
variable {α : Type} [Field α] [LinearOrder α] [IsStrictOrderedRing α]
  [HasSqrt α] [HasExp α] [HasLog α] [HasSin α] [HasCos α] [HasAsin α] [HasRpow α] [HasPi α] [HasRound α] [HasFloor α]

/-! ## sedimentation -/

/-- the `call` steps of `update_ibm` replaced by the interpretations of the generated method bodies; the state is the
particle's variables and the shear-velocity cache of the IBM object -/
def c05_sedStepCode (c : Sed.Config α) (e : Sed.Env α) (xi : α) (t : Int) (numOthers : Nat)
    (sc : SedSt α × Cache α) (k tx : String) : Option (SedSt α × Cache α) :=
  if k = "call" ∧ tx = "initialize" then
    (runSedInitialize Gen.sed_initialize_seq numOthers e.newSink sc.1.sinkVel).join.map
      fun v => ({ sc.1 with sinkVel := v }, sc.2)
  else if k = "call" ∧ tx = "resuspend" then
    (runSedResuspend Gen.sed_resuspend_seq sc.2 t e sc.1.active).join.map fun r => ({ sc.1 with active := r.1 }, r.2)
  else if k = "call" ∧ tx = "diffuse" then
    (runSedDiffuse Gen.sed_diffuse_seq c sc.2 t e xi sc.1.active sc.1.z).join.map fun r => ({ sc.1 with z := r.1 }, r.2)
  else if k = "call" ∧ tx = "sink" then
    (runSedSink Gen.sed_sink_seq c.dt sc.1.sinkVel sc.1.active sc.1.z).join.map fun z => ({ sc.1 with z := z }, sc.2)
  else if k = "call" ∧ tx = "bury" then
    (runSedBury Gen.sed_bury_seq e.H sc.1.z sc.1.active sc.1.alive).join.map
      fun r => ({ sc.1 with z := r.1, active := r.2.1, alive := r.2.2 }, sc.2)
  else if k = "call" ∧ tx = "kill_old" then
    (runSedKillOld Gen.sed_kill_old_seq c.stateDt c.lifespan sc.1.age sc.1.alive).join.map
      fun r => ({ sc.1 with age := r.1, alive := r.2 }, sc.2)
  else (Seq.sedStep c e xi sc.1 k tx).map fun s => (s, sc.2)

/-- helper -/
theorem c05_store_idem (k : Carrier) (f : Nat) : k.store (k.store f) = k.store f := by
  cases k
  · rfl
  · by_cases h : f = 0 <;> simp [Carrier.store, h]

/-- the flag that `bury` sets is 0 or 1, which every carrier holds -/
theorem c05_store_bury (k : Carrier) (H z : α) (a : Nat) : k.store (Sed.bury H a z).2 = (Sed.bury H a z).2 := by
  unfold Sed.bury
  split_ifs
  exacts [Bridge.store_zero k, Bridge.store_zero k, Bridge.store_one k]

/-- every statement of the interpreter of `update_ibm` keeps the flag a value the carrier holds -/
theorem c05_sedStep_store (c : Sed.Config α) (e : Sed.Env α) (xi : α) (s s' : SedSt α) (k tx : String)
    (hs : c.carrier.store s.active = s.active) (h : Seq.sedStep c e xi s k tx = some s') :
    c.carrier.store s'.active = s'.active := by
  unfold Seq.sedStep at h
  split at h <;> first
    | (cases h; exact hs)
    | (cases h; exact c05_store_idem _ _)
    | (cases h; exact c05_store_bury _ _ _ _)
    | (cases h; dsimp only; split_ifs; exacts [c05_store_idem _ _, hs])
    | exact absurd h (by simp)

/-- invariant of the composed run: the cache is stale or holds the particle's bottom shear velocity, and the flag is
a value the carrier holds -/
def c05_SedInv (c : Sed.Config α) (e : Sed.Env α) (t : Int) (sc : SedSt α × Cache α) : Prop :=
  Bridge.Coherent sc.2 t (Sed.ustar e.ub e.vb) ∧ c.carrier.store sc.1.active = sc.1.active

/-- helper -/
theorem c05_coherent_get (cache : Cache α) (t : Int) (v : α) (h : Bridge.Coherent cache t v) :
    Bridge.Coherent (cache.get t v).1 t v := Or.inr (Bridge.coherent_get h).1

/-- one statement: the composed step is the step of `Seq.sedStep` (`Bridge.sed_call_*`), with some new cache that
again satisfies the invariant -/
theorem c05_sed_code_step (c : Sed.Config α) (e : Sed.Env α) (xi : α) (t : Int) (n : Nat)
    (sc : SedSt α × Cache α) (hI : c05_SedInv c e t sc) (k tx : String) :
    c05_PairStep (Seq.sedStep c e xi) (c05_SedInv c e t) sc (c05_sedStepCode c e xi t n sc k tx) k tx := by
  obtain ⟨hcoh, hst⟩ := hI
  have keep : ∀ {k tx} cache', Bridge.Coherent cache' t (ustar e.ub e.vb) →
      ∀ s', Seq.sedStep c e xi sc.1 k tx = some s' → c05_SedInv c e t (s', cache') :=
    fun _ hc s' h => ⟨hc, c05_sedStep_store c e xi sc.1 s' _ _ hst h⟩
  have call := @c05_ite_call _ (c05_PairStep (Seq.sedStep c e xi) (c05_SedInv c e t) sc)
  -- `initialize`, `sink`, `bury`, `kill_old` and the plain statements leave the cache alone; `resuspend` and `diffuse`
  -- read the shear velocity through it
  refine call (c05_pair_step_keep (Bridge.sed_call_initialize c e xi sc.1 n) (keep _ hcoh)) (call ?_ (call ?_
    (call (c05_pair_step_keep (Bridge.sed_call_sink c e xi sc.1) (keep _ hcoh))
      (call (c05_pair_step_keep (Bridge.sed_call_bury c e xi sc.1) (keep _ hcoh))
        (call (c05_pair_step_keep (Bridge.sed_call_kill_old c e xi sc.1) (keep _ hcoh)) ⟨sc.2, rfl, keep _ hcoh⟩)))))
  · refine ⟨if e.taucrit.isSome then (sc.2.get t (ustar e.ub e.vb)).1 else sc.2, ?_, keep _ ?_⟩
    · rw [Bridge.sed_call_resuspend c e xi sc.1 sc.2 t hcoh hst, Bridge.sed_resuspend_seq _ _ _ _ hcoh]; rfl
    · split_ifs
      · exact c05_coherent_get _ _ _ hcoh
      · exact hcoh
  · refine ⟨match c.mixing with | .none => sc.2 | _ => (sc.2.get t (ustar e.ub e.vb)).1, ?_, keep _ ?_⟩
    · rw [Bridge.sed_call_diffuse c e xi sc.1 sc.2 t hcoh, Bridge.sed_diffuse_seq _ _ _ _ _ _ _ hcoh]; rfl
    · cases c.mixing
      · exact hcoh
      · exact c05_coherent_get _ _ _ hcoh
      · exact c05_coherent_get _ _ _ hcoh

/-- **sedimentation** — the whole interpreted `update_ibm` with every method body interpreted (`Gen.sed_update_seq`,
`sed_initialize_seq`, `sed_resuspend_seq`, `sed_shear_velocity_seq`, `sed_diffuse_seq`, `sed_sink_seq`, `sed_bury_seq`,
`sed_kill_old_seq`): a particle in `[0, H]` ends in `[0, H]` (after `bury`), for every draw `xi`, bottom current and
critical stress.  Side conditions of the property: `0 ≤ H`, in-band start, `0 ≤ dt`, non-negative sinking velocities
(stored and newly assigned), and for CONSTANT mixing (both mirrors applied once) the displaced depth within `2H`
(`hmix`; the bounded-linear scheme needs nothing).
Bridge-forced: `hcoh` — the shear-velocity cache is stale at this step or holds this particle's value
(`Bridge.sed_resuspend_seq`, `sed_diffuse_seq`); `hstore` — the flag `active` is a value the state array holds
(`Bridge.sed_call_resuspend`). -/
theorem c05_sed_update_code_band (c : Sed.Config α) (e : Sed.Env α) (xi : α) (t : Int) (numOthers : Nat)
    (cache : Cache α) (p : Sed.Particle α)
    (hcoh : cache.tstep < t ∨ cache.value = Sed.ustar e.ub e.vb) (hstore : c.carrier.store p.active = p.active)
    (hH : 0 ≤ e.H) (hz0 : 0 ≤ p.z) (hz1 : p.z ≤ e.H) (hdt : 0 ≤ c.dt) (hsv : 0 ≤ p.sinkVel) (hns : 0 ≤ e.newSink)
    (hmix : ∀ v, c.mixing = .const v → |p.z + sqrt (2.0 * v) * (xi * sqrt c.dt)| ≤ 2 * e.H) :
    ∃ s cache', Seq.run (fun sc : SedSt α × Cache α => Seq.sedAtom sc.1) (c05_sedStepCode c e xi t numOthers)
        Gen.sed_update_seq (SedSt.init p, cache) = some (s, cache') ∧ 0 ≤ s.z ∧ s.z ≤ e.H := by
  obtain ⟨cache', hrun⟩ := c05_run_pair Seq.sedAtom _ _ (c05_SedInv c e t)
    (fun sc hI => c05_sed_code_step c e xi t numOthers sc hI) Gen.sed_update_seq (SedSt.init p, cache) ⟨hcoh, hstore⟩
  -- the run of `Seq.sedStep` (the `call` steps are the hand-written rules) is the model's update
  obtain ⟨s, hs, hp⟩ := Option.map_eq_some_iff.mp (Bridge.sed_update_seq c e xi p)
  refine ⟨s, cache', by rw [hrun, hs]; rfl, ?_⟩
  rw [show s.z = (SedSt.particle s).z from rfl, hp]
  exact C05.sed_update_band c e xi p hH ⟨hz0, hz1⟩ hdt hsv hns hmix

/-- sedimentation: constant mixing, depth 50, particle at 30 m, stale cache -/
example : True := by
  have h := c05_sed_update_code_band (α := ℚ) ⟨600, 600, 86400, .const (1 / 1000), .numeric⟩
    ⟨50, 1 / 10, 0, some (1 / 10), 1 / 100⟩ (-1) 1 3 ⟨0, 0⟩ ⟨30, 1, true, 0, 1 / 1000⟩
    (Or.inl (by norm_num)) rfl (by norm_num) (by norm_num) (by norm_num) (by norm_num) (by norm_num) (by norm_num)
    (by intro v hv; cases hv; norm_num [sqrt, exSqrt])
  trivial

/-- `bury` alone (`Gen.sed_bury_seq`): an active particle ends at or above the bed, and never above the surface -/
theorem c05_sed_bury_band (H z : α) (a : Nat) (alive : Bool) :
    ∃ r, runSedBury Gen.sed_bury_seq H z a alive = some (some r) ∧
      (a ≠ 0 → r.1 ≤ H) ∧ (0 ≤ H → 0 ≤ z → 0 ≤ r.1) :=
  ⟨_, Bridge.sed_bury_seq H z a alive, fun ha => C05.bury_le_H H z a ha, fun hH hz => C05.bury_nonneg H z a hH hz⟩

/-! ## mine -/

/-- mine `bury` alone (`Gen.mine_bury_seq`) -/
theorem c05_mine_bury_band (c : Mine.Config α) (H z : α) (active : Nat) (alive : Bool) :
    ∃ r, runMineBury Gen.mine_bury_seq c H z active alive = some (some r) ∧
      ((if c.hasActive then active else 1) ≠ 0 → r.1 ≤ H) ∧ (0 ≤ H → 0 ≤ z → 0 ≤ r.1) :=
  ⟨_, Bridge.mine_bury_seq c H z active alive, fun ha => C05.bury_le_H H z _ ha,
    fun hH hz => C05.bury_nonneg H z _ hH hz⟩

/-- the `call` steps of the mine `update_ibm` replaced by the interpretations of the generated method bodies
(`reposition`, the horizontal re-seeding of C11, and `store`, the output of dead particles, do not touch the depth) -/
def c05_mineStepCode (c : Mine.Config α) (e : Mine.Env α) (xi : α) (t : Int)
    (sc : MineSt α × Cache α) (k tx : String) : Option (MineSt α × Cache α) :=
  if k = "call" ∧ tx = "resuspend" then
    (runMineResuspend Gen.mine_resuspend_seq c sc.2 t e sc.1.act).join.map fun r => ({ sc.1 with act := r.1 }, r.2)
  else if k = "call" ∧ tx = "diffuse" then
    (runMineDiffuse Gen.mine_diffuse_seq c.vdiff c.dt xi sc.1.act sc.1.z).join.map fun z => ({ sc.1 with z := z }, sc.2)
  else if k = "call" ∧ tx = "sink" then
    (runMineSink Gen.mine_sink_seq c.dt sc.1.sinkVel e.w c.vadv sc.1.act sc.1.z).join.map
      fun z => ({ sc.1 with z := z }, sc.2)
  else if k = "call" ∧ tx = "bury" then
    (runMineBury Gen.mine_bury_seq c e.H sc.1.z sc.1.act sc.1.alive).join.map
      fun r => ({ sc.1 with z := r.1, act := r.2.1, alive := r.2.2 }, sc.2)
  else if k = "call" ∧ tx = "kill_old" then
    (runMineKillOld Gen.mine_kill_old_seq c.stateDt c.lifespan sc.1.age sc.1.alive).join.map
      fun r => ({ sc.1 with age := r.1, alive := r.2 }, sc.2)
  else (Seq.mineStep c e xi sc.1 k tx).map fun s => (s, sc.2)

/-- invariant of the composed run: coherent cache; the value of `self.active()` is one the carrier holds; without a
variable `active` it is 1 and `has_been_buried_before` is unset -/
def c05_MineInv (c : Mine.Config α) (e : Mine.Env α) (t : Int) (sc : MineSt α × Cache α) : Prop :=
  Bridge.Coherent sc.2 t (Sed.ustar e.ub e.vb) ∧ c.carrier.store sc.1.act = sc.1.act ∧
    (c.hasActive = false → sc.1.act = 1 ∧ sc.1.buriedBefore = false)

/-- helper: every statement of `Seq.mineStep` keeps the invariant's flag part -/
theorem c05_mineStep_inv (c : Mine.Config α) (e : Mine.Env α) (xi : α) (s s' : MineSt α) (k tx : String)
    (hA : c.hasActive = true ∨ c.taucrit = none)
    (hs : c.carrier.store s.act = s.act) (h1 : c.hasActive = false → s.act = 1 ∧ s.buriedBefore = false)
    (h : Seq.mineStep c e xi s k tx = some s') :
    c.carrier.store s'.act = s'.act ∧ (c.hasActive = false → s'.act = 1 ∧ s'.buriedBefore = false) := by
  have htau : c.hasActive = false → c.taucrit = none := by
    intro hf; rcases hA with hA | hA
    · rw [hf] at hA; cases hA
    · exact hA
  unfold Seq.mineStep at h
  split at h
  case h_15 => exact absurd h (by simp)
  all_goals cases h
  case h_4 => exact ⟨hs, fun hf => ⟨(h1 hf).1, by simp [(h1 hf).1]⟩⟩
  case h_7 =>
    refine ⟨?_, fun hf => ?_⟩
    · unfold Mine.resusp; cases c.taucrit with
      | none => exact hs
      | some tc => exact c05_store_idem _ _
    · have := htau hf
      simp only [Mine.resusp, this]; exact h1 hf
  case h_10 =>
    dsimp only
    refine ⟨?_, fun hf => ?_⟩
    · split_ifs
      · exact c05_store_bury _ _ _ _
      · exact hs
    · simp only [hf, Bool.false_eq_true, if_false]; exact h1 hf
  case h_14 =>
    dsimp only
    refine ⟨?_, fun hf => ?_⟩
    · split_ifs
      · exact c05_store_idem _ _
      · exact hs
    · have hb := (h1 hf).2
      exact ⟨by simp only [hb, Bool.and_false, Bool.false_eq_true, if_false]; exact (h1 hf).1, hb⟩
  all_goals exact ⟨hs, h1⟩

/-- one statement: the composed step is the step of `Seq.mineStep` (`Bridge.mine_call_*`) -/
theorem c05_mine_code_step (c : Mine.Config α) (e : Mine.Env α) (xi : α) (t : Int)
    (hA : c.hasActive = true ∨ c.taucrit = none)
    (sc : MineSt α × Cache α) (hI : c05_MineInv c e t sc) (k tx : String) :
    c05_PairStep (Seq.mineStep c e xi) (c05_MineInv c e t) sc (c05_mineStepCode c e xi t sc k tx) k tx := by
  obtain ⟨hcoh, hst, h1⟩ := hI
  have keep : ∀ {k tx} cache', Bridge.Coherent cache' t (ustar e.ub e.vb) →
      ∀ s', Seq.mineStep c e xi sc.1 k tx = some s' → c05_MineInv c e t (s', cache') :=
    fun _ hc s' h => ⟨hc, c05_mineStep_inv c e xi sc.1 s' _ _ hA hst h1 h⟩
  have call := @c05_ite_call _ (c05_PairStep (Seq.mineStep c e xi) (c05_MineInv c e t) sc)
  -- only `resuspend` reads the shear velocity through the cache
  refine call ?_ (call (c05_pair_step_keep (Bridge.mine_call_diffuse c e xi sc.1) (keep _ hcoh))
    (call (c05_pair_step_keep (Bridge.mine_call_sink c e xi sc.1) (keep _ hcoh))
      (call (c05_pair_step_keep (Bridge.mine_call_bury c e xi sc.1 fun hf => (h1 hf).1) (keep _ hcoh))
        (call (c05_pair_step_keep (Bridge.mine_call_kill_old c e xi sc.1) (keep _ hcoh)) ⟨sc.2, rfl, keep _ hcoh⟩))))
  refine ⟨if c.taucrit.isSome then (sc.2.get t (ustar e.ub e.vb)).1 else sc.2, ?_, keep _ ?_⟩
  · rw [Bridge.mine_call_resuspend c e xi sc.1 sc.2 t hA hst hcoh, Bridge.mine_resuspend_seq _ _ _ _ _ hA hst hcoh]
    rfl
  · split_ifs
    · exact c05_coherent_get _ _ _ hcoh
    · exact hcoh

/-- **mine** — the whole interpreted `update_ibm` with every method body interpreted (`Gen.mine_update_seq`,
`mine_resuspend_seq`, `mine_shear_velocity_seq`, `mine_diffuse_seq`, `mine_sink_seq`, `mine_bury_seq`,
`mine_kill_old_seq`): a particle in `[0, H]` ends in `[0, H]`, for every draw.  Side conditions: `0 ≤ H`, in-band start,
`0 ≤ dt`, non-negative total vertical velocity (`hw`).
Bridge-forced: `hA` — the state has a variable `active` or no resuspension is configured (otherwise the code raises:
`Bridge.mine_resuspend_seq_raises`); `hcoh` (cache, as for sedimentation); `hstore` (the flag is a value the array
holds). -/
theorem c05_mine_update_code_band (c : Mine.Config α) (e : Mine.Env α) (xi : α) (t : Int)
    (cache : Cache α) (p : Sed.Particle α)
    (hA : c.hasActive = true ∨ c.taucrit = none)
    (hcoh : cache.tstep < t ∨ cache.value = Sed.ustar e.ub e.vb)
    (hstore : c.hasActive = true → c.carrier.store p.active = p.active)
    (hH : 0 ≤ e.H) (hz0 : 0 ≤ p.z) (hz1 : p.z ≤ e.H) (hdt : 0 ≤ c.dt)
    (hw : 0 ≤ (if c.vadv then p.sinkVel + e.w else p.sinkVel)) :
    ∃ s cache', Seq.run (fun sc : MineSt α × Cache α => Seq.mineAtom c sc.1) (c05_mineStepCode c e xi t)
        Gen.mine_update_seq (MineSt.init c p, cache) = some (s, cache') ∧ 0 ≤ s.z ∧ s.z ≤ e.H := by
  have hI : c05_MineInv c e t (MineSt.init c p, cache) := by
    refine ⟨hcoh, ?_, fun hf => ?_⟩
    · show c.carrier.store (if c.hasActive then p.active else 1) = (if c.hasActive then p.active else 1)
      split_ifs with h
      · exact hstore h
      · exact Bridge.store_one _
    · show (if c.hasActive then p.active else 1) = 1 ∧ false = false
      simp [hf]
  obtain ⟨cache', hrun⟩ := c05_run_pair (Seq.mineAtom c) _ _ (c05_MineInv c e t)
    (fun sc hI => c05_mine_code_step c e xi t hA sc hI) Gen.mine_update_seq (MineSt.init c p, cache) hI
  -- the run of `Seq.mineStep` (the `call` steps are the hand-written rules) is the model's update
  obtain ⟨s, hs, hp⟩ := Option.map_eq_some_iff.mp (Bridge.mine_update_seq c e xi p)
  refine ⟨s, cache', by rw [hrun, hs]; rfl, ?_⟩
  rw [show s.z = (MineSt.particle c p s).z from rfl, hp]
  exact C05.mine_update_band c e xi p hH ⟨hz0, hz1⟩ hdt hw

/-- mine: vertical advection on, depth 50, particle at 30 m, state without `active`, no resuspension -/
example : True := by
  have h := c05_mine_update_code_band (α := ℚ) ⟨600, 600, 86400, 1 / 1000, none, true, false, .numeric⟩
    ⟨50, 1 / 10, 0, -1 / 2000⟩ (-1) 1 ⟨0, 0⟩ ⟨30, 1, true, 0, 1 / 1000⟩
    (Or.inr rfl) (Or.inl (by norm_num)) (by intro h; cases h) (by norm_num) (by norm_num) (by norm_num) (by norm_num)
    (by norm_num)
  trivial

end sediment

section chemicals
open Ladim.Seq Ladim.Chemicals
variable {α : Type} [Field α] [LinearOrder α] [IsStrictOrderedRing α]
  [HasSqrt α] [HasExp α] [HasLog α] [HasSin α] [HasCos α] [HasAsin α] [HasRpow α] [HasPi α] [HasRound α] [HasFloor α]

/-! ## chemicals `[0, H]` -/

/-- `reflect` alone: one reflection brings every depth within one water depth of the band into the band -/
theorem c05_chem_reflect_band (H z : α) (h1 : -H ≤ z) (h2 : z ≤ 2 * H) :
    ∃ z', runChemReflect Gen.chem_reflect_seq H z = some (some z') ∧ 0 ≤ z' ∧ z' ≤ H :=
  ⟨_, Bridge.chem_reflect_seq H z, C05.reflect_band H z h1 h2⟩

/-- `clamp_to_seabed` alone -/
theorem c05_chem_clamp_band (H z : α) (hH : 0 ≤ H) (hz : 0 ≤ z) :
    ∃ z', runChemClamp Gen.chem_clamp_seq H z = some (some z') ∧ 0 ≤ z' ∧ z' ≤ H :=
  ⟨_, Bridge.chem_clamp_seq H z, C05.collision_clamp_band H z hH hz⟩

/-- the step-size precondition of the property, for one update: each vertical displacement that is followed by ONE
reflection — advection `dt * w`, constant mixing `sqrt(2 D) * dW`, every LaBolle sub-step `sqrt(2 K) * dW` with
`dW = (2 u - 1) * sqrt(3 ddt)` for the draws `u` of the particle — is at most the local water depth.  Stated at every
horizontal position `(x, y)` (the collision handler may re-seed the particle before the vertical steps run) and, for
LaBolle, at every sampling depth `zz`; only the CONFIGURED scheme and the draws of the particle's supply are bound.
`substeps c.dt vdt c.fuel 0` is the list of sub-step lengths of the `while` loop (`Bridge.chem_diffuse_labolle_seq`). -/
structure c05_ChemStepSmall (c : Config α) (e : Env α) (d : Draws α) : Prop where
  adv : c.vertadv = true → ∀ x y z, |c.dt * e.wvel x y z| ≤ e.depth x y
  const : ∀ D, c.mix = .const D → ∀ u ∈ d.vert, ∀ x y,
    |sqrt (2.0 * D) * ((u * 2.0 - 1.0) * sqrt (3.0 * c.dt))| ≤ e.depth x y
  labolle : ∀ vdt dz vmax, c.mix = .labolle vdt dz vmax → ∀ ddt ∈ substeps c.dt vdt c.fuel 0.0, ∀ u ∈ d.vert,
    ∀ x y zz, |sqrt (2.0 * fmin (e.vdiff x y zz) vmax) * ((u * 2.0 - 1.0) * sqrt (3.0 * ddt))| ≤ e.depth x y

/-- the particle has a draw for every generator call of the vertical mixing -/
structure c05_ChemSupply (c : Config α) (d : Draws α) : Prop where
  const : ∀ D, c.mix = .const D → d.vert ≠ []
  labolle : ∀ vdt dz vmax, c.mix = .labolle vdt dz vmax → (substeps c.dt vdt c.fuel 0.0).length ≤ d.vert.length

/-- helper (model level; `C05.update_band` with the step-size precondition restricted to the configured scheme and to the
draws that are used) -/
theorem c05_chem_model_band (c : Config α) (e : Env α) (d : Draws α) (p : Particle α)
    (hdep : ∀ x y, 0 ≤ e.depth x y) (hz : 0 ≤ p.z ∧ p.z ≤ e.depth p.x p.y)
    (hcl : c.collisionClamp = true ∨ d.stuck = false)
    (hne : ∀ D, c.mix = .const D → d.vert ≠ []) (hsm : c05_ChemStepSmall c e d) :
    0 ≤ (update c e d p).z ∧ (update c e d p).z ≤ e.depth (update c e d p).x (update c e d p).y := by
  have key : ∀ x y z, C05.InBand (e.depth x y) z → C05.InBand (e.depth x y) (vertical c e d x y z) := by
    intro x y z hzz
    unfold vertical
    have hz1 : C05.InBand (e.depth x y) (if c.vertadv then advect c.dt (e.depth x y) (e.wvel x y z) z else z) := by
      split_ifs with h
      · exact C05.advect_band _ _ _ _ hzz (hsm.adv h x y z)
      · exact hzz
    cases hm : c.mix with
    | none => simpa using hz1
    | const D =>
      have hmem : d.vert.headD 0.0 ∈ d.vert := by
        cases hv : d.vert with
        | nil => exact absurd hv (hne D hm)
        | cons u rest => simp
      exact C05.diffuseConst_band _ _ _ _ _ hz1 (hsm.const D hm _ hmem x y)
    | labolle vdt dz vmax =>
      exact C05.diffuseLabolle_band _ _ _ _ _ _ _ hz1
        (fun ddt hddt u hu zz => hsm.labolle vdt dz vmax hm ddt hddt u hu x y _)
  have h0 : C05.InBand
      (e.depth (if d.stuck then reseed p.x d.repX else p.x) (if d.stuck then reseed p.y d.repY else p.y))
      (if c.collisionClamp then fmin p.z
        (e.depth (if d.stuck then reseed p.x d.repX else p.x) (if d.stuck then reseed p.y d.repY else p.y))
       else p.z) := by
    by_cases hc : c.collisionClamp = true
    · simp only [hc, if_true]
      exact C05.collision_clamp_band _ _ (hdep _ _) hz.1
    · have hs : d.stuck = false := by
        rcases hcl with h | h
        · exact absurd h hc
        · exact h
      simp only [hc, hs, Bool.false_eq_true, if_false]
      exact hz
  unfold update
  simp only []
  cases c.lifespan <;> exact C05.horizontal_band c e d _ _ _ _ hdep (key _ _ _ h0)

/-- environment of the examples: bathymetry `depth`, constant vertical velocity `w` and vertical diffusivity `K` -/
private abbrev c05_exChemEnv (depth : ℚ → ℚ → ℚ) (w K : ℚ) : Env ℚ :=
  ⟨depth, fun _ _ _ => w, fun _ _ _ => K, fun _ _ _ => 1, fun _ _ => 800, fun _ _ => 800, fun _ _ => true⟩

/-- the `call` steps of `update_ibm` replaced by the interpretations of the generated method bodies (`advect`,
`diffuse_const` and every trip of `diffuse_labolle` run the generated `reflect`); the particle's supply of draws is
`d.vert` for the vertical schemes and `[d.hx, d.hy]` for `horzdiff`.  `reposition` / `coastal_diffusion` (the
horizontal re-seeding of C11, decided by `d.stuck`) and `store_position` are the steps of `Seq.chemStep`. -/
def c05_chemStepCode (c : Config α) (e : Env α) (d : Draws α) (p : Particle α) (k tx : String) : Option (Particle α) :=
  if k = "call" ∧ tx = "clamp_to_seabed" then
    (runChemClamp Gen.chem_clamp_seq (e.depth p.x p.y) p.z).join.map fun z => { p with z := z }
  else if k = "call" ∧ tx = "advect" then
    (runChemAdvect Gen.chem_advect_seq e c.dt p.x p.y p.z).join.map fun z => { p with z := z }
  else if k = "call" ∧ tx = "diffuse_const" then
    match c.mix with
    | .const D =>
      (runChemDiffuseConst Gen.chem_diffuse_const_seq c.dt D (e.depth p.x p.y) d.vert p.z).join.map
        fun r => { p with z := r.1 }
    | _ => none
  else if k = "call" ∧ tx = "diffuse_labolle" then
    match c.mix with
    | .labolle vdt dz vmax =>
      (runChemDiffuseLabolle Gen.chem_diffuse_labolle_seq e c.dt vdt dz vmax p.x p.y c.fuel d.vert p.z).join.map
        fun r => { p with z := r.1 }
    | _ => none
  else if k = "call" ∧ tx = "horzdiff" then
    match c.horz with
    | some (hmin, hmax) =>
      (runChemHorzdiff Gen.chem_horzdiff_seq e hmin hmax c.dt p.z [d.hx, d.hy] p.x p.y p.alive).join.map
        fun r => { p with x := r.1, y := r.2.1, alive := r.2.2.1 }
    | none => none
  else if k = "call" ∧ tx = "kill_old" then
    (runChemKillOld Gen.chem_kill_old_seq c.dt c.lifespan p.age p.alive).join.map
      fun r => { p with age := r.1, alive := r.2 }
  else chemStep c e d p k tx

/-- the composed step is the step of `Seq.chemStep` (`Bridge.chem_call_*`) when the supply covers the generator calls -/
theorem c05_chem_code_step (c : Config α) (e : Env α) (d : Draws α) (hsup : c05_ChemSupply c d) :
    c05_chemStepCode c e d = chemStep c e d := by
  funext p k tx
  have call := @c05_ite_call _ fun x k tx => x = chemStep c e d p k tx
  refine call (Bridge.chem_call_clamp c e d p).symm (call (Bridge.chem_call_advect c e d p).symm
    (call ?_ (call ?_ (call ?_ (call (Bridge.chem_call_kill_old c e d p).symm rfl)))))
  · cases hm : c.mix with
    | const D =>
      obtain ⟨u, rest, hv⟩ := List.exists_cons_of_ne_nil (hsup.const D hm)
      exact (Bridge.chem_call_diffuse_const c e d p D u rest hm hv).symm
    | _ => simp only [chemStep, hm]
  · cases hm : c.mix with
    | labolle vdt dz vmax =>
      exact (Bridge.chem_call_diffuse_labolle c e d p vdt dz vmax hm (hsup.labolle vdt dz vmax hm)).symm
    | _ => simp only [chemStep, hm]
  · cases hh : c.horz with
    | none => simp only [chemStep, hh]
    | some hm => exact (Bridge.chem_call_horzdiff c e d p hm.1 hm.2 [] hh).symm

/-- **chemicals** — the whole interpreted `update_ibm` with every method body interpreted (`Gen.chem_update_seq`,
`chem_clamp_seq`, `chem_advect_seq`, `chem_reflect_seq`, `chem_diffuse_const_seq`, `chem_diffuse_labolle_seq`,
`chem_horzdiff_seq`, `chem_kill_old_seq`): a particle inside `[0, H(x, y)]` ends inside `[0, H(x', y')]` of its NEW
position — with or without collision handler (`lc`), vertical advection, constant or LaBolle mixing, horizontal
diffusion, lifespan; for every draw.  Side conditions of the property: `0 ≤ H` everywhere, in-band start, and
`hsm : c05_ChemStepSmall` = "a single vertical step is smaller than the local water depth" for the schemes that reflect
once.  `hclamp`, `hstuck` tie the model's switches to `self.land_collision` (`Bridge.chem_update_seq`): the clamp runs
iff a handler is configured, and without a handler nothing is re-seeded.
Bridge-forced: `hsup : c05_ChemSupply` — the particle's supply of draws covers the generator calls
(`Bridge.chem_call_diffuse_const`, `chem_call_diffuse_labolle`). -/
theorem c05_chem_update_code_band (c : Config α) (e : Env α) (d : Draws α) (p : Particle α) (lc : LandCollision)
    (hclamp : c.collisionClamp = decide (lc ≠ .other)) (hstuck : lc = .other → d.stuck = false)
    (hsup : c05_ChemSupply c d)
    (hdep : ∀ x y, 0 ≤ e.depth x y) (hz : 0 ≤ p.z ∧ p.z ≤ e.depth p.x p.y) (hsm : c05_ChemStepSmall c e d) :
    ∃ p', Seq.run (chemAtom c lc) (c05_chemStepCode c e d) Gen.chem_update_seq p = some p' ∧
      0 ≤ p'.z ∧ p'.z ≤ e.depth p'.x p'.y := by
  rw [c05_chem_code_step c e d hsup]
  -- the run of `Seq.chemStep` (the `call` steps are the hand-written rules) is the model's update
  refine ⟨_, Bridge.chem_update_seq c e d p lc hclamp hstuck, c05_chem_model_band c e d p hdep hz ?_ hsup.const hsm⟩
  by_cases h : lc = .other
  · exact Or.inr (hstuck h)
  · exact Or.inl (by rw [hclamp]; simp [h])

/-- chemicals: `reposition` handler, vertical advection, constant mixing, horizontal diffusion, a bed that rises
from 50 m to 20 m at `x = 10`; particle at 30 m -/
example : True := by
  have h := c05_chem_update_code_band (α := ℚ)
    ⟨600, true, .const (1 / 1000), some (0, 10), some 86400, 10000, true⟩
    (c05_exChemEnv (fun x _ => if x ≤ 10 then 50 else 20) (1 / 100) 0)
    ⟨true, 1 / 4, 3 / 4, [9 / 10], 1 / 3, 2 / 3⟩ ⟨10, 5, 30, 0, true⟩ .reposition rfl (by intro h; cases h)
    ⟨(by intro D _ h; cases h), (by intro _ _ _ h; cases h)⟩
    (by intro x y; dsimp only; split_ifs <;> norm_num) (by norm_num)
    ⟨(by intro _ x y z; dsimp only; split_ifs <;> norm_num [abs_le]),
     (by intro D hD u hu x y; cases hD; simp only [List.mem_singleton] at hu; subst hu
         dsimp only; split_ifs <;> decide +kernel),
     (by intro _ _ _ h; cases h)⟩
  trivial

/-- chemicals: LaBolle scheme with `vertdiff_dt = 300` (two sub-steps), two draws -/
example : True := by
  have hsub : Chemicals.substeps (600 : ℚ) 300 3 0.0 = [300, 300] := by norm_num [Chemicals.substeps, fmin]
  have h := c05_chem_update_code_band (α := ℚ)
    ⟨600, false, .labolle 300 0 (1 / 100), none, none, 3, false⟩
    (c05_exChemEnv (fun _ _ => 50) 0 (1 / 200))
    ⟨false, 0, 0, [9 / 10, 1 / 10], 1 / 3, 2 / 3⟩ ⟨10, 5, 30, 0, true⟩ .other rfl (by intro _; rfl)
    ⟨(by intro D h; cases h), (by intro vdt dz vmax h; cases h; rw [hsub]; exact le_refl _)⟩
    (by intro x y; norm_num) (by norm_num)
    ⟨(by intro h; cases h), (by intro _ h; cases h),
     (by intro vdt dz vmax h ddt hddt u hu x y zz; cases h; rw [hsub] at hddt
         simp only [List.mem_cons, List.mem_nil_iff, or_false, or_self] at hddt hu
         subst hddt
         rcases hu with rfl | rfl <;> norm_num [sqrt, exSqrt, fmin, abs_le])⟩
  trivial

/-- **chemicals, constructor then `update_ibm`**: the conditions of `update_ibm` are read (as Python reads them) on the
attributes `a` that the interpreted `__init__` (`Gen.chem_ctor_seq`) sets from the configuration.  (The statement holds
for every attribute record; `hctor` says which one is meant.)
Bridge-forced: `hD` — `vertical_mixing` is not the empty string (`Bridge.chem_ctor_atoms`). -/
theorem c05_chem_ctor_update_band (inf : α) (cfg : ChemConf α) (a : ChemAttrs α) (fuel : Nat)
    (hctor : runChemCtor Gen.chem_ctor_seq inf cfg = some (some a))
    (hD : ∀ s, a.D = .name s → s ≠ "") (e : Env α) (d : Draws α) (p : Particle α)
    (hstuck : a.collision = .other → d.stuck = false) (hsup : c05_ChemSupply (a.config fuel) d)
    (hdep : ∀ x y, 0 ≤ e.depth x y) (hz : 0 ≤ p.z ∧ p.z ≤ e.depth p.x p.y) (hsm : c05_ChemStepSmall (a.config fuel) e d) :
    ∃ p', Seq.run (fun _ => chemAttrAtom a) (c05_chemStepCode (a.config fuel) e d) Gen.chem_update_seq p = some p' ∧
      0 ≤ p'.z ∧ p'.z ≤ e.depth p'.x p'.y := by
  have h : (fun (_ : Particle α) => chemAttrAtom a) = chemAtom (a.config fuel) a.collision := by
    funext s t; exact (Bridge.chem_ctor_atoms a fuel hD s t).symm
  rw [h]
  exact c05_chem_update_code_band (a.config fuel) e d p a.collision (Bridge.chem_ctor_clamp a fuel) hstuck hsup hdep hz hsm

/-- chemicals, constructor then update: `config = {dt: 600, ibm: {vertical_mixing: 0.001, land_collision: 'freeze'}}`
(no handler, vertical advection by default, constant mixing) -/
example : True := by
  let a : ChemAttrs ℚ := ⟨none, .num (1 / 1000), 600, 600, 0, 1000000, none, 1000000, 0, true, "freeze", 0⟩
  have hctor : runChemCtor Gen.chem_ctor_seq (1000000 : ℚ)
      ⟨some ⟨none, some (.num (1 / 1000)), none, none, none, none, none, none, none, some "freeze"⟩, some 600⟩
      = some (some a) := by
    rw [Bridge.chem_ctor_seq]
    norm_num [chemCtorSpec, ChemIbmConf.empty, a]
  -- the configuration record that the attributes stand for
  have hcfg : a.config 5 = ⟨600, true, .const (1 / 1000), none, none, 5, false⟩ := by
    simp [a, ChemAttrs.config, ChemAttrs.collision]
    norm_num
  have h := c05_chem_ctor_update_band (α := ℚ) 1000000 _ a 5 hctor (by intro s h; cases h)
    (c05_exChemEnv (fun _ _ => 50) (1 / 100) 0)
    ⟨false, 0, 0, [9 / 10], 1 / 3, 2 / 3⟩ ⟨10, 5, 30, 0, true⟩ (by intro _; rfl)
  rw [hcfg] at h
  have h' := h ⟨(by intro D _ h; cases h), (by intro vdt dz vmax h; cases h)⟩
    (by intro x y; norm_num) (by norm_num)
    ⟨(by intro _ x y z; norm_num [abs_le]),
     (by intro D hD u hu x y
         cases hD
         simp only [List.mem_singleton] at hu
         subst hu
         norm_num [sqrt, exSqrt, abs_le]),
     (by intro vdt dz vmax h; cases h)⟩
  trivial

/-- **every sequence of consecutive updates** over one bathymetry `depth`: forcing and draws change from update to update;
each update satisfies the side conditions of `c05_chem_update_code_band` -/
theorem c05_chem_history (c : Config α) (lc : LandCollision) (hclamp : c.collisionClamp = decide (lc ≠ .other))
    (depth : α → α → α) (hdep : ∀ x y, 0 ≤ depth x y) (steps : List (Env α × Draws α))
    (hsteps : ∀ ed ∈ steps, ed.1.depth = depth ∧ (lc = .other → ed.2.stuck = false) ∧ c05_ChemSupply c ed.2 ∧
      c05_ChemStepSmall c ed.1 ed.2)
    (p₀ : Particle α) (h₀ : 0 ≤ p₀.z ∧ p₀.z ≤ depth p₀.x p₀.y) :
    ∃ p', steps.foldlM (fun p ed => Seq.run (chemAtom c lc) (c05_chemStepCode c ed.1 ed.2) Gen.chem_update_seq p) p₀
        = some p' ∧ 0 ≤ p'.z ∧ p'.z ≤ depth p'.x p'.y := by
  refine history_invariant (fun p : Particle α => 0 ≤ p.z ∧ p.z ≤ depth p.x p.y) _ steps ?_ p₀ h₀
  intro ed hed p hp
  obtain ⟨hd, hst, hsup, hsm⟩ := hsteps ed hed
  have := c05_chem_update_code_band c ed.1 ed.2 p lc hclamp hst hsup (by rw [hd]; exact hdep) (by rw [hd]; exact hp) hsm
  rw [hd] at this
  exact this

/-- chemicals, two consecutive updates with different vertical velocities and draws over one bathymetry -/
example : True := by
  have h := c05_chem_history (α := ℚ) ⟨600, true, .const (1 / 1000), none, none, 5, false⟩ .other rfl
    (fun x _ => if x ≤ 10 then 50 else 20) (by intro x y; split_ifs <;> norm_num)
    [(c05_exChemEnv (fun x _ => if x ≤ 10 then 50 else 20) (1 / 100) 0, ⟨false, 0, 0, [9 / 10], 1 / 3, 2 / 3⟩),
     (c05_exChemEnv (fun x _ => if x ≤ 10 then 50 else 20) (-1 / 50) 0, ⟨false, 0, 0, [1 / 10], 1 / 2, 1 / 2⟩)]
    (by
      intro ed hed
      simp only [List.mem_cons, List.mem_nil_iff, or_false] at hed
      rcases hed with rfl | rfl <;>
      · refine ⟨rfl, fun _ => rfl, ⟨fun D _ h => (by cases h), fun _ _ _ h => (by cases h)⟩,
          ⟨?_, ?_, fun _ _ _ h => (by cases h)⟩⟩
        · intro _ x y z; dsimp only; split_ifs <;> norm_num [abs_le]
        · intro D hD u hu x y; cases hD; simp only [List.mem_singleton] at hu; subst hu
          dsimp only; split_ifs <;> decide +kernel)
    ⟨10, 5, 30, 0, true⟩ (by norm_num)
  trivial

end chemicals

end OnCode
