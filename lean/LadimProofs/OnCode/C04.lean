import LadimProofs.C04
import LadimProofs.Bridge.Attr
/-!
# C04 — property theorems stated for the generated code

`Gen.rel_exponential` / `Gen.rel_gaussian` are the clipping statements of `get_distribution`, translated from /repo's
current source on every run.
-/
open Ladim

set_option linter.unusedSectionVars false
set_option linter.unusedVariables false
namespace OnCode
variable {α : Type} [Field α] [LinearOrder α] [IsStrictOrderedRing α]

/-- exponential attribute values lie in `[0, max]` for every draw -/
theorem exponential_bounds (mean e mx : α) (hm : 0 ≤ mean) (he : 0 ≤ e) (hmx : 0 ≤ mx) :
    0 ≤ Gen.rel_exponential (mean * e) mx ∧ Gen.rel_exponential (mean * e) mx ≤ mx := by
  rw [← Bridge.rel_exponential]
  have h := C04.exponential_bounds mean e (some mx) hm he (by intro b hb; cases hb; exact hmx)
  exact ⟨h.1, h.2 mx rfl⟩

/-- gaussian attribute values never exceed `max`, for every draw and either argument order of the clip (the lower
bound is known finding F-C04a for the order the code uses) -/
theorem gaussian_upper (r mn mx : α) (h : mn ≤ mx) : Gen.rel_gaussian r mn mx ≤ mx := by
  rcases Bridge.rel_gaussian (α := α) 0 0 mn mx 0 with hg | hg
  · rw [hg, fmin_eq_min, fmax_eq_max]
    exact (min_le_left _ _).trans (max_le h le_rfl)
  · rw [hg, fmin_eq_min]
    exact min_le_right _ _

end OnCode
