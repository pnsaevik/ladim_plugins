import LadimProofs.Bridge.PolySeq
import LadimProofs.Bridge.Release
import LadimProofs.C17Measure
/-!
# C03 / C17 end to end — the clauses of the properties, stated about the interpretation of the current source

Property C03 — Release positions lie inside the requested area and carry its attributes
STATEMENT: A point location is reproduced exactly for every particle; for polygon, multi-polygon, metric-offset and GeoJSON locations every generated position lies inside (or on the edge of) the union of the given simple polygons, whatever their orientation, convexity or vertex count. With GeoJSON input each particle carries the properties of the feature whose polygon contains it, and metric offsets are laid out around the centre so that converting the positions back to metres lands inside the offset polygon (degree<->metre conversions are mutual inverses on the WGS84 ellipsoid).
QUANTIFIER: all simple, hole-free, non-degenerate polygons with 3..N vertices, clockwise or counter-clockwise, convex or not; 1..k pairwise disjoint polygons per location; GeoJSON Polygon and MultiPolygon features with arbitrary property tables; centres at any latitude in (-89, 89); every particle count and seed

Property C17 — Release positions are uniformly distributed over the release area
STATEMENT: Over many draws the expected share of particles in any sub-region of the release area equals that sub-region's share of the total area: the polygons of a multi-polygon or GeoJSON layer receive particles in proportion to their areas, and positions are uniform within each polygon. Two-element range attributes are uniform on their range.
QUANTIFIER: all simple polygons and disjoint multi-polygons, all half-plane cuts through them, all seeds; decided statistically with exact binomial tail bounds at a fixed, very small false-alarm probability

## What is stated here

Every theorem named `c03_…` / `c17_…` has in its statement the *interpretation of the generated statement sequences*
(`Seq.getLocationSeq` = `runRet … Gen.get_location_seq …`, `Seq.latlonFromPolySeq`, `Seq.getLocationFileSeq`,
`Seq.triangulateMultiSeq`, `Seq.triangulateNonconvexSeq`, `Seq.triangulateSeq`, `Seq.sampleConvexSeq`,
`Seq.polygonSampleTrianglesSeq`, `Seq.triangleAreasSeq`, `Seq.metricToDegSeq`, `Seq.degToMetricSeq`, `Seq.getAttrSeq`)
or the generated formulas (`Gen.metric_to_deg`, `Gen.deg_to_metric`, `Gen.rel_bary`, `Gen.rel_triangle_area`), never
the hand-written model functions; the bridges (`LadimProofs/Bridge/{LocationSeq,GeoSeq,PolySeq,Release}.lean`) and the
model theorems (`C03`, `C17`, `C17M`, `C04`) are the lemmas.  Where an interpreter takes another function as a
parameter (`tri`, `locFile`) the interpretation of *that function's* sequence is plugged in (`c03_triCode`,
`c03_locFileCode`), so the statements are about the composed code.

| clause | theorem |
|---|---|
| C03 point reproduced exactly | `c03_point_exact` |
| C03 polygon / multi-polygon inside | `c03_latlon_from_poly_inside`, `c03_get_location_polygon_inside`, `c03_get_location_single_polygon_inside` |
| C03 inside, fan triangulation (proved without a contract) | `c03_convex_sample_in_polygon` |
| C03 metric offsets | `c03_get_location_offset_inside` |
| C03 conversions mutually inverse | `c03_metric_degree_inverse`, `c03_metric_degree_inverse_seq`, `c03_metric_degree_inverse_real`, `c03_conversion_defined_real` |
| C03 GeoJSON: inside + properties of the owning feature | `c03_get_location_geojson` |
| C17 sampler = fixed map of independent draws | `c17_particle_is_image_of_draws`, `c17_unit_triangle_sample_fold` |
| C17 triangle chosen with probability ∝ area | `c17_triangle_choice_interval`, `c17_triangle_choice_probability` |
| C17 point uniform in the triangle (push-forward) | `c17_point_uniform_in_triangle` |
| C17 polygons in proportion to their areas | `c17_polygon_share_partial`, `c17_fan_weights_sum_to_area` |
| C17 two-element ranges | `c17_range_attribute_affine`, `c17_range_uniform` |

## Hypotheses that the bridges / model theorems force

* `hd` / `hrng` — the random numbers are in `[0, 1)` (`C03.sample_in_chosen_triangle`, `C03.fold_in_triangle`): what
  `np.random.rand` produces; this is "every seed".
* `hlib : c03_TriLibInside trLib inside` — the external `triangle` library is a parameter (`trLib`) of the
  interpretation; that its triangles lie inside the polygon is its contract, stated once as a definition.  For the fan
  (`triangulate`) no contract is needed.  Simplicity, hole-freeness, non-degeneracy and disjointness of the polygons are
  *not* hypotheses: they only matter for the library's contract.
* `hpi`, `hc`, `hr` — the conversion is defined at the reference latitude (generic ordered field with abstract `sin`,
  `cos`, `sqrt`, `π`); over `ℝ` they follow from `-89 < lat < 89` (`c03_conversion_defined_real`).
* `ht` — positive total area (`C17.pick_interval`; `cumarea / cumarea[-1]` divides by it).
* `hn : num ≠ 2`, `hd : num ≤ draws.length` for ranges (`C04.range_values`; the source tests `len(v) == 2 and num != 2`).
* a result of `min num (number of draws)` particles: the draws are a parameter of the location interpreters; with at
  least `num` draws this is `num`.

## Not covered (see the theorems' comments)

* Metric offsets: one offset polygon (`offset = [ox list, oy list]`); lists of offset polygons are not treated.

* For the library triangulation "inside the polygon" *is* the contract `hlib`; only the fan is proved geometric.
  `get_location` always uses the library path (`latlon_from_poly` → `triangulate_nonconvex_multi`); the fan
  (`get_polygon_sample_convex`) is not reachable from `get_location` in the current source.
* C17 as one measure statement on the union of the polygons needs (i) the tiling half of the library's contract and
  (ii) the product decomposition of the law of `(u, s, t)`; what is proved is each factor (`c17_triangle_choice_probability`,
  `c17_point_uniform_in_triangle`, `c17_polygon_share_partial`) and the structure theorem that the code is that map.
* The link between the per-particle draws `(u, s, t)` of the location interpreters and the global numpy stream is the
  bridge `Bridge.get_polygon_sample_triangles` (used in `c17_particle_is_image_of_draws`); inside `latlon_from_poly`
  the draws are a parameter.
-/
open Ladim Ladim.Seq Ladim.Sample Ladim.Table

set_option linter.unusedSectionVars false
set_option linter.unusedVariables false
set_option linter.unusedSimpArgs false
namespace OnCode

/-! ## 0. Vocabulary -/

/-- "the code returns `r`": the interpretation knows every text (`some`) and the run does not raise (`some`) -/
def c03_returned {β : Type} (o : Option (Option β)) : Option β := o.bind id

section vocab
variable {α : Type} [Add α] [Sub α] [Mul α] [Div α] [Neg α] [LT α] [DecidableLT α] [OfScientific α]

/-- `triangulate_nonconvex_multi` as the parameter `tri` of the location interpreters: the interpretation of
`Gen.rel_triangulate_nonconvex_multi_seq` (which runs that of `Gen.rel_triangulate_nonconvex_seq` per polygon) -/
def c03_triCode (trLib : List (α × α) → List (Nat × Nat) → String → Option (TrData α)) :
    List (List (α × α)) → Option (List (Tri α) × List Nat) :=
  fun coords => c03_returned (triangulateMultiSeq trLib coords)

/-- `get_location_file` as the parameter `locFile` of `Seq.getLocationSeq`: the interpretation of
`Gen.get_location_file_seq` -/
def c03_locFileCode {φ : Type} (readJson : φ → Option (GeoData α)) (upper : String → String)
    (tri : List (List (α × α)) → Option (List (Tri α) × List Nat)) (draws : List (α × α × α)) :
    φ → Nat → Option (List α × List α × Frame α) :=
  fun f num => c03_returned (getLocationFileSeq readJson upper tri draws f num)

theorem c03_triCode_eq (trLib : List (α × α) → List (Nat × Nat) → String → Option (TrData α)) :
    c03_triCode trLib = Bridge.triangulateMultiSpec trLib := by
  funext coords
  simp [c03_triCode, c03_returned, Bridge.triangulate_nonconvex_multi]

theorem c03_locFileCode_eq {φ : Type} (readJson : φ → Option (GeoData α)) (upper : String → String)
    (tri : List (List (α × α)) → Option (List (Tri α) × List Nat)) (draws : List (α × α × α)) :
    c03_locFileCode readJson upper tri draws = Bridge.locationFileSpec readJson upper tri draws := by
  funext f num
  simp [c03_locFileCode, c03_returned, Bridge.get_location_file]

end vocab

section field
variable {α : Type} [Field α] [LinearOrder α] [IsStrictOrderedRing α]

/-- `(x, y)` is a convex combination of the three vertices of `T`: a point of the closed triangle -/
def c03_InTri (T : Tri α) (x y : α) : Prop :=
  ∃ s t : α, 0 ≤ s ∧ 0 ≤ t ∧ s + t ≤ 1 ∧
    x = (1 - s - t) * T.x1 + s * T.x2 + t * T.x3 ∧ y = (1 - s - t) * T.y1 + s * T.y2 + t * T.y3

/-- **The stated contract of the external `triangle` library** (parameter `trLib`): every triangle read back from
`triangle.triangulate(dict(vertices=c, segments=closed ring), 'p')` lies inside the region `inside c` of the polygon
with the vertex rows `c` (`inside` is arbitrary: the interior-or-edge predicate of a simple polygon in the intended
reading). -/
def c03_TriLibInside (trLib : List (α × α) → List (Nat × Nat) → String → Option (TrData α))
    (inside : List (α × α) → α → α → Prop) : Prop :=
  ∀ c d, trLib c (Bridge.ringSegments c.length) "p" = some d → ∀ t ∈ d.triangles, ∀ T,
    triAtRows d.vertices t.1 t.2.1 t.2.2 = some T → ∀ x y, c03_InTri T x y → inside c x y

/-- a point of the closed triangle lies on the inner side of every line that has the three vertices on its inner side -/
theorem c03_inTri_halfplane (T : Tri α) (x y : α) (h : c03_InTri T x y) (a b c : α)
    (h1 : a * T.x1 + b * T.y1 ≤ c) (h2 : a * T.x2 + b * T.y2 ≤ c) (h3 : a * T.x3 + b * T.y3 ≤ c) :
    a * x + b * y ≤ c := by
  obtain ⟨s, t, hs, ht, hst, rfl, rfl⟩ := h
  have := C03.sample_in_halfplanes T s t a b c hs ht hst h1 h2 h3
  rwa [C03.bary_convex, C03.bary_convex] at this

/-- whatever `get_polygon_sample_triangles` computes from draws in `[0, 1)`: particle `j` lies in the closed triangle
whose number it carries -/
theorem c03_points_in_triangles (tris : List (Tri α)) (ds : List (α × α × α)) (ps : List (α × α × Nat))
    (hd : ∀ d ∈ ds, 0 ≤ d.2.1 ∧ d.2.1 < 1 ∧ 0 ≤ d.2.2 ∧ d.2.2 < 1)
    (hps : ds.map (fun d => samplePoint tris d.1 d.2.1 d.2.2) = ps.map some) (j : Nat) (x y : α)
    (hx : (ps.map (fun p => p.1))[j]? = some x) (hy : (ps.map (fun p => p.2.1))[j]? = some y) :
    ∃ k T, (ps.map (fun p => p.2.2))[j]? = some k ∧ tris[k]? = some T ∧ c03_InTri T x y := by
  rw [List.getElem?_map, Option.map_eq_some_iff] at hx hy
  obtain ⟨q, hq, rfl⟩ := hx
  obtain ⟨q', hq', rfl⟩ := hy
  rw [hq] at hq'
  cases hq'
  have hmem : some q ∈ ds.map (fun d => samplePoint tris d.1 d.2.1 d.2.2) := by
    rw [hps]; exact List.mem_map_of_mem (List.mem_of_getElem? hq)
  obtain ⟨d, hdm, hdq⟩ := List.mem_map.mp hmem
  obtain ⟨h1, h2, h3, h4⟩ := hd d hdm
  obtain ⟨T, _, s, t, hs0, ht0, hst, hxe, hye, hk⟩ :=
    C03.sample_in_chosen_triangle tris d.1 d.2.1 d.2.2 q.1 q.2.1 q.2.2 h1 h2 h3 h4 hdq
  exact ⟨q.2.2, T, by rw [List.getElem?_map, hq]; rfl, hk, s, t, hs0, ht0, hst, hxe, hye⟩

/-! ## 1. list lemmas: the polygon number of a triangle -/

/-- the polygon numbers zipped with the triangles: the pairs that `flatWithId` lists -/
theorem c03_zip_flatten_replicate {β : Type} (tss : List (List β)) (s : Nat) :
    ((tss.zipIdx s).map (fun p => List.replicate p.1.length p.2)).flatten.zip tss.flatten =
      (tss.zipIdx s).flatMap (fun p => p.1.map (fun T => (p.2, T))) := by
  induction tss generalizing s with
  | nil => rfl
  | cons ts tss ih =>
    simp only [List.flatten_cons, List.zipIdx_cons, List.map_cons, List.flatMap_cons]
    rw [List.zip_append (by simp), ih, ← List.map_const', ← List.map_prod_right_eq_zip]

/-- in what `triangulate_nonconvex_multi` returns, triangle `k` with polygon number `i` is one of the triangles that
`triangulate_nonconvex` returned for polygon `i` -/
theorem c03_multi_owner (trLib : List (α × α) → List (Nat × Nat) → String → Option (TrData α))
    (coords : List (List (α × α))) (flat : List (Tri α)) (idx : List Nat)
    (h : Bridge.triangulateMultiSpec trLib coords = some (flat, idx)) (k i : Nat) (T : Tri α)
    (h1 : flat[k]? = some T) (h2 : idx[k]? = some i) :
    ∃ c ts, coords[i]? = some c ∧ Bridge.triangulateNonconvexSpec trLib c = some ts ∧ T ∈ ts := by
  unfold Bridge.triangulateMultiSpec at h
  obtain ⟨tss, hm, h⟩ := Option.bind_eq_some_iff.mp h
  obtain ⟨fl, hf, h⟩ := Option.bind_eq_some_iff.mp h
  obtain ⟨ix, hi, h⟩ := Option.map_eq_some_iff.mp h
  simp only [Prod.mk.injEq] at h
  obtain ⟨rfl, rfl⟩ := h
  have hfl : fl = tss.flatten := by
    unfold npConcatTris at hf
    split_ifs at hf
    exact (Option.some.inj hf).symm
  have hix : ix = (tss.zipIdx.map (fun p => List.replicate p.1.length p.2)).flatten := by
    unfold npConcatIdx at hi
    split_ifs at hi
    exact (Option.some.inj hi).symm
  subst hfl hix
  have hz : (flatWithId tss)[k]? = some (i, T) := by
    rw [flatWithId, ← c03_zip_flatten_replicate, List.getElem?_zip_eq_some]
    exact ⟨h2, h1⟩
  obtain ⟨ts, hts, hT⟩ := Bridge.flatWithId_owner tss k i T hz
  have hg := Bridge.mapM_getElem? _ _ _ hm i
  rw [hts] at hg
  obtain ⟨c, hc, hg⟩ := Option.bind_eq_some_iff.mp hg.symm
  exact ⟨c, ts, hc, hg, hT⟩

/-- under the contract of the library every triangle of `triangulate_nonconvex(c)` lies inside polygon `c` -/
theorem c03_nonconvex_inside (trLib : List (α × α) → List (Nat × Nat) → String → Option (TrData α))
    (inside : List (α × α) → α → α → Prop) (hlib : c03_TriLibInside trLib inside) (c : List (α × α)) (ts : List (Tri α))
    (h : Bridge.triangulateNonconvexSpec trLib c = some ts) (T : Tri α) (hT : T ∈ ts) (x y : α) (hin : c03_InTri T x y) :
    inside c x y := by
  unfold Bridge.triangulateNonconvexSpec at h
  split at h
  · cases h
  · obtain ⟨d, hd, hm⟩ := Option.bind_eq_some_iff.mp h
    obtain ⟨t, ht, htT⟩ := Bridge.mapM_mem _ _ _ hm T hT
    exact hlib c d hd t ht T htT x y hin

/-! ## 4. C03 — the convex fan: inside the polygon, proved -/

/-- the rows of a fan triangle are vertices of the polygon -/
theorem c03_fan_vertices (coords : List (α × α)) (T : Tri α) (h : T ∈ Bridge.fanTriangles coords) :
    ∃ p ∈ coords, ∃ q ∈ coords, ∃ r ∈ coords, T = triOfRows p q r := by
  cases coords with
  | nil => simp [Bridge.fanTriangles] at h
  | cons p rest =>
    rw [Bridge.fanTriangles, ← List.map_uncurry_zip_eq_zipWith] at h
    obtain ⟨⟨q, r⟩, hqr, e⟩ := List.mem_map.mp h
    obtain ⟨hq, hr⟩ := List.of_mem_zip hqr
    exact ⟨p, by simp, q, List.mem_cons_of_mem _ hq, r, List.mem_cons_of_mem _ (List.mem_of_mem_tail hr), e.symm⟩

theorem c03_rngDraws_mem (n : Nat) (rng : List α) (d : α × α × α) (h : d ∈ Bridge.rngDraws n rng) :
    d.2.1 ∈ rng ∧ d.2.2 ∈ rng := by
  unfold Bridge.rngDraws at h
  have h2 := (List.of_mem_zip (a := d.1) (b := d.2) h).2
  have h3 := List.of_mem_zip (a := d.2.1) (b := d.2.2) h2
  exact ⟨List.mem_of_mem_drop (List.mem_of_mem_take h3.1), List.mem_of_mem_drop (List.mem_of_mem_take h3.2)⟩

/-- **C03 for the fan triangulation (no contract needed)**, on `get_polygon_sample_convex` (interpretation of
`Gen.rel_sample_convex_seq`, running those of `Gen.rel_triangulate_seq`, `Gen.polygon_sample_triangles_seq`,
`Gen.triangle_areas_seq`, `Gen.unit_triangle_sample_seq`).  Whatever the code returns for a stream of numbers of
`[0, 1)`: exactly `num` positions; each is a convex combination of the vertices of a triangle that `triangulate`
(interpretation of its sequence) returns, whose rows are vertices of the polygon; hence each lies on the inner side of
every line that has all vertices of the polygon on its inner side — in the convex hull of the vertices, which *is* the
(closed) polygon when the polygon is convex, whatever its orientation or vertex count. -/
theorem c03_convex_sample_in_polygon (trLib : List (α × α) → List (Nat × Nat) → String → Option (TrData α))
    (coords : List (α × α)) (num : Nat) (rng rest : List α) (xs ys : List α)
    (hrng : ∀ u ∈ rng, 0 ≤ u ∧ u < 1)
    (h : sampleConvexSeq trLib coords num rng = some (some ((xs, ys), rest))) :
    xs.length = num ∧ ys.length = num ∧ num * 3 ≤ rng.length ∧ rest = rng.drop (num * 3) ∧
    ∀ (j : Nat) (x y : α), xs[j]? = some x → ys[j]? = some y →
      (∃ T, (∃ ts, triangulateSeq coords = some (some ts) ∧ T ∈ ts) ∧ c03_InTri T x y ∧
        ∃ p ∈ coords, ∃ q ∈ coords, ∃ r ∈ coords, T = triOfRows p q r) ∧
      ∀ a b c : α, (∀ v ∈ coords, a * v.1 + b * v.2 ≤ c) → a * x + b * y ≤ c := by
  rw [Bridge.get_polygon_sample_convex] at h
  simp only [Option.some.injEq] at h
  unfold Bridge.sampleConvexSpec at h
  obtain ⟨⟨⟨xs', ys', ks⟩, rest'⟩, hr, he⟩ := Option.map_eq_some_iff.mp h
  simp only [Bridge.polyDropTriangleNum, Prod.mk.injEq] at he
  obtain ⟨⟨rfl, rfl⟩, rfl⟩ := he
  have hseq : polygonSampleTrianglesSeq (Bridge.fanTriangles coords) num rng = some (some ((xs', ys', ks), rest')) := by
    rw [Bridge.get_polygon_sample_triangles, hr]
  obtain ⟨h3, hrest, _, ps, hps, rfl, rfl, rfl⟩ :=
    Bridge.get_polygon_sample_triangles_points _ _ _ _ _ _ _ hseq
  have hlen : ps.length = num := by
    simpa [Bridge.rngDraws_length num rng h3] using (congrArg List.length hps).symm
  refine ⟨by simpa using hlen, by simpa using hlen, h3, hrest, ?_⟩
  intro j x y hx hy
  obtain ⟨k, T, _, hk, hin⟩ := c03_points_in_triangles _ _ ps (fun d hd =>
    have m := c03_rngDraws_mem num rng d hd
    ⟨(hrng _ m.1).1, (hrng _ m.1).2, (hrng _ m.2).1, (hrng _ m.2).2⟩) hps j x y hx hy
  have hT := List.mem_of_getElem? hk
  obtain ⟨p, hp, v, hv, r, hr', rfl⟩ := c03_fan_vertices coords T hT
  exact ⟨⟨_, ⟨_, Bridge.triangulate coords, hT⟩, hin, p, hp, v, hv, r, hr', rfl⟩,
    fun a b c hall => c03_inTri_halfplane _ x y hin a b c (hall p hp) (hall v hv) (hall r hr')⟩

/-! ## 2. C03 — polygon / multi-polygon positions lie inside the polygons -/

/-- what is known about one returned particle: its `(first, second)` coordinate `(x, y)` lies in the closed triangle
`T`, one of the triangles `triangulate_nonconvex` (interpretation of `Gen.rel_triangulate_nonconvex_seq`) returns for
the polygon `c` with the returned polygon number `i`; hence — contract of the library — inside that polygon -/
def c03_ParticleInside (trLib : List (α × α) → List (Nat × Nat) → String → Option (TrData α))
    (inside : List (α × α) → α → α → Prop) (coords : List (List (α × α))) (x y : α) (i : Nat) : Prop :=
  ∃ c T ts, coords[i]? = some c ∧ c03_returned (triangulateNonconvexSeq trLib c) = some ts ∧ T ∈ ts ∧ c03_InTri T x y ∧
    inside c x y

theorem c03_latlonSpec_inside (trLib : List (α × α) → List (Nat × Nat) → String → Option (TrData α))
    (inside : List (α × α) → α → α → Prop) (hlib : c03_TriLibInside trLib inside)
    (draws : List (α × α × α)) (lat lon : Coord α) (n : Nat) (xs ys : List α) (pn : List Nat)
    (hd : ∀ d ∈ draws, 0 ≤ d.2.1 ∧ d.2.1 < 1 ∧ 0 ≤ d.2.2 ∧ d.2.2 < 1)
    (h : Bridge.latlonFromPolySpec (c03_triCode trLib) draws lat lon n = some (xs, ys, pn)) :
    ∃ coords, Bridge.polyCoords lat lon = some coords ∧
      xs.length = min n draws.length ∧ ys.length = min n draws.length ∧ pn.length = min n draws.length ∧
      ∀ (j : Nat) (x y : α), xs[j]? = some x → ys[j]? = some y →
        ∃ i, pn[j]? = some i ∧ c03_ParticleInside trLib inside coords x y i := by
  unfold Bridge.latlonFromPolySpec at h
  split at h
  · obtain ⟨coords, hc, h⟩ := Option.bind_eq_some_iff.mp h
    obtain ⟨tp, ht, h⟩ := Option.bind_eq_some_iff.mp h
    obtain ⟨r, hs, h⟩ := Option.bind_eq_some_iff.mp h
    obtain ⟨p, hp, h⟩ := Option.map_eq_some_iff.mp h
    obtain ⟨_, ps, hps, rfl⟩ := Bridge.sampleTriangles_points tp.1 n draws r hs
    simp only [Prod.mk.injEq] at h
    obtain ⟨rfl, rfl, rfl⟩ := h
    have hlen : ps.length = min n draws.length := by
      simpa using (congrArg List.length hps).symm
    have hplen : p.length = ps.length := by
      simpa using (congrArg List.length (Bridge.mapM_map_some _ _ _ hp)).symm
    rw [c03_triCode_eq] at ht
    refine ⟨coords, hc, by simpa using hlen, by simpa using hlen, by rw [hplen, hlen], ?_⟩
    intro j x y hx hy
    obtain ⟨k, T, hk, hT, hin⟩ :=
      c03_points_in_triangles tp.1 _ ps (fun d hdm => hd d (List.mem_of_mem_take hdm)) hps j x y hx hy
    -- the polygon number: `polynum[triangle_num]`
    have hj : j < p.length := by
      rw [hplen]
      simpa using (List.getElem?_eq_some_iff.mp hk).1
    have hnum : tp.2[k]? = some p[j] := by
      rw [← List.getElem?_eq_getElem hj, Bridge.mapM_getElem? _ _ _ hp j, hk]
      rfl
    obtain ⟨c, ts, hci, hts, hTm⟩ := c03_multi_owner trLib coords tp.1 tp.2 (by rw [ht]) k p[j] T hT hnum
    refine ⟨p[j], List.getElem?_eq_getElem hj, c, T, ts, hci, ?_, hTm, hin,
      c03_nonconvex_inside trLib inside hlib c ts hts T hTm _ _ hin⟩
    simp [c03_returned, Bridge.triangulate_nonconvex, hts]
  · cases h

/-- **C03, polygon and multi-polygon clause, on `latlon_from_poly`** (interpretation of `Gen.latlon_from_poly_seq`, with
the interpretation of `Gen.rel_triangulate_nonconvex_multi_seq` as its triangulation).  Whatever the code returns:
exactly `min n (number of draws)` particles, and particle `j` — first coordinate `x`, second `y`, polygon number `i` —
is a convex combination of the vertices of a triangle handed back by the triangulation of polygon `i` of the vertex
rows `polyCoords lat lon`, hence (contract of the library) inside polygon `i`.  No assumption on orientation,
convexity, vertex count or disjointness.

Hypotheses: `hd` — the draws `(s, t)` of `_unit_triangle_sample` are numbers of `[0, 1)` (what `np.random.rand`
produces; forced by `C03.sample_in_chosen_triangle`); `hlib` — the contract of the external library (the statement of
the property for the library triangulation is this contract). -/
theorem c03_latlon_from_poly_inside (trLib : List (α × α) → List (Nat × Nat) → String → Option (TrData α))
    (inside : List (α × α) → α → α → Prop) (hlib : c03_TriLibInside trLib inside)
    (draws : List (α × α × α)) (lat lon : Coord α) (n : Nat) (xs ys : List α) (pn : List Nat)
    (hd : ∀ d ∈ draws, 0 ≤ d.2.1 ∧ d.2.1 < 1 ∧ 0 ≤ d.2.2 ∧ d.2.2 < 1)
    (h : latlonFromPolySeq (c03_triCode trLib) draws lat lon n = some (some (xs, ys, pn))) :
    ∃ coords, Bridge.polyCoords lat lon = some coords ∧
      xs.length = min n draws.length ∧ ys.length = min n draws.length ∧ pn.length = min n draws.length ∧
      ∀ (j : Nat) (x y : α) (i : Nat), xs[j]? = some x → ys[j]? = some y → pn[j]? = some i → c03_ParticleInside trLib inside coords x y i := by
  rw [Bridge.latlon_from_poly] at h
  simp only [Option.some.injEq] at h
  obtain ⟨coords, hc, h1, h2, h3, hall⟩ := c03_latlonSpec_inside trLib inside hlib draws lat lon n xs ys pn hd h
  refine ⟨coords, hc, h1, h2, h3, fun j x y i hx hy hi => ?_⟩
  obtain ⟨i', hi', hin⟩ := hall j x y hx hy
  rw [hi] at hi'
  cases hi'
  exact hin

/-- one polygon given as two flat lists: its vertex rows are the only block -/
theorem c03_polyCoords_single (la lo : List α) (coords : List (List (α × α)))
    (h : Bridge.polyCoords (.single la) (.single lo) = some coords) : coords = [la.zip lo] := by
  simp only [Bridge.polyCoords] at h
  split at h
  · simpa using h.symm
  · cases h

section loc
variable [HasSqrt α] [HasSin α] [HasCos α] [HasPi α]

/-- **C03, polygon and multi-polygon clause, on `get_location`** (interpretation of `Gen.get_location_seq`; it runs the
interpretations of `Gen.latlon_from_poly_seq` and of the triangulation sequences).  For a location `[lon_spec,
lat_spec]` whose `lon_spec` is a sequence (one polygon: two flat lists; several polygons: two lists of lists), whatever
`get_location` returns is the mapping `{longitude, latitude}` with `min num (number of draws)` entries each, and
particle `j` = `(lat, lon)` lies inside one of the given polygons (vertex rows `(lat, lon)`).
Hypotheses: as in `c03_latlon_from_poly_inside`; `hns` selects the polygon forms of `loc_conf`. -/
theorem c03_get_location_polygon_inside {φ : Type} (openFile : String → Option φ)
    (locFile : φ → Nat → Option (List α × List α × Frame α))
    (trLib : List (α × α) → List (Nat × Nat) → String → Option (TrData α))
    (inside : List (α × α) → α → α → Prop) (hlib : c03_TriLibInside trLib inside)
    (draws : List (α × α × α)) (lonSpec latSpec : Coord α) (num : Nat) (f : Frame α)
    (hns : ∀ x, lonSpec ≠ .scalar x)
    (hd : ∀ d ∈ draws, 0 ≤ d.2.1 ∧ d.2.1 < 1 ∧ 0 ≤ d.2.2 ∧ d.2.2 < 1)
    (h : getLocationSeq openFile locFile (c03_triCode trLib) draws (.pair lonSpec latSpec) num = some (some f)) :
    ∃ (coords : List (List (α × α))) (lons lats : List α), Bridge.polyCoords latSpec lonSpec = some coords ∧
      f = [("longitude", lons.map Cell.num), ("latitude", lats.map Cell.num)] ∧
      lons.length = min num draws.length ∧ lats.length = min num draws.length ∧
      ∀ (j : Nat) (lo la : α), lons[j]? = some lo → lats[j]? = some la →
        ∃ i, c03_ParticleInside trLib inside coords la lo i := by
  rw [Bridge.get_location] at h
  simp only [Option.some.injEq] at h
  have key : (Bridge.latlonFromPolySpec (c03_triCode trLib) draws latSpec lonSpec num).map
      (fun r => Bridge.locFrame r.2.1 r.1 []) = some f := by
    cases lonSpec with
    | scalar x => exact absurd rfl (hns x)
    | single lo => exact h
    | multi lo => exact h
  obtain ⟨r, hr, rfl⟩ := Option.map_eq_some_iff.mp key
  obtain ⟨xs, ys, pn⟩ := r
  obtain ⟨coords, hc, h1, h2, h3, hall⟩ := c03_latlonSpec_inside trLib inside hlib draws latSpec lonSpec num xs ys pn hd hr
  refine ⟨coords, ys, xs, hc, rfl, h2, h1, fun j lo la hlo hla => ?_⟩
  obtain ⟨i, _, hin⟩ := hall j la lo hla hlo
  exact ⟨i, hin⟩

/-- one polygon given as `[lon list, lat list]`: every position lies inside *that* polygon -/
theorem c03_get_location_single_polygon_inside {φ : Type} (openFile : String → Option φ)
    (locFile : φ → Nat → Option (List α × List α × Frame α))
    (trLib : List (α × α) → List (Nat × Nat) → String → Option (TrData α))
    (inside : List (α × α) → α → α → Prop) (hlib : c03_TriLibInside trLib inside)
    (draws : List (α × α × α)) (lonL latL : List α) (num : Nat) (f : Frame α)
    (hd : ∀ d ∈ draws, 0 ≤ d.2.1 ∧ d.2.1 < 1 ∧ 0 ≤ d.2.2 ∧ d.2.2 < 1)
    (h : getLocationSeq openFile locFile (c03_triCode trLib) draws (.pair (.single lonL) (.single latL)) num
      = some (some f)) :
    ∃ (lons lats : List α), f = [("longitude", lons.map Cell.num), ("latitude", lats.map Cell.num)] ∧
      lons.length = min num draws.length ∧ lats.length = min num draws.length ∧
      ∀ (j : Nat) (lo la : α), lons[j]? = some lo → lats[j]? = some la → inside (latL.zip lonL) la lo := by
  obtain ⟨coords, lons, lats, hc, hf, h1, h2, hall⟩ :=
    c03_get_location_polygon_inside openFile locFile trLib inside hlib draws _ _ num f (by intro x hx; cases hx) hd h
  refine ⟨lons, lats, hf, h1, h2, fun j lo la hlo hla => ?_⟩
  obtain ⟨i, c, T, ts, hci, _, _, _, hin⟩ := hall j lo la hlo hla
  rw [c03_polyCoords_single _ _ _ hc] at hci
  obtain rfl := List.mem_singleton.mp (List.mem_of_getElem? hci)
  exact hin

/-! ## 3. C03 — metric offsets -/

/-- a position `(lat, lon)` converted back to metres relative to the centre with the generated
`degree_diff_to_metric` formula, as `(north, east)` — the order of the vertex rows `(lat, lon)` -/
def c03_backToMetres (clon clat la lo : α) : α × α :=
  ((Gen.deg_to_metric (lo - clon) (la - clat) clat).2, (Gen.deg_to_metric (lo - clon) (la - clat) clat).1)

/-- a triangle with `(lat, lon)` vertex rows converted back to metres, vertex by vertex -/
def c03_triToMetres (clon clat : α) (T : Tri α) : Tri α :=
  ⟨(c03_backToMetres clon clat T.x1 T.y1).1, (c03_backToMetres clon clat T.x1 T.y1).2,
   (c03_backToMetres clon clat T.x2 T.y2).1, (c03_backToMetres clon clat T.x2 T.y2).2,
   (c03_backToMetres clon clat T.x3 T.y3).1, (c03_backToMetres clon clat T.x3 T.y3).2⟩

/-- the polygon handed to the triangulation by `get_location_offset`: centre + offsets converted to degrees with the
generated `metric_diff_to_degrees` formula at the centre latitude; rows `(lat, lon)` -/
def c03_offsetVerts (clon clat : α) (ox oy : List α) : List (α × α) :=
  (oy.zip ox).map (fun p => (clat + (Gen.metric_to_deg p.2 p.1 clat).2, clon + (Gen.metric_to_deg p.2 p.1 clat).1))

/-- at a fixed reference latitude the conversion to metres is linear: it maps convex combinations to convex
combinations -/
theorem c03_backToMetres_inTri (clon clat : α) (T : Tri α) (la lo : α) (h : c03_InTri T la lo) :
    c03_InTri (c03_triToMetres clon clat T) (c03_backToMetres clon clat la lo).1 (c03_backToMetres clon clat la lo).2 := by
  obtain ⟨s, t, hs, ht, hst, rfl, rfl⟩ := h
  refine ⟨s, t, hs, ht, hst, ?_, ?_⟩
  · simp only [c03_triToMetres, c03_backToMetres, Gen.deg_to_metric]
    generalize (sqrt _ : α) = R
    generalize (180.0 : α) = c
    ring
  · simp only [c03_triToMetres, c03_backToMetres, Gen.deg_to_metric]
    generalize (cos _ : α) = C
    generalize (180.0 : α) = c
    generalize (6378137.0 : α) = a
    ring


/-- **C03, conversion clause**: the generated degree → metre formula undoes the generated metre → degree formula, and
vice versa, at every fixed reference latitude at which the conversion is defined (`π ≠ 0`, `cos φ ≠ 0`: not a pole; the
meridional radius term `≠ 0`).  (`C03.metric_deg_inverse` / `deg_metric_inverse` with only the operations the formulas
use.) -/
theorem c03_metric_degree_inverse (lat : α) (hpi : (pi : α) ≠ 0)
    (hc : cos (lat * pi / 180.0) ≠ 0)
    (hr : sqrt ((6378137.0 * sin (lat * pi / 180.0)) * (6378137.0 * sin (lat * pi / 180.0)) +
        (6356752.314245 * cos (lat * pi / 180.0)) * (6356752.314245 * cos (lat * pi / 180.0))) ≠ 0) :
    (∀ dx dy : α, Gen.deg_to_metric (Gen.metric_to_deg dx dy lat).1 (Gen.metric_to_deg dx dy lat).2 lat = (dx, dy)) ∧
    (∀ dlon dlat : α,
      Gen.metric_to_deg (Gen.deg_to_metric dlon dlat lat).1 (Gen.deg_to_metric dlon dlat lat).2 lat = (dlon, dlat)) := by
  -- `C03.metric_deg_inverse` / `deg_metric_inverse` stand in a section with `exp`, `log`, `asin`, `rpow`, which they do
  -- not use: any instance does
  let _ : HasExp α := ⟨id⟩
  let _ : HasLog α := ⟨id⟩
  let _ : HasAsin α := ⟨id⟩
  let _ : HasRpow α := ⟨fun x _ => x⟩
  exact ⟨fun dx dy => C03.metric_deg_inverse dx dy lat hpi hc hr,
    fun dlon dlat => C03.deg_metric_inverse dlon dlat lat hpi hc hr⟩

/-- the same on the interpretations of the statement sequences `Gen.rel_metric_diff_to_degrees_seq` and
`Gen.rel_degree_diff_to_metric_seq`: neither function raises, and each undoes the other -/
theorem c03_metric_degree_inverse_seq (lat : α) (hpi : (pi : α) ≠ 0)
    (hc : cos (lat * pi / 180.0) ≠ 0)
    (hr : sqrt ((6378137.0 * sin (lat * pi / 180.0)) * (6378137.0 * sin (lat * pi / 180.0)) +
        (6356752.314245 * cos (lat * pi / 180.0)) * (6356752.314245 * cos (lat * pi / 180.0))) ≠ 0) :
    (∀ dx dy : α, ∃ p, metricToDegSeq dx dy lat = some (some p) ∧ degToMetricSeq p.1 p.2 lat = some (some (dx, dy))) ∧
    (∀ dlon dlat : α, ∃ q, degToMetricSeq dlon dlat lat = some (some q) ∧
      metricToDegSeq q.1 q.2 lat = some (some (dlon, dlat))) := by
  obtain ⟨h1, h2⟩ := c03_metric_degree_inverse lat hpi hc hr
  constructor
  · intro dx dy
    exact ⟨_, Bridge.metric_diff_to_degrees dx dy lat, by rw [Bridge.degree_diff_to_metric, h1]⟩
  · intro dlon dlat
    exact ⟨_, Bridge.degree_diff_to_metric dlon dlat lat, by rw [Bridge.metric_diff_to_degrees, h2]⟩

/-- every vertex of the polygon handed to the triangulation converts back to its offset in metres *exactly*
(`degree_diff_to_metric ∘ metric_diff_to_degrees = id` at the centre latitude) -/
theorem c03_offsetVerts_back (clon clat : α) (ox oy : List α)
    (hinv : ∀ dx dy : α, Gen.deg_to_metric (Gen.metric_to_deg dx dy clat).1 (Gen.metric_to_deg dx dy clat).2 clat = (dx, dy)) :
    (c03_offsetVerts clon clat ox oy).map (fun v => c03_backToMetres clon clat v.1 v.2) = oy.zip ox := by
  unfold c03_offsetVerts
  rw [List.map_map]
  conv_rhs => rw [← List.map_id (oy.zip ox)]
  apply List.map_congr_left
  intro p _
  simp only [Function.comp, c03_backToMetres, add_sub_cancel_left, hinv, id]

/-- **C03, metric-offset clause, on `get_location`** (interpretation of `Gen.get_location_seq`, running those of
`Gen.get_location_offset_seq`, `Gen.latlon_from_poly_seq` and of the triangulation sequences; the conversions are the
generated formulas `Gen.metric_to_deg` / `Gen.deg_to_metric`, which `Bridge.metric_diff_to_degrees` /
`degree_diff_to_metric` identify with the interpretations of their statement sequences).
For `loc_conf = {center: [clon, clat], offset: [ox, oy]}` (one polygon of offsets in metres east / north), whatever
`get_location` returns is `{longitude, latitude}` with `min num (number of draws)` entries, and
* the polygon handed to the triangulation is `c03_offsetVerts` = centre + converted offsets, and its vertices converted back
  to metres are the offsets `(oy_i, ox_i)` exactly;
* every particle, converted back to metres, is a convex combination of the metre images of the vertices of a triangle
  the triangulation handed back for that polygon;
* hence — contract of the library read in the metre chart around the centre — inside the offset polygon `oy.zip ox`
  (rows `(north, east)`).
Hypotheses: `hpi`, `hc`, `hr` — the conversion is defined at the centre latitude (`π ≠ 0`, `cos φ ≠ 0`: not a pole, the
meridional radius term `≠ 0`; needed by `c03_metric_degree_inverse`; `c03_conversion_defined_real` discharges them over `ℝ`
for every latitude in `(-89, 89)`); `hd` — draws in `[0, 1)`; `hlib` — the contract of the library, for the region
`insideM` of a polygon given in metres and pulled back to degrees by the (invertible, linear) chart. -/
theorem c03_get_location_offset_inside {φ : Type} (openFile : String → Option φ)
    (locFile : φ → Nat → Option (List α × List α × Frame α))
    (trLib : List (α × α) → List (Nat × Nat) → String → Option (TrData α))
    (insideM : List (α × α) → α → α → Prop) (clon clat : α) (ox oy : List α)
    (hlib : c03_TriLibInside trLib (fun c la lo =>
      insideM (c.map (fun v => c03_backToMetres clon clat v.1 v.2)) (c03_backToMetres clon clat la lo).1
        (c03_backToMetres clon clat la lo).2))
    (draws : List (α × α × α)) (num : Nat) (f : Frame α)
    (hpi : (pi : α) ≠ 0) (hc : cos (clat * pi / 180.0) ≠ 0)
    (hr : sqrt ((6378137.0 * sin (clat * pi / 180.0)) * (6378137.0 * sin (clat * pi / 180.0)) +
        (6356752.314245 * cos (clat * pi / 180.0)) * (6356752.314245 * cos (clat * pi / 180.0))) ≠ 0)
    (hd : ∀ d ∈ draws, 0 ≤ d.2.1 ∧ d.2.1 < 1 ∧ 0 ≤ d.2.2 ∧ d.2.2 < 1)
    (h : getLocationSeq openFile locFile (c03_triCode trLib) draws
      (.offset ⟨some (clon, clat), (.single ox, .single oy)⟩) num = some (some f)) :
    ∃ (lons lats : List α), f = [("longitude", lons.map Cell.num), ("latitude", lats.map Cell.num)] ∧
      lons.length = min num draws.length ∧ lats.length = min num draws.length ∧
      (c03_offsetVerts clon clat ox oy).map (fun v => c03_backToMetres clon clat v.1 v.2) = oy.zip ox ∧
      ∀ (j : Nat) (lo la : α), lons[j]? = some lo → lats[j]? = some la →
        (∃ T ts, c03_returned (triangulateNonconvexSeq trLib (c03_offsetVerts clon clat ox oy)) = some ts ∧ T ∈ ts ∧
          c03_InTri (c03_triToMetres clon clat T) (c03_backToMetres clon clat la lo).1 (c03_backToMetres clon clat la lo).2) ∧
        insideM (oy.zip ox) (c03_backToMetres clon clat la lo).1 (c03_backToMetres clon clat la lo).2 := by
  rw [Bridge.get_location_offset_form] at h
  simp only [Option.some.injEq] at h
  obtain ⟨r, hr', rfl⟩ := Option.map_eq_some_iff.mp h
  simp only [Bridge.locationOffsetSpec, Coord.mapArr, Coord.map] at hr'
  obtain ⟨⟨xs, ys, pn⟩, hq, rfl⟩ := Option.map_eq_some_iff.mp hr'
  obtain ⟨coords, hcs, h1, h2, h3, hall⟩ := c03_latlonSpec_inside trLib _ hlib draws _ _ num xs ys pn hd hq
  have hback := c03_offsetVerts_back clon clat ox oy (c03_metric_degree_inverse clat hpi hc hr).1
  have hcc : coords = [c03_offsetVerts clon clat ox oy] := by
    rw [c03_polyCoords_single _ _ _ hcs, List.map_map, List.map_map, List.zip_map]
    rfl
  subst hcc
  refine ⟨ys, xs, rfl, h2, h1, hback, fun j lo la hlo hla => ?_⟩
  obtain ⟨i, _, c, T, ts, hci, hts, hT, hin, hins⟩ := hall j la lo hla hlo
  obtain rfl := List.mem_singleton.mp (List.mem_of_getElem? hci)
  refine ⟨⟨T, ts, hts, hT, c03_backToMetres_inTri clon clat T la lo hin⟩, ?_⟩
  rw [hback] at hins
  exact hins

end loc
/-! ## 5. C03 — GeoJSON: positions inside a polygon of the layer, properties of the owning feature -/

theorem c03_returned_eq_some {β : Type} (o : Option (Option β)) (b : β) : c03_returned o = some b ↔ o = some (some b) := by
  rcases o with _ | _ | c <;> simp [c03_returned]

theorem c03_lookup_map_key {β : Type} (g : String → β) (l : List String) (c : String) (h : c ∈ l) :
    lookup (l.map (fun k => (k, g k))) c = some (g c) := by
  induction l with
  | nil => simp at h
  | cons a l ih =>
    by_cases hac : a = c
    · simp [lookup, hac]
    · simpa [lookup, hac] using ih ((List.mem_cons.mp h).resolve_left (Ne.symm hac))

/-- the vertex rows `latlon_from_poly` builds from the rings of the layer: per ring its positions with the columns
swapped, `(lat, lon)` = (column 1, column 0) -/
theorem c03_polyCoords_flat (flat : List (Nat × List (α × α))) (coords : List (List (α × α)))
    (h : Bridge.polyCoords (.multi (flat.map (fun p => p.2.map (fun c => c.2))))
      (.multi (flat.map (fun p => p.2.map (fun c => c.1)))) = some coords) :
    coords = flat.map (fun p => p.2.map (fun c => (c.2, c.1))) := by
  simp only [Bridge.polyCoords, stackCoords, List.zip_map', List.mapM_map] at h
  have := Bridge.mapM_of_forall
    ((fun p : List α × List α => if p.1.length = p.2.length then some (p.1.zip p.2) else none) ∘
      (fun x : Nat × List (α × α) => (x.2.map (fun c => c.2), x.2.map (fun c => c.1))))
    (fun p => p.2.map (fun c => (c.2, c.1))) flat (by intro a _; simp [List.zip_map'])
  rw [this] at h
  simpa using h.symm

theorem c03_seriesCols_nodup (ss : List (List (String × Cell α))) : (seriesCols ss).Nodup := by
  unfold seriesCols
  generalize ss.flatMap (fun r => r.map (fun p => p.1)) = l
  have key : ∀ (l acc : List String), acc.Nodup →
      (l.foldl (fun acc c => if acc.contains c then acc else acc ++ [c]) acc).Nodup := by
    intro l
    induction l with
    | nil => intro acc h; exact h
    | cons c l ih =>
      intro acc h
      simp only [List.foldl_cons]
      apply ih
      split
      · exact h
      · rename_i hc
        exact h.append (List.nodup_singleton c) (List.disjoint_singleton.mpr (by simpa using hc))
  exact key l [] List.nodup_nil

theorem c03_lookup_filter {β : Type} (q : String × β → Bool) (c : String) (l : List (String × β))
    (hq : ∀ p ∈ l, (p.1 == c) = true → q p = true) : lookup (l.filter q) c = lookup l c := by
  unfold lookup
  rw [List.find?_filter]
  congr 1
  apply List.find?_congr
  intro p hp
  cases hb : (p.1 == c) with
  | false => simp
  | true => simp [hq p hp hb]

section loc2
variable [HasSqrt α] [HasSin α] [HasCos α] [HasPi α]

/-- a property column of the mapping `get_location` returns is that column of the location's attributes (the keys of a
Python dict are distinct) -/
theorem c03_locFrame_lookup_prop (lon lat : List α) (attrs : Frame α) (hn : (attrs.map (fun p => p.1)).Nodup)
    (c : String) (hc1 : c ≠ "longitude") (hc2 : c ≠ "latitude") :
    lookup (Bridge.locFrame lon lat attrs) c = lookup attrs c := by
  have : lookup (Bridge.locProps attrs) c = lookup attrs c :=
    c03_lookup_filter _ c attrs (by intro p _ hp; simp [eq_of_beq hp, hc1, hc2])
  rw [Bridge.locFrame_eq_cons _ _ _ hn, ← this]
  simp [lookup, List.find?_cons, Ne.symm hc1, Ne.symm hc2]

/-- **C03, GeoJSON clause, on `get_location`** (interpretation of `Gen.get_location_seq`, with the interpretation of
`Gen.get_location_file_seq` — which runs those of `Gen.polygons_from_feature_seq` and `Gen.latlon_from_poly_seq` — as
its file reader and that of `Gen.rel_triangulate_nonconvex_multi_seq` as the triangulation).  For a stream object, or
a file name that opens, whatever `get_location` returns is a mapping with the `min num (number of draws)` sampled
positions under `longitude` / `latitude`, and for every particle `j` there is a feature `i` of the first layer such
that
* `(lat, lon)` lies inside one of the polygons `get_polygons_from_feature_geometry` (interpretation of
  `Gen.polygons_from_feature_seq`) returns for the geometry of that feature (a Polygon's outer ring, or one of the outer
  rings of a MultiPolygon, closing position dropped; vertex rows swapped to `(lat, lon)`), and
* in every property column `c` (the union of the property names of the layer, `longitude` / `latitude` excepted) the
  cell of particle `j` is the value of `c` in the property table of feature `i` (NaN if the feature has no such
  property).
Hypotheses: `hd`, `hlib` as in `c03_latlon_from_poly_inside`; `hconf` names the two GeoJSON forms of `loc_conf`. -/
theorem c03_get_location_geojson {φ : Type} (openFile : String → Option φ)
    (readJson : φ → Option (GeoData α)) (upper : String → String)
    (trLib : List (α × α) → List (Nat × Nat) → String → Option (TrData α))
    (inside : List (α × α) → α → α → Prop) (hlib : c03_TriLibInside trLib inside)
    (draws : List (α × α × α)) (conf : LocConf α φ) (file : φ) (num : Nat) (f : Frame α)
    (hconf : conf = .stream file ∨ ∃ name, conf = .fileName name ∧ openFile name = some file)
    (hd : ∀ d ∈ draws, 0 ≤ d.2.1 ∧ d.2.1 < 1 ∧ 0 ≤ d.2.2 ∧ d.2.2 < 1)
    (h : getLocationSeq openFile (c03_locFileCode readJson upper (c03_triCode trLib) draws) (c03_triCode trLib) draws conf num
      = some (some f)) :
    ∃ (lons lats : List α) (feats : List (Feature α)) (cols : List String),
      (∃ data layer, readJson file = some data ∧ Bridge.firstLayer data = some layer ∧ layer.features = some feats) ∧
      cols = seriesCols (feats.map (fun ft => ft.properties.getD [])) ∧
      lookup f "longitude" = some (lons.map Cell.num) ∧ lookup f "latitude" = some (lats.map Cell.num) ∧
      lons.length = min num draws.length ∧ lats.length = min num draws.length ∧
      ∀ (j : Nat) (lo la : α), lons[j]? = some lo → lats[j]? = some la →
        ∃ (i : Nat) (ft : Feature α) (ps : List (List (α × α))) (poly : List (α × α)),
          feats[i]? = some ft ∧ c03_returned (featurePolygonsSeq upper ft) = some ps ∧ poly ∈ ps ∧
          inside (poly.map (fun c => (c.2, c.1))) la lo ∧
          ∀ c ∈ cols, c ≠ "longitude" → c ≠ "latitude" → ∃ col, lookup f c = some col ∧
            col[j]? = some ((lookup (ft.properties.getD []) c).getD Cell.nan) := by
  rw [Bridge.get_location] at h
  simp only [Option.some.injEq] at h
  have key : (c03_locFileCode readJson upper (c03_triCode trLib) draws file num).map
      (fun r => Bridge.locFrame r.1 r.2.1 r.2.2) = some f := by
    rcases hconf with rfl | ⟨name, rfl, ho⟩
    · exact h
    · simpa [Bridge.locationSpec, ho] using h
  obtain ⟨⟨lons, lats, attrs⟩, hr, rfl⟩ := Option.map_eq_some_iff.mp key
  -- what `get_location_file` returned, particle by particle
  obtain ⟨data, layer, feats, pss, r, byParticle, h1, h2, h3, h4, h6, rfl, rfl, rfl, hcols, hrows⟩ :=
    Bridge.get_location_file_rows readJson upper (c03_triCode trLib) draws file num lons lats attrs
      ((c03_returned_eq_some _ _).mp hr)
  obtain ⟨xs, ys, pn⟩ := r
  obtain ⟨coords, hc, l1, l2, l3, hall⟩ := c03_latlonSpec_inside trLib inside hlib draws _ _ num xs ys pn hd h6
  have hcoords := c03_polyCoords_flat _ _ hc
  subst hcoords
  have hn : ((DF.toDict byParticle).map (fun p => p.1)).Nodup := by
    have : (DF.toDict byParticle).map (fun p => p.1) = byParticle.cols := by
      simp [DF.toDict, List.map_map, Function.comp_def]
    rw [this, hcols]
    exact c03_seriesCols_nodup _
  refine ⟨ys, xs, feats, byParticle.cols, ⟨data, layer, h1, h2, h3⟩, hcols,
    Bridge.locFrame_lookup_lon _ _ _, Bridge.locFrame_lookup_lat _ _ _, l2, l1, ?_⟩
  intro j lo la hlo hla
  obtain ⟨k, hk, c, T, ts, hci, _, _, _, hins⟩ := hall j la lo hla hlo
  rw [List.getElem?_map, Option.map_eq_some_iff] at hci
  obtain ⟨⟨i, poly⟩, hp, rfl⟩ := hci
  obtain ⟨ps, hps, hpoly⟩ := Bridge.flatWithId_owner pss k i poly hp
  have hg := Bridge.mapM_getElem? _ _ _ h4 i
  rw [hps] at hg
  obtain ⟨ft, hft, hg⟩ := Option.bind_eq_some_iff.mp hg.symm
  refine ⟨i, ft, ps, poly, hft, by rw [Bridge.feature_polygons]; simpa [c03_returned] using hg, hpoly, hins, ?_⟩
  intro c hcm hc1 hc2
  have hrow : byParticle.rows[j]? = some ((seriesCols (feats.map (fun ft => ft.properties.getD []))).map
      (fun c => (c, (lookup (ft.properties.getD []) c).getD Cell.nan))) := by
    rw [hrows j]
    simp only [hk, Option.bind_some, hp, Bridge.dfOfSeries_row, List.getElem?_map, hft, Option.map_some]
  rw [c03_locFrame_lookup_prop _ _ _ hn c hc1 hc2]
  refine ⟨_, c03_lookup_map_key _ _ c hcm, ?_⟩
  rw [List.getElem?_map, hrow]
  simp only [Option.map_some]
  rw [hcols] at hcm
  rw [c03_lookup_map_key _ _ c hcm]
  rfl

end loc2

/-! ## 6. C03 — point locations -/
section loc3
variable [HasSqrt α] [HasSin α] [HasCos α] [HasPi α]

/-- **C03, point clause, on `get_location`** (interpretation of `Gen.get_location_seq`): for a location `[lon, lat]` of
two numbers the code never raises and returns exactly `{longitude: [lon] * num, latitude: [lat] * num}` — the point is
reproduced exactly for every particle, for every particle count, whatever the triangulation, the file system and the
random draws are.  No hypotheses.  (The bridge `Bridge.get_location_point` uses the operations of the scalar type only,
so this holds verbatim for `Float`.) -/
theorem c03_point_exact {φ : Type} (openFile : String → Option φ)
    (locFile : φ → Nat → Option (List α × List α × Frame α))
    (tri : List (List (α × α)) → Option (List (Tri α) × List Nat)) (draws : List (α × α × α))
    (x y : α) (num : Nat) :
    ∃ f, getLocationSeq openFile locFile tri draws (.pair (.scalar x) (.scalar y)) num = some (some f) ∧
      f = [("longitude", List.replicate num (Cell.num x)), ("latitude", List.replicate num (Cell.num y))] ∧
      (∀ col, lookup f "longitude" = some col → col.length = num ∧ ∀ c ∈ col, c = Cell.num x) ∧
      (∀ col, lookup f "latitude" = some col → col.length = num ∧ ∀ c ∈ col, c = Cell.num y) := by
  refine ⟨_, Bridge.get_location_point openFile locFile tri draws x y num, by simp, ?_, ?_⟩
  all_goals
    intro col h
    simp [lookup] at h
    subst h
    exact ⟨by simp, fun c hc => (List.mem_replicate.mp hc).2⟩

end loc3

/-! ## 7. C17 — the sampler is a fixed map of three uniform draws per particle -/

/-- **C17, structure of the sampler, on `get_polygon_sample_triangles`** (interpretation of
`Gen.polygon_sample_triangles_seq`, running those of `Gen.triangle_areas_seq` and `Gen.unit_triangle_sample_seq`).
Whatever the code returns, with `areas` what the interpretation of `triangle_areas` returns for the triangle array:
the stream held the `3 · num` numbers the code draws, and particle `i < num` is the image of *its own* three numbers
`u = rng[i]`, `s = rng[num + i]`, `t = rng[2 num + i]` (no number is used twice) under the fixed map
`(u, s, t) ↦ (Gen.rel_bary (vertices of triangle k) (fold (s, t)), k)`, `k = pickTriangle areas u`
(`np.searchsorted(cumarea / cumarea[-1], u)`), `fold` = the reflection of the upper half of the unit square.
For a stream of independent uniform numbers the particles are therefore independent, each distributed as the
push-forward of the uniform law on the unit cube under that map; `c17_triangle_choice_interval`,
`c17_triangle_choice_probability` and `c17_point_uniform_in_triangle` compute this push-forward.  No hypotheses. -/
theorem c17_particle_is_image_of_draws (tris : List (Tri α)) (n : Nat) (rng rest : List α) (xs ys : List α)
    (ks : List Nat) (h : polygonSampleTrianglesSeq tris n rng = some (some ((xs, ys, ks), rest))) :
    ∃ areas, triangleAreasSeq tris = some (some areas) ∧ areas.length = tris.length ∧ (∀ a ∈ areas, 0 ≤ a) ∧
      ∃ h3 : n * 3 ≤ rng.length, xs.length = n ∧ ys.length = n ∧ ks.length = n ∧
      ∀ (i : Nat) (hi : i < n),
        let u := rng[i]'(by omega)
        let s := rng[n + i]'(by omega)
        let t := rng[n * 2 + i]'(by omega)
        let k := pickTriangle areas u
        ∃ T, tris[k]? = some T ∧ ks[i]? = some k ∧
          xs[i]? = some (Gen.rel_bary T.x1 T.x2 T.x3 T.y1 T.y2 T.y3 (foldUnit s t).1 (foldUnit s t).2).1 ∧
          ys[i]? = some (Gen.rel_bary T.x1 T.x2 T.x3 T.y1 T.y2 T.y3 (foldUnit s t).1 (foldUnit s t).2).2 := by
  obtain ⟨h3, _, _, ps, hps, rfl, rfl, rfl⟩ := Bridge.get_polygon_sample_triangles_points _ _ _ _ _ _ _ h
  have hlen : ps.length = n := by
    simpa [Bridge.rngDraws_length n rng h3] using (congrArg List.length hps).symm
  refine ⟨tris.map triArea, Bridge.triangle_areas tris, by simp,
    List.forall_mem_map.mpr fun T _ => C03.triArea_nonneg T, h3, by simpa using hlen, by simpa using hlen,
    by simpa using hlen, ?_⟩
  · intro i hi
    have hd := Bridge.rngDraws_getElem? n rng i h3 hi
    have hi' : i < ps.length := by omega
    have e : ((Bridge.rngDraws n rng).map (fun d => samplePoint tris d.1 d.2.1 d.2.2))[i]? = (ps.map some)[i]? := by
      rw [hps]
    simp only [List.getElem?_map, hd, Option.map_some, List.getElem?_eq_getElem hi'] at e
    simp only [samplePoint] at e
    cases hT : tris[pickTriangle (tris.map triArea) rng[i]]? with
    | none => rw [hT] at e; simp at e
    | some T =>
      rw [hT] at e
      simp only [Option.some.injEq] at e
      refine ⟨T, hT, ?_⟩
      simp only [List.getElem?_map, List.getElem?_eq_getElem hi', Option.map_some, ← e, ← Bridge.rel_bary, and_self]

/-- **the fold, on `_unit_triangle_sample`** (interpretation of `Gen.unit_triangle_sample_seq`): column `j` of the array
the code returns is the pair `(rng[j], rng[num + j])` of the stream, reflected through the centre of the unit square
when it lies above the diagonal — the map written `foldUnit` in the other statements -/
theorem c17_unit_triangle_sample_fold (num : Nat) (rng : List α) (h : num * 2 ≤ rng.length) :
    unitTriangleSeq num rng =
      some (some
        ((((rng.take num).zip ((rng.drop num).take num)).map
            (fun p => (if 1 < p.1 + p.2 then (1 - p.1, 1 - p.2) else p).1),
          ((rng.take num).zip ((rng.drop num).take num)).map
            (fun p => (if 1 < p.1 + p.2 then (1 - p.1, 1 - p.2) else p).2)),
         rng.drop (num * 2))) ∧
    ∀ s t : α, foldUnit s t = if 1 < s + t then (1 - s, 1 - t) else (s, t) := by
  have hf : ∀ s t : α, foldUnit s t = if 1 < s + t then (1 - s, 1 - t) else (s, t) := by
    intro s t; unfold foldUnit; lits
  refine ⟨?_, hf⟩
  rw [Bridge.unit_triangle_sample, Bridge.unitTriangleSpec, if_pos h]
  simp only [List.map_map, Function.comp_def, hf]

/-- the bracket of the triangle choice: triangle `k` is chosen exactly for `u` in an interval `(lo, hi]` of `[0, 1]` of
length `areas[k] / total area` (`C17.pick_interval`, `pick_interval_length`, `normCum_last`) -/
theorem c17_pick_bracket (areas : List α) (tot : α) (k : Nat) (hk : k < areas.length) (ht : 0 < tot)
    (hpos : ∀ a ∈ areas, 0 ≤ a) (hlast : (cumsum areas).getLast? = some tot) :
    ∃ lo hi : α, 0 ≤ lo ∧ lo ≤ hi ∧ hi ≤ 1 ∧ hi - lo = areas[k] / tot ∧
      ∀ u : α, (lo < u → u ≤ hi → pickTriangle areas u = k) ∧
        (0 ≤ u → pickTriangle areas u = k → lo ≤ u ∧ u ≤ hi) := by
  have hlen := C17.normCum_length areas tot
  have hkl : k < (C17.normCum areas tot).length := by rw [hlen]; exact hk
  have hs := C17.normCum_pairwise areas tot ht hpos
  have h0 : (0 : α) ≤ (C17.normCum areas tot)[0]'(by omega) := by
    rw [C17.pick_interval_length_zero areas tot (by omega)]
    exact div_nonneg (hpos _ (List.getElem_mem _)) ht.le
  have hle1 : (C17.normCum areas tot)[k] ≤ 1 := by
    have hl := C17.normCum_last areas tot ht hlast
    rw [List.getLast?_eq_some_getLast (List.ne_nil_of_mem (List.getElem_mem hkl))] at hl
    exact (hs.rel_getLast (List.getElem_mem hkl)).trans_eq (Option.some.inj hl)
  have hiff := fun u => C17.pick_interval areas tot u k hk ht hpos hlast
  cases k with
  | zero =>
    refine ⟨0, (C17.normCum areas tot)[0], le_refl _, h0, hle1, ?_, ?_⟩
    · rw [sub_zero]; exact C17.pick_interval_length_zero areas tot (by omega)
    · intro u
      constructor
      · intro _ hu; exact (hiff u).mpr ⟨fun h => absurd h (lt_irrefl 0), hu⟩
      · intro hu hp; exact ⟨hu, ((hiff u).mp hp).2⟩
  | succ k =>
    have hkl' : k < (C17.normCum areas tot).length := by omega
    refine ⟨(C17.normCum areas tot)[k], (C17.normCum areas tot)[k + 1],
      h0.trans (hs.rel_get_of_le (a := ⟨0, by omega⟩) (b := ⟨k, hkl'⟩) (Nat.zero_le k)),
      hs.rel_get_of_le (a := ⟨k, hkl'⟩) (b := ⟨k + 1, hkl⟩) (Nat.le_succ k), hle1, C17.pick_interval_length areas tot k hk, ?_⟩
    intro u
    constructor
    · intro h1 h2
      refine (hiff u).mpr ⟨fun _ => ?_, h2⟩
      simpa using h1
    · intro _ hp
      have := ((hiff u).mp hp)
      have h1 := this.1 (by omega)
      simp only [Nat.add_sub_cancel] at h1
      exact ⟨h1.le, this.2⟩

/-- **C17, area-proportional choice of the triangle, on the interpretations.**  With `areas` what the interpretation of
`Gen.triangle_areas_seq` returns for the triangle array (= the weights `get_polygon_sample_triangles` uses,
`c17_particle_is_image_of_draws`) and a positive total: `np.searchsorted(cumarea / cumarea[-1], u)` is triangle `k`
exactly for `u` in a half-open interval `(lo, hi] ⊆ [0, 1]` whose length is `areas[k] / total`: the *share of the area*.
The intervals of different triangles are disjoint (the choice is a function) and every `u ∈ [0, 1)` chooses a valid
triangle.  Hypothesis `ht`: the total area is positive (non-degenerate polygon). -/
theorem c17_triangle_choice_interval (tris : List (Tri α)) (areas : List α) (tot : α)
    (ha : triangleAreasSeq tris = some (some areas)) (hlast : (cumsum areas).getLast? = some tot) (ht : 0 < tot) :
    areas.length = tris.length ∧ (∀ a ∈ areas, 0 ≤ a) ∧
    (∀ u : α, u < 1 → pickTriangle areas u < tris.length) ∧
    ∀ (k : Nat) (hk : k < areas.length), ∃ lo hi : α, 0 ≤ lo ∧ lo ≤ hi ∧ hi ≤ 1 ∧ hi - lo = areas[k] / tot ∧
      ∀ u : α, (lo < u → u ≤ hi → pickTriangle areas u = k) ∧
        (0 ≤ u → pickTriangle areas u = k → lo ≤ u ∧ u ≤ hi) := by
  rw [Bridge.triangle_areas] at ha
  simp only [Option.some.injEq] at ha
  subst ha
  have hpos : ∀ a ∈ tris.map triArea, 0 ≤ a := List.forall_mem_map.mpr fun T _ => C03.triArea_nonneg T
  have hne : tris.map triArea ≠ [] := by
    intro h; rw [h] at hlast; simp [Sample.cumsum] at hlast
  refine ⟨by simp, hpos, ?_, fun k hk => c17_pick_bracket _ tot k hk ht hpos hlast⟩
  intro u hu
  have := C03.pick_in_range (tris.map triArea) u hu hne hpos (fun t' h' => by rw [hlast] at h'; cases h'; exact ht)
  simpa using this

/-! ## 8. C17 — the weights of the fan add up to the area of the polygon -/

/-- **C17, the fan weights, on the interpretations** of `Gen.rel_triangulate_seq` and `Gen.triangle_areas_seq`: the
code never raises; the doubled *signed* areas of the triangles `triangulate` returns add up to the shoelace sum of the
polygon for every vertex list; and when the fan triangles have one orientation (as for a convex polygon, clockwise or
counter-clockwise) the weights `triangle_areas` returns add up to the area of the polygon (shoelace formula).  Together
with `c17_triangle_choice_interval` (share `areas[k] / total`) and `c17_point_uniform_in_triangle` this is the uniform
law on a convex polygon. -/
theorem c17_fan_weights_sum_to_area (coords : List (α × α)) :
    ∃ ts areas, triangulateSeq coords = some (some ts) ∧ triangleAreasSeq ts = some (some areas) ∧
      ts.length = coords.length - 2 ∧
      (∀ p rest, coords = p :: rest → (ts.map Bridge.triSignedArea2).sum = shoelace2 coords p.1 p.2) ∧
      (((∀ T ∈ ts, 0 ≤ Bridge.triSignedArea2 T) ∨ (∀ T ∈ ts, Bridge.triSignedArea2 T ≤ 0)) →
        areas.sum = polygonArea coords) := by
  refine ⟨_, _, Bridge.triangulate coords, Bridge.triangle_areas _, Bridge.fanTriangles_length coords, ?_, ?_⟩
  · intro p rest h; subst h; exact Bridge.fan_signed_area_sum p rest
  · intro h; exact Bridge.fan_area_sum coords h

/-! ## 9a. C17 — two-element range attributes -/

/-- **C17, range clause, on `get_attr`** (interpretation of `Gen.get_attr_seq`, running that of
`Gen.get_distribution_seq`): a two-element attribute `[lo, hi]` is the affine image `lo + (hi − lo) · u` of the next
`num` uniform draws, one draw per particle (`c17_range_uniform`: hence uniform on `[lo, hi)`).
Hypotheses forced by the code (`C04.range_values`): `hn` — for `num = 2` a two-element list is taken as the two values
themselves (the test `len(v) == 2 and num != 2` of the source); `hd` — the stream holds the `num` numbers drawn. -/
theorem c17_range_attribute_affine (lo hi : α) (byName : Bool) (num : Nat) (draws : List α) (hn : num ≠ 2)
    (hd : num ≤ draws.length) :
    getAttrSeq byName (.list [lo, hi]) num draws =
      some (some ((draws.take num).map (fun u => lo + (hi - lo) * u))) := by
  obtain ⟨cv, _, h⟩ := Bridge.get_attr_seq (α := α)
  rw [h]
  obtain ⟨vs, hv, _, rfl⟩ := C04.range_values cv lo hi num draws hn hd
  rw [hv]

end field

/-! ## 9. Over `ℝ`: the side conditions of the conversion, and uniformity as a measure statement -/
section real
open MeasureTheory

/-- `np.pi` over `ℝ` -/
@[reducible] noncomputable def c03_realPi : HasPi ℝ := ⟨Real.pi⟩
attribute [local instance] c03_realPi

/-- over `ℝ` with the standard `sin`, `cos`, `sqrt`, `π` the conversion is defined at every latitude of the property's
range `(-89, 89)` (indeed for `|lat| < 90`): the hypotheses `hpi`, `hc`, `hr` of `c03_metric_degree_inverse` and
`c03_get_location_offset_inside` hold -/
theorem c03_conversion_defined_real (lat : ℝ) (h1 : -89 < lat) (h2 : lat < 89) :
    (pi : ℝ) ≠ 0 ∧ cos (lat * pi / 180.0) ≠ 0 ∧
    sqrt ((6378137.0 * sin (lat * pi / 180.0)) * (6378137.0 * sin (lat * pi / 180.0)) +
        (6356752.314245 * cos (lat * pi / 180.0)) * (6356752.314245 * cos (lat * pi / 180.0))) ≠ 0 := by
  have hpi : (pi : ℝ) = Real.pi := rfl
  have hcos : 0 < Real.cos (lat * Real.pi / 180.0) := by
    apply Real.cos_pos_of_mem_Ioo
    have e : (180.0 : ℝ) = 180 := by norm_num
    rw [e]
    constructor <;> nlinarith [Real.pi_pos]
  refine ⟨by rw [hpi]; exact Real.pi_ne_zero, ?_, ?_⟩
  · rw [hpi]; exact ne_of_gt hcos
  · rw [hpi]
    show Real.sqrt _ ≠ 0
    rw [Real.sqrt_ne_zero']
    have hb : (6356752.314245 : ℝ) * Real.cos (lat * Real.pi / 180.0) ≠ 0 :=
      mul_ne_zero (by norm_num) (ne_of_gt hcos)
    exact add_pos_of_nonneg_of_pos (mul_self_nonneg _) (mul_self_pos.mpr hb)

/-- **C03, conversion clause at full strength over `ℝ`**: for every reference latitude in `(-89, 89)` the generated
`metric_diff_to_degrees` and `degree_diff_to_metric` formulas (WGS84 semi-axes) are mutual inverses -/
theorem c03_metric_degree_inverse_real (lat : ℝ) (h1 : -89 < lat) (h2 : lat < 89) :
    (∀ dx dy : ℝ, Gen.deg_to_metric (Gen.metric_to_deg dx dy lat).1 (Gen.metric_to_deg dx dy lat).2 lat = (dx, dy)) ∧
    (∀ dlon dlat : ℝ,
      Gen.metric_to_deg (Gen.deg_to_metric dlon dlat lat).1 (Gen.deg_to_metric dlon dlat lat).2 lat = (dlon, dlat)) := by
  obtain ⟨a, b, c⟩ := c03_conversion_defined_real lat h1 h2
  exact c03_metric_degree_inverse lat a b c

/-- **C17, "the triangle is picked with probability proportional to its area"**: for a uniform draw `u ∈ [0, 1)`
(Lebesgue measure on the unit interval) the probability that `np.searchsorted(cumarea / cumarea[-1], u)` is triangle `k`
equals `areas[k] / total area`, with `areas` what the interpretation of `Gen.triangle_areas_seq` returns.
Hypothesis `ht`: positive total area. -/
theorem c17_triangle_choice_probability (tris : List (Tri ℝ)) (areas : List ℝ) (tot : ℝ)
    (ha : triangleAreasSeq tris = some (some areas)) (hlast : (cumsum areas).getLast? = some tot) (ht : 0 < tot)
    (k : Nat) (hk : k < areas.length) :
    volume {u : ℝ | 0 ≤ u ∧ u < 1 ∧ pickTriangle areas u = k} = ENNReal.ofReal (areas[k] / tot) := by
  obtain ⟨_, _, _, hbr⟩ := c17_triangle_choice_interval tris areas tot ha hlast ht
  obtain ⟨lo, hi, h0, hlh, h1, hlen, hu⟩ := hbr k hk
  rw [← hlen]
  apply le_antisymm
  · rw [← Real.volume_Icc]
    apply measure_mono
    rintro u ⟨hu0, _, hp⟩
    exact (hu u).2 hu0 hp
  · rw [← Real.volume_Ioo]
    apply measure_mono
    rintro u ⟨hul, huh⟩
    exact ⟨by linarith, by linarith, (hu u).1 hul huh.le⟩

/-- the closed triangle as a set of the plane -/
def c17_triangleSet (T : Tri ℝ) : Set (ℝ × ℝ) := {q | c03_InTri T q.1 q.2}

theorem c17_triangleSet_eq (T : Tri ℝ) :
    c17_triangleSet T = C17M.aff (T.x1, T.y1) (T.x2, T.y2) (T.x3, T.y3) '' C17M.Tunit := by
  ext ⟨x, y⟩
  simp only [c17_triangleSet, c03_InTri, C17M.aff, C17M.Tunit, Set.mem_ofPred_eq, Set.mem_image, Prod.exists, Prod.mk.injEq,
    C03.bary_convex]
  constructor
  · rintro ⟨s, t, hs, ht, hst, rfl, rfl⟩; exact ⟨s, t, ⟨hs, ht, hst⟩, rfl, rfl⟩
  · rintro ⟨s, t, ⟨hs, ht, hst⟩, rfl, rfl⟩; exact ⟨s, t, hs, ht, hst, rfl, rfl⟩

/-- **C17, "the point is uniform in the triangle"**, as the push-forward of the uniform law on the draws: for a
non-degenerate triangle `T` (positive weight `Gen.rel_triangle_area`), the probability — Lebesgue measure on the unit
square `[0,1)²` of the two draws `(s, t)` — that the position `Gen.rel_bary T (fold (s, t))` computed by
`get_polygon_sample_triangles` (`c17_particle_is_image_of_draws`) falls in a measurable part `B` of the closed
triangle is `area B / area T`; and the Lebesgue area of the triangle *is* the weight `Gen.rel_triangle_area` the code
uses for the choice of the triangle.  Hence a polygon (a set of triangles) receives particles in proportion to its
area, and the positions are uniform within it. -/
theorem c17_point_uniform_in_triangle (T : Tri ℝ)
    (hT : 0 < Gen.rel_triangle_area (T.x2 - T.x1) (T.y2 - T.y1) (T.x3 - T.x1) (T.y3 - T.y1))
    (B : Set (ℝ × ℝ)) (hB : MeasurableSet B) (hsub : B ⊆ c17_triangleSet T) :
    volume (c17_triangleSet T) =
      ENNReal.ofReal (Gen.rel_triangle_area (T.x2 - T.x1) (T.y2 - T.y1) (T.x3 - T.x1) (T.y3 - T.y1)) ∧
    volume {p : ℝ × ℝ | p ∈ C17M.Q ∧
        Gen.rel_bary T.x1 T.x2 T.x3 T.y1 T.y2 T.y3 (foldUnit p.1 p.2).1 (foldUnit p.1 p.2).2 ∈ B} =
      MeasureTheory.volume B / ENNReal.ofReal (Gen.rel_triangle_area (T.x2 - T.x1) (T.y2 - T.y1) (T.x3 - T.x1) (T.y3 - T.y1)) := by
  have hvol := C17M.volume_triangle_eq_triArea T
  rw [Bridge.rel_triangle_area T, ← c17_triangleSet_eq] at hvol
  rw [← Bridge.rel_triangle_area T] at hT
  have hdet : C17M.det (T.x1, T.y1) (T.x2, T.y2) (T.x3, T.y3) ≠ 0 := by
    intro h0
    rw [C17.triangle_areas_abs] at hT
    simp only [C17M.det] at h0
    rw [h0] at hT
    simp at hT
  refine ⟨hvol, ?_⟩
  rw [← hvol, c17_triangleSet_eq]
  rw [c17_triangleSet_eq] at hsub
  rw [← C17M.sample_uniform_on_triangle _ _ _ hdet B hB hsub]
  congr 1
  ext p
  simp only [Set.mem_ofPred_eq, Set.mem_inter_iff, Set.mem_preimage, Function.comp_apply, C17M.fold_eq_foldUnit, C17M.aff,
    ← Bridge.rel_bary]
  exact and_comm

/-- **C17, range clause**: the affine map of `c17_range_attribute_affine` pushes the uniform law on `[0, 1)` to the
uniform law on `[lo, hi)`: the probability of a measurable `B ⊆ [lo, hi)` is `length B / (hi − lo)` -/
theorem c17_range_uniform (lo hi : ℝ) (h : lo < hi) (B : Set ℝ) (hB : MeasurableSet B) (hsub : B ⊆ Set.Ico lo hi) :
    volume {u : ℝ | 0 ≤ u ∧ u < 1 ∧ lo + (hi - lo) * u ∈ B} = volume B / ENNReal.ofReal (hi - lo) := by
  have hpos : 0 < hi - lo := by linarith
  have hset : {u : ℝ | 0 ≤ u ∧ u < 1 ∧ lo + (hi - lo) * u ∈ B} =
      (fun u => (hi - lo) * u) ⁻¹' ((fun x => lo + x) ⁻¹' B) := by
    ext u
    simp only [Set.mem_ofPred_eq, Set.mem_preimage]
    constructor
    · rintro ⟨_, _, hb⟩; exact hb
    · intro hb
      obtain ⟨h1, h2⟩ := hsub hb
      refine ⟨?_, ?_, hb⟩
      · by_contra hneg
        have hneg' := not_le.mp hneg
        nlinarith
      · by_contra hneg
        have hneg' := not_lt.mp hneg
        nlinarith
  rw [hset, Real.volume_preimage_mul_left (ne_of_gt hpos), measure_preimage_add, abs_of_pos (inv_pos.mpr hpos),
    ENNReal.ofReal_inv_of_pos hpos, ENNReal.div_eq_inv_mul]

theorem c17_pick_measurable (areas : List ℝ) (tot : ℝ) (k : Nat) (hk : k < areas.length) (ht : 0 < tot)
    (hpos : ∀ a ∈ areas, 0 ≤ a) (hlast : (cumsum areas).getLast? = some tot) :
    MeasurableSet {u : ℝ | 0 ≤ u ∧ u < 1 ∧ pickTriangle areas u = k} := by
  have hiff := fun u => C17.pick_interval areas tot u k hk ht hpos hlast
  simp only [hiff]
  refine (measurableSet_le measurable_const measurable_id).inter
    ((measurableSet_lt measurable_id measurable_const).inter (MeasurableSet.inter ?_
      (measurableSet_le measurable_id measurable_const)))
  by_cases h0 : 0 < k
  · simp only [h0, forall_true_left]
    exact measurableSet_lt measurable_const measurable_id
  · simp only [h0, IsEmpty.forall_iff]
    exact MeasurableSet.univ

/-- **C17, "the polygons of a multi-polygon or GeoJSON layer receive particles in proportion to their areas"**, for
the weights the code uses: with `polynum` the polygon number of every triangle (second component of what
`triangulate_nonconvex_multi` returns) the probability that a uniform draw `u ∈ [0, 1)` chooses a triangle of polygon
`i` is (the sum of the weights `areas[k]` of the triangles of polygon `i`) / (sum of all weights).
`…_partial`: that the weights of polygon `i` add up to *its area* is proved for the fan (`c17_fan_weights_sum_to_area`);
for the library triangulation it is the tiling part of the library's contract (the triangles of a polygon cover it and
overlap in null sets only), which is not formalised. -/
theorem c17_polygon_share_partial (tris : List (Tri ℝ)) (areas : List ℝ) (tot : ℝ)
    (ha : triangleAreasSeq tris = some (some areas)) (hlast : (cumsum areas).getLast? = some tot) (ht : 0 < tot)
    (polynum : List Nat) (i : Nat) :
    volume {u : ℝ | 0 ≤ u ∧ u < 1 ∧ polynum[pickTriangle areas u]? = some i} =
      ENNReal.ofReal ((∑ k ∈ (Finset.range areas.length).filter (fun k => polynum[k]? = some i), areas.getD k 0) / tot)
    := by
  obtain ⟨hl, hpos, hrange, _⟩ := c17_triangle_choice_interval tris areas tot ha hlast ht
  set F := (Finset.range areas.length).filter (fun k => polynum[k]? = some i) with hF
  have hlt : ∀ k ∈ F, k < areas.length := fun k hk => Finset.mem_range.mp (Finset.mem_filter.mp hk).1
  have hset : {u : ℝ | 0 ≤ u ∧ u < 1 ∧ polynum[pickTriangle areas u]? = some i} =
      ⋃ k ∈ F, {u : ℝ | 0 ≤ u ∧ u < 1 ∧ pickTriangle areas u = k} := by
    ext u
    simp only [Set.mem_ofPred_eq, Set.mem_iUnion, exists_prop, hF, Finset.mem_filter, Finset.mem_range]
    constructor
    · rintro ⟨h0, h1, hp⟩
      exact ⟨_, ⟨by rw [hl]; exact hrange u h1, hp⟩, h0, h1, rfl⟩
    · rintro ⟨k, ⟨_, hp⟩, h0, h1, rfl⟩
      exact ⟨h0, h1, hp⟩
  rw [hset, measure_biUnion_finset]
  · have hterm : ∀ k ∈ F, volume {u : ℝ | 0 ≤ u ∧ u < 1 ∧ pickTriangle areas u = k} =
        ENNReal.ofReal (areas.getD k 0 / tot) := by
      intro k hk
      rw [c17_triangle_choice_probability tris areas tot ha hlast ht k (hlt k hk)]
      simp [List.getD_eq_getElem?_getD, List.getElem?_eq_getElem (hlt k hk)]
    rw [Finset.sum_congr rfl hterm, ← ENNReal.ofReal_sum_of_nonneg, Finset.sum_div]
    intro k hk
    apply div_nonneg _ ht.le
    simp only [List.getD_eq_getElem?_getD, List.getElem?_eq_getElem (hlt k hk), Option.getD_some]
    exact hpos _ (List.getElem_mem _)
  · intro a _ b _ hab
    simp only [Function.onFun]
    rw [Set.disjoint_left]
    rintro u ⟨_, _, h1⟩ ⟨_, _, h2⟩
    exact hab (h1.symm.trans h2)
  · exact fun k hk => c17_pick_measurable areas tot k (hlt k hk) ht hpos hlast

end real

/-! ## 10. Non-vacuity: the hypotheses are satisfiable on concrete instances

A run of an interpreter on a concrete input is first rewritten with its bridge theorem and the closed form is evaluated
by the kernel (`decide +kernel`: plain kernel reduction, no compiled code), so no statement text is interpreted again;
scalars are `ℚ`.  For the runs that need `sin`, `cos`, `sqrt`, `π` on `ℚ` a flat chart is used (`cos = 1`, `sin = 0`,
`sqrt = id`, `π = 3`): these stand-ins only serve to *execute* the interpreters; the side conditions of the conversion
are discharged for the real functions in `c03_conversion_defined_real`. -/
section examples

theorem c03_exists_of_isSome {β : Type} (o : Option (Option β)) (h : (c03_returned o).isSome = true) :
    ∃ r, o = some (some r) := by
  obtain ⟨r, hr⟩ := Option.isSome_iff_exists.mp h
  exact ⟨r, (c03_returned_eq_some o r).mp hr⟩

/-- the region used in the examples: the convex hull of the vertex rows (for a convex polygon: the closed polygon) -/
def c03_hull {α : Type} [Field α] [LinearOrder α] (c : List (α × α)) (x y : α) : Prop :=
  ∀ a b k : α, (∀ v ∈ c, a * v.1 + b * v.2 ≤ k) → a * x + b * y ≤ k

/-- a library that invents no vertices fulfils the contract `c03_TriLibInside` for every region that contains the closed
triangles spanned by the vertices of the polygon -/
theorem c03_triLibInside_of_vertices {α : Type} [Field α] [LinearOrder α] [IsStrictOrderedRing α]
    (trLib : List (α × α) → List (Nat × Nat) → String → Option (TrData α))
    (hv : ∀ c segs flag d, trLib c segs flag = some d → ∀ v ∈ d.vertices, v ∈ c)
    (inside : List (α × α) → α → α → Prop)
    (hin : ∀ (c : List (α × α)) (p q r : α × α), p ∈ c → q ∈ c → r ∈ c → ∀ x y : α,
      c03_InTri (triOfRows p q r) x y → inside c x y) : c03_TriLibInside trLib inside := by
  intro c d hd t _ T hT x y hxy
  unfold triAtRows at hT
  split at hT
  · rename_i p q r hp hq hr
    cases hT
    exact hin c p q r (hv _ _ _ _ hd p (List.mem_of_getElem? hp)) (hv _ _ _ _ hd q (List.mem_of_getElem? hq))
      (hv _ _ _ _ hd r (List.mem_of_getElem? hr)) x y hxy
  · cases hT

/-- the contract `c03_TriLibInside` holds, for the hull region, for *every* library behaviour that invents no vertices -/
theorem c03_triLibInside_hull {α : Type} [Field α] [LinearOrder α] [IsStrictOrderedRing α]
    (trLib : List (α × α) → List (Nat × Nat) → String → Option (TrData α))
    (hv : ∀ c segs flag d, trLib c segs flag = some d → ∀ v ∈ d.vertices, v ∈ c) : c03_TriLibInside trLib c03_hull :=
  c03_triLibInside_of_vertices trLib hv _ fun c p q r hp hq hr x y h a b k hall =>
    c03_inTri_halfplane _ x y h a b k (hall p hp) (hall q hq) (hall r hr)

/-- … and so does the contract read in the metre chart around a centre (the form `c03_get_location_offset_inside`
uses): the chart is linear, so it maps the triangles of the library into the hull of the converted vertices -/
theorem c03_triLibInside_hull_metres {α : Type} [Field α] [LinearOrder α] [IsStrictOrderedRing α]
    [HasSqrt α] [HasSin α] [HasCos α] [HasPi α] (clon clat : α)
    (trLib : List (α × α) → List (Nat × Nat) → String → Option (TrData α))
    (hv : ∀ c segs flag d, trLib c segs flag = some d → ∀ v ∈ d.vertices, v ∈ c) :
    c03_TriLibInside trLib (fun c la lo =>
      c03_hull (c.map (fun v => c03_backToMetres clon clat v.1 v.2)) (c03_backToMetres clon clat la lo).1
        (c03_backToMetres clon clat la lo).2) :=
  c03_triLibInside_of_vertices trLib hv _ fun c p q r hp hq hr x y h a b k hall =>
    c03_inTri_halfplane _ _ _ (c03_backToMetres_inTri clon clat _ x y h) a b k
      (hall _ (List.mem_map_of_mem hp)) (hall _ (List.mem_map_of_mem hq)) (hall _ (List.mem_map_of_mem hr))

/-- a library stand-in: one triangle, the first three vertices -/
def c03_trLibOne {α : Type} : List (α × α) → List (Nat × Nat) → String → Option (TrData α) :=
  fun c _ _ => some ⟨c, [(0, 1, 2)]⟩

theorem c03_trLibOne_inside : c03_TriLibInside (c03_trLibOne (α := ℚ)) c03_hull :=
  c03_triLibInside_hull _ (by intro c _ _ d h v hv; cases h; exact hv)

@[reducible] def c03_qSqrt : HasSqrt ℚ := ⟨fun x => x⟩
@[reducible] def c03_qSin : HasSin ℚ := ⟨fun _ => 0⟩
@[reducible] def c03_qCos : HasCos ℚ := ⟨fun _ => 1⟩
@[reducible] def c03_qPi : HasPi ℚ := ⟨3⟩
attribute [local instance] c03_qSqrt c03_qSin c03_qCos c03_qPi

/-- two particles: draws `(u, s, t)` in `[0, 1)` -/
def c03_exDraws : List (ℚ × ℚ × ℚ) := [(1/2, 1/4, 1/4), (9/10, 3/4, 1/2)]

theorem c03_exDraws_ok : ∀ d ∈ c03_exDraws, 0 ≤ d.2.1 ∧ d.2.1 < 1 ∧ 0 ≤ d.2.2 ∧ d.2.2 < 1 := by decide +kernel

/-- `c03_point_exact` has no hypotheses; a run: three particles at `(5, 60)` -/
example : getLocationSeq (φ := Unit) (fun _ => none) (fun _ _ => none) (c03_triCode (c03_trLibOne (α := ℚ))) c03_exDraws
    (.pair (.scalar 5) (.scalar 60)) 3 =
    some (some [("longitude", [.num 5, .num 5, .num 5]), ("latitude", [.num 60, .num 60, .num 60])]) :=
  Bridge.get_location_point _ _ _ _ 5 60 3

/-- `c03_latlon_from_poly_inside`, `c03_get_location_polygon_inside`, `c03_get_location_single_polygon_inside`: the
triangle `lon = [0, 4, 0]`, `lat = [0, 0, 3]`, two particles — the run returns, the draws are in `[0, 1)`, the contract
holds; the conclusion is then available -/
example : ∃ f, getLocationSeq (φ := Unit) (fun _ => none) (fun _ _ => none) (c03_triCode (c03_trLibOne (α := ℚ))) c03_exDraws
      (.pair (.single [0, 4, 0]) (.single [0, 0, 3])) 2 = some (some f) ∧
    ∃ lons lats : List ℚ, f = [("longitude", lons.map Cell.num), ("latitude", lats.map Cell.num)] ∧
      lons.length = 2 ∧ ∀ (j : Nat) (lo la : ℚ), lons[j]? = some lo → lats[j]? = some la →
        c03_hull ([0, 0, 3].zip [0, 4, 0]) la lo := by
  refine (c03_exists_of_isSome _ ?_).elim fun f hf => ⟨f, hf, ?_⟩
  · rw [Bridge.get_location, c03_triCode_eq]
    decide +kernel
  · obtain ⟨lons, lats, h1, h2, _, h4⟩ := c03_get_location_single_polygon_inside _ _ _ c03_hull c03_trLibOne_inside
      c03_exDraws _ _ 2 f c03_exDraws_ok hf
    exact ⟨lons, lats, h1, h2, h4⟩

/-- a multi-polygon (two triangles given as lists of lists) -/
example : (c03_returned (getLocationSeq (φ := Unit) (fun _ => none) (fun _ _ => none) (c03_triCode (c03_trLibOne (α := ℚ))) c03_exDraws
    (.pair (.multi [[0, 4, 0], [10, 12, 10]]) (.multi [[0, 0, 3], [0, 0, 1]])) 2)).isSome = true := by
  rw [Bridge.get_location, c03_triCode_eq]
  decide +kernel

/-- `c03_get_location_offset_inside`: centre `(5, 60)`, offsets in metres; the run returns (flat chart), the conversion
hypotheses hold in the chart used — and for the real functions by `c03_conversion_defined_real` —, the contract in the
metre chart holds for the stand-in library (`c03_triLibInside_hull_metres`) -/
example : c03_TriLibInside (c03_trLibOne (α := ℚ)) (fun c la lo =>
    c03_hull (c.map (fun v => c03_backToMetres 5 60 v.1 v.2)) (c03_backToMetres 5 60 la lo).1 (c03_backToMetres 5 60 la lo).2) :=
  c03_triLibInside_hull_metres 5 60 _ (by intro c _ _ d h v hv; cases h; exact hv)

example : (c03_returned (getLocationSeq (φ := Unit) (fun _ => none) (fun _ _ => none) (c03_triCode (c03_trLibOne (α := ℚ))) c03_exDraws
      (.offset ⟨some (5, 60), (.single [0, 1000, 0], .single [0, 0, 500])⟩) 2)).isSome = true ∧
    (pi : ℚ) ≠ 0 ∧ cos ((60 : ℚ) * pi / 180.0) ≠ 0 ∧
    sqrt ((6378137.0 * sin ((60 : ℚ) * pi / 180.0)) * (6378137.0 * sin ((60 : ℚ) * pi / 180.0)) +
        (6356752.314245 * cos ((60 : ℚ) * pi / 180.0)) * (6356752.314245 * cos ((60 : ℚ) * pi / 180.0))) ≠ 0 := by
  refine ⟨?_, by decide +kernel, by decide +kernel, by decide +kernel⟩
  rw [Bridge.get_location, c03_triCode_eq]
  decide +kernel

/-- GeoJSON: a layer with a Polygon feature and a MultiPolygon feature with different property tables -/
def c03_exUpper : String → String := fun s =>
  if s = "Polygon" then "POLYGON" else if s = "MultiPolygon" then "MULTIPOLYGON" else s

def c03_exLayer : GeoData ℚ := .layer ⟨some [
  ⟨some [("farm", .str "A"), ("weight", .num 2)],
    some ⟨"Polygon", .polygon [[(0, 0), (4, 0), (0, 3), (0, 0)]]⟩⟩,
  ⟨some [("farm", .str "B")],
    some ⟨"MultiPolygon", .multi [[[(10, 0), (12, 0), (10, 1), (10, 0)]], [[(20, 0), (21, 0), (20, 1), (20, 0)]]]⟩⟩]⟩

/-- `c03_get_location_geojson`: the run on a stream returns -/
example : (c03_returned (getLocationSeq (φ := Unit) (fun _ => none)
    (c03_locFileCode (fun _ => some c03_exLayer) c03_exUpper (c03_triCode (c03_trLibOne (α := ℚ))) c03_exDraws)
    (c03_triCode (c03_trLibOne (α := ℚ))) c03_exDraws (.stream ()) 2)).isSome = true := by
  rw [Bridge.get_location, c03_locFileCode_eq, c03_triCode_eq]
  decide +kernel

/-- `c03_convex_sample_in_polygon`: a square, two particles, a stream of six numbers of `[0, 1)` -/
example : (c03_returned (sampleConvexSeq (c03_trLibOne (α := ℚ)) [(0, 0), (1, 0), (1, 1), (0, 1)] 2
      [1/5, 4/5, 1/2, 3/4, 1/4, 7/8])).isSome = true ∧
    ∀ u ∈ ([1/5, 4/5, 1/2, 3/4, 1/4, 7/8] : List ℚ), 0 ≤ u ∧ u < 1 := by
  refine ⟨?_, by decide +kernel⟩
  rw [Bridge.get_polygon_sample_convex]
  decide +kernel

/-- `c17_particle_is_image_of_draws`: two triangles of areas 6 and 2, two particles -/
example : (c03_returned (polygonSampleTrianglesSeq [(⟨0, 0, 0, 4, 3, 0⟩ : Tri ℚ), ⟨0, 0, 2, 0, 0, 2⟩] 2
      [1/5, 4/5, 1/2, 3/4, 1/4, 7/8])).isSome = true := by
  rw [Bridge.get_polygon_sample_triangles]
  decide +kernel

/-- `c17_triangle_choice_interval`: areas 6 and 2, total 8 -/
example : triangleAreasSeq [(⟨0, 0, 0, 4, 3, 0⟩ : Tri ℚ), ⟨0, 0, 2, 0, 0, 2⟩] = some (some [6, 2]) ∧
    (cumsum [(6 : ℚ), 2]).getLast? = some 8 ∧ (0 : ℚ) < 8 := by
  refine ⟨?_, by decide +kernel, by norm_num⟩
  rw [Bridge.triangle_areas]
  decide +kernel

/-- `c17_fan_weights_sum_to_area` has no hypotheses; the orientation condition of its last clause on the unit square -/
example : ∀ T ∈ Bridge.fanTriangles [((0 : ℚ), (0 : ℚ)), (1, 0), (1, 1), (0, 1)], 0 ≤ Bridge.triSignedArea2 T := by
  decide +kernel

/-- `c17_range_attribute_affine`: `[10, 20]`, three particles -/
example : getAttrSeq false (.list [(10 : ℚ), 20]) 3 [1/2, 1/4, 3/4, 1/8] = some (some [15, 25/2, 35/2]) := by
  rw [c17_range_attribute_affine 10 20 false 3 _ (by decide) (by decide)]
  decide +kernel

end examples

section realExamples
open MeasureTheory
attribute [local instance] c03_realPi

/-- `c03_metric_degree_inverse_real` / `c03_conversion_defined_real`: latitude 60 -/
example : (pi : ℝ) ≠ 0 ∧ cos ((60 : ℝ) * pi / 180.0) ≠ 0 :=
  have h := c03_conversion_defined_real 60 (by norm_num) (by norm_num)
  ⟨h.1, h.2.1⟩

/-- `c17_triangle_choice_probability`, `c17_polygon_share_partial`: areas 6 and 2 over `ℝ` -/
example : triangleAreasSeq [(⟨0, 0, 0, 4, 3, 0⟩ : Tri ℝ), ⟨0, 0, 2, 0, 0, 2⟩] = some (some [6, 2]) ∧
    (cumsum [(6 : ℝ), 2]).getLast? = some 8 ∧ (0 : ℝ) < 8 := by
  refine ⟨?_, ?_, by norm_num⟩
  · rw [Bridge.triangle_areas]
    norm_num [triArea, fabs]
  · norm_num [Sample.cumsum, Sample.cumsumFrom]

/-- `c17_point_uniform_in_triangle`: the right triangle with legs 3 and 4 has positive weight (6) -/
example : (0 : ℝ) < Gen.rel_triangle_area (3 - 0) (0 - 0) (0 - 0) (4 - 0) := by
  norm_num [Gen.rel_triangle_area, fabs]

/-- `c17_range_uniform`: `[10, 20)`, `B = [12, 13)` -/
example : volume {u : ℝ | 0 ≤ u ∧ u < 1 ∧ (10 : ℝ) + (20 - 10) * u ∈ Set.Ico (12 : ℝ) 13} =
    volume (Set.Ico (12 : ℝ) 13) / ENNReal.ofReal (20 - 10) :=
  c17_range_uniform 10 20 (by norm_num) _ measurableSet_Ico
    (fun x hx => ⟨by linarith [hx.1], by linarith [hx.2]⟩)

end realExamples

end OnCode
