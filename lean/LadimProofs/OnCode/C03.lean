import LadimProofs.C03
import LadimProofs.Bridge.Release
/-!
# C03 / C17 — property theorems stated for the generated code

`Gen.rel_bary` is the barycentric sampling map of `get_polygon_sample_triangles`, `Gen.rel_triangle_area` the area
formula of `triangle_areas`, both translated from /repo's current source on every run.
-/
open Ladim

set_option linter.unusedSectionVars false
set_option linter.unusedVariables false
namespace OnCode
variable {α : Type} [Field α] [LinearOrder α] [IsStrictOrderedRing α]

/-- every sampled position lies on the inner side of every line that has the three vertices on its inner side:
inside the (closed) triangle, whatever its orientation, for all folded draws `s, t ≥ 0`, `s + t ≤ 1` -/
theorem sample_in_halfplanes (x1 x2 x3 y1 y2 y3 s t a b c : α) (hs : 0 ≤ s) (ht : 0 ≤ t) (hst : s + t ≤ 1)
    (h1 : a * x1 + b * y1 ≤ c) (h2 : a * x2 + b * y2 ≤ c) (h3 : a * x3 + b * y3 ≤ c) :
    a * (Gen.rel_bary x1 x2 x3 y1 y2 y3 s t).1 + b * (Gen.rel_bary x1 x2 x3 y1 y2 y3 s t).2 ≤ c := by
  rw [← Bridge.rel_bary]
  exact C03.sample_in_halfplanes ⟨x1, y1, x2, y2, x3, y3⟩ s t a b c hs ht hst h1 h2 h3

/-- the triangle weights are non-negative and do not depend on the order of the second and third vertex -/
theorem triangle_area (T : Sample.Tri α) :
    0 ≤ Gen.rel_triangle_area (T.x2 - T.x1) (T.y2 - T.y1) (T.x3 - T.x1) (T.y3 - T.y1) ∧
    Gen.rel_triangle_area (T.x3 - T.x1) (T.y3 - T.y1) (T.x2 - T.x1) (T.y2 - T.y1) =
      Gen.rel_triangle_area (T.x2 - T.x1) (T.y2 - T.y1) (T.x3 - T.x1) (T.y3 - T.y1) := by
  simp only [← Bridge.rel_triangle_area]
  exact ⟨C03.triArea_nonneg T, C03.triArea_swap T⟩

end OnCode
