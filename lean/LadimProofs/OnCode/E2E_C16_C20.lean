import LadimProofs.C16
import LadimProofs.C20
import LadimProofs.OnCode.C16
import LadimProofs.OnCode.C20
import LadimProofs.Bridge.BioSeq
import LadimProofs.Bridge.Band
import LadimProofs.Bridge.BioCtorSeq
import LadimProofs.Bridge.DevelopSeq
import LadimProofs.Bridge.Swim
import LadimProofs.Bridge.Mixing
import LadimProofs.Bridge.ChemSeq
import LadimProofs.Bridge.SedimentSeq
import LadimProofs.Bridge.SedFactorySeq
import Mathlib.Probability.Distributions.Gaussian.Real
import Mathlib.Analysis.SpecialFunctions.Integrals.Basic

/-!
# C16 and C20 — end-to-end theorems about the INTERPRETATION OF THE CURRENT SOURCE

Every theorem `OnCode.c16_*` / `OnCode.c20_*` of this file has in its statement the interpretation of a generated
statement sequence (`calcDensityRun … Gen.eos_calc_density_seq`, `eggRun` = the run of `Gen.egg_update_seq`,
`liceRun`, `larvaeRun`, `shrimpDielRun`, `Seq.runChemDiffuseConst Gen.chem_diffuse_const_seq`, …) or a generated
formula (`Gen.*`), never a hand-written model function; the bridges (`LadimProofs/Bridge/*`) and the model theorems
(`LadimProofs/C16.lean`, `C20.lean`, `C20Measure.lean`, `OnCode/C20.lean`) are used as lemmas only.

## Property C16 — Buoyancy, swimming and light/density formulas are right-signed and consistent
STATEMENT: Eggs lighter than the surrounding water rise and denser eggs sink, with a speed that is an odd, non-decreasing function of the density difference and zero at neutral buoyancy; larvae swim down when the light at their depth, attenuated with the configured extinction coefficient, exceeds their preference and up otherwise, salmon lice swim up in light and down in water fresher than their tolerance, and shrimp move toward their preferred day or night depth. Surface light is finite everywhere, stays within [1.15e-5, 1505.76] umol photons per m2 per s, is continuous across its day / twilight / night bands and decays with depth as exp(-k x depth), and seawater density reproduces the EOS-80 check values and increases with salinity. The independent copies of these formulas in different modules (egg vs. larvae sinking speed, density and viscosity, surface light and sun height) give the same values.
QUANTIFIER: all temperatures (-2..40 C), salinities (0..42), egg buoyancies and diameters in the oceanic range, all values of the documented behavioural parameters (extinction coefficient, preferred light, swim speed, depth limits, species defaults and their overrides), all light levels, all depths relative to the preferred depth, all dates of the year and hours, longitudes in [-180,180], latitudes in (-90,90), depths >= 0 and extinction coefficients >= 0

## Property C20 — Vertical random walks keep a well-mixed tracer well-mixed (variance 2 K dt)
STATEMENT: For a tracer that is uniformly distributed over the water column, vertical mixing steps leave the expected concentration uniform - no artificial accumulation at the surface, at the bed or where the diffusivity changes - exactly so for constant diffusivity with reflecting boundaries, and within the scheme's accuracy for depth-varying diffusivity whenever the (sub-)step satisfies the module's own stability criterion. Away from boundaries the variance of the displacement added by one step of length dt is 2 x K x dt.
QUANTIFIER: uniformity: all constant diffusivities and depths with step smaller than the depth for the schemes with two reflecting boundaries (chemicals, sedimentation constant mixing, sand eel, eel); smooth, linear and discontinuous diffusivity profiles, sub-step lengths, sampling distances and caps for the chemicals LaBolle scheme and the sedimentation solver. Variance: additionally mine, egg, lice and shrimp for interior particles. All seeds; decided statistically on >= 10^5 particles with a fixed very small false-alarm probability (exact constant-diffusivity case) or the repository's own 10-bin criterion with margin (depth-varying case, only inside the stability bound)

## Conventions
* Depth `Z` is positive downwards: a NEGATIVE vertical velocity is UPWARD motion ("rise"), a positive one "sink".
* Results of runs: `none` = a statement text is not a known one (tie with the source broken), `some none` = the code
  raises, `some (some v)` = the code finishes with `v`.  Every theorem below asserts `some (some _)`.
* The scalar type `α` is an arbitrary linear ordered field with arbitrary functions `sqrt`, `exp`, `rpow`, `narrow`, …
  Where a clause needs a law of such a function it is a hypothesis bundle of `LadimProofs/Laws.lean` (`SqrtLaws`,
  `ExpLaws`, `RpowLaws`: all proved for `ℝ` there, `RealInst.*`) or an explicit hypothesis (monotone `narrow` with
  `narrow 0 = 0`; `rpow a 0.5 * rpow a 0.5 = a`).  These are laws of the arithmetic, not of the configuration.
* Each main theorem is followed by an `example` on `ℝ` that discharges all its hypotheses on concrete values.
* Helper lemmas carry the same prefixes (`c16_…`, `c20_…`) so that nothing in this file can clash with another file
  of the namespace.
-/

open Ladim Ladim.BioSeq Ladim.BioCtorSeq Ladim.DevSeq
open MeasureTheory Set ProbabilityTheory

set_option linter.unusedSectionVars false
set_option linter.unusedVariables false
set_option linter.unusedSimpArgs false
set_option linter.auxLemma false
namespace OnCode

/-! instances, used ONLY by the `example`s, for the non-field operations on `ℝ` that `LadimProofs/Laws.lean` does
not provide (`sqrt`, `exp`, `log`, `sin`, `cos`, `rpow` on `ℝ` are the instances of `Laws.lean`) -/
noncomputable local instance e2eC16C20_HasAsinReal : HasAsin ℝ := ⟨Real.arcsin⟩
noncomputable local instance e2eC16C20_HasPiReal : HasPi ℝ := ⟨Real.pi⟩
local instance e2eC16C20_HasNarrowReal : HasNarrow ℝ := ⟨id⟩
noncomputable local instance e2eC16C20_HasFloorReal : HasFloor ℝ := ⟨fun x => (⌊x⌋ : ℝ)⟩
noncomputable local instance e2eC16C20_HasRoundReal : HasRound ℝ := ⟨fun x => (round x : ℝ)⟩
noncomputable local instance e2eC16C20_HasTruncReal : HasTrunc ℝ := ⟨fun x => ⌊x⌋⟩

section c16
variable {α : Type} [Field α] [LinearOrder α] [IsStrictOrderedRing α]
  [HasSqrt α] [HasExp α] [HasLog α] [HasSin α] [HasCos α] [HasAsin α] [HasRpow α] [HasPi α] [HasNarrow α]
  [HasFloor α] [HasRound α]

/-! ## C16 (1) seawater density -/

/-- **C16 (density: finite, copies agree).**  The interpreted `calc_density` of `utils/eos.py` and its copy in
`egg/ibm.py` finish for every temperature and salinity with the same value, the generated EOS-80 polynomial. -/
theorem c16_density_never_raises (temp salt : α) :
    calcDensityRun temp salt Gen.eos_calc_density_seq = some (some (Gen.eos_density temp salt)) ∧
    calcDensityRun temp salt Gen.egg_calc_density_seq = some (some (Gen.eos_density temp salt)) := by
  refine ⟨Bridge.eos_calc_density_seq temp salt, ?_⟩
  rw [Bridge.egg_calc_density_seq, C16.density_copies_equal]

/-- **C16 (density increases with salinity)**, on both interpreted copies of `calc_density`: for every temperature in
`[-2, 40]` and salinities `0 ≤ S₁ < S₂ ≤ 42`.  Hypotheses: exactly the quantifier of the property; `hS`: `sqrt` is a
square root (`salt ** (1/2)` in the source). -/
theorem c16_density_increases_with_salinity (hS : SqrtLaws α) (temp s₁ s₂ : α)
    (ht0 : -2 ≤ temp) (ht1 : temp ≤ 40) (h0 : 0 ≤ s₁) (h12 : s₁ < s₂) (h2 : s₂ ≤ 42) :
    ∃ ρ₁ ρ₂ : α,
      calcDensityRun temp s₁ Gen.eos_calc_density_seq = some (some ρ₁) ∧
      calcDensityRun temp s₂ Gen.eos_calc_density_seq = some (some ρ₂) ∧
      calcDensityRun temp s₁ Gen.egg_calc_density_seq = some (some ρ₁) ∧
      calcDensityRun temp s₂ Gen.egg_calc_density_seq = some (some ρ₂) ∧ ρ₁ < ρ₂ :=
  ⟨_, _, (c16_density_never_raises temp s₁).1, (c16_density_never_raises temp s₂).1,
    (c16_density_never_raises temp s₁).2, (c16_density_never_raises temp s₂).2,
    C16.density_increases_with_salinity hS temp s₁ s₂ ht0 ht1 h0 h12 h2⟩

example := c16_density_increases_with_salinity (α := ℝ) RealInst.sqrtLaws 5 30 35
  (by norm_num) (by norm_num) (by norm_num) (by norm_num) (by norm_num)

/-- **C16 (EOS-80 check values)** on the interpreted `calc_density`: `ρ(S=0, T68=5) = 999.96675`,
`ρ(35, 5) = 1027.67547`, `ρ(35, 25) = 1023.34306` to `10⁻⁵` (UNESCO 1983; the function converts its input with
`T68 = 1.00024·T`, so the IPTS-68 table temperatures are attained at `T = T68 / 1.00024`). -/
theorem c16_density_check_values (hS : SqrtLaws α) :
    ∃ ρ₁ ρ₂ ρ₃ : α,
      calcDensityRun (5 / 1.00024 : α) 0 Gen.eos_calc_density_seq = some (some ρ₁) ∧
      calcDensityRun (5 / 1.00024 : α) 35 Gen.eos_calc_density_seq = some (some ρ₂) ∧
      calcDensityRun (25 / 1.00024 : α) 35 Gen.eos_calc_density_seq = some (some ρ₃) ∧
      |ρ₁ - 999.96675| < 1e-5 ∧ |ρ₂ - 1027.67547| < 1e-5 ∧ |ρ₃ - 1023.34306| < 1e-5 := by
  obtain ⟨a, b, c⟩ := C16.density_check_values (α := α) hS
  exact ⟨_, _, _, (c16_density_never_raises _ _).1, (c16_density_never_raises _ _).1,
    (c16_density_never_raises _ _).1, a, b, c⟩

example := c16_density_check_values (α := ℝ) RealInst.sqrtLaws

/-! ## C16 (2) egg buoyancy on the interpreted egg `update` -/

/-- the velocity expression of `egg/ibm.py :: update` in terms of the two densities and the viscosity -/
theorem c16_egg_velocity_form (temp salt buoy d : α) :
    Gen.egg_velocity temp salt buoy d =
      (let dw := Gen.egg_density temp salt;
       let de := Gen.egg_density temp buoy;
       let m := Gen.egg_my_w temp salt;
       let dmax := rpow (9.0 * m * m / (1025.0 * 9.81 * fabs (dw - de))) (1.0 / 3.0);
       let W := (if d ≤ dmax then 1.0 / 18.0 * (1.0 / m) * 9.81 * (d * d) * fabs (dw - de)
          else 0.08825 * (d - 0.4 * dmax) * rpow (fabs (dw - de)) (2.0 / 3.0) * rpow m (-1.0 / 3.0));
       (-W) * fsign (dw - de)) := by
  unfold Gen.egg_velocity Gen.egg_my_w
  simp only [decide_eq_true_eq]

theorem c16_my_w_pos (temp salt : α) (hs : 0 ≤ salt) : 0 < Gen.egg_my_w temp salt := by
  unfold Gen.egg_my_w
  simp only []
  -- `269/7 = 0.0538 / (2 · 0.0007)` is the vertex of the parabola in `temp`
  linarith [mul_self_nonneg (temp - 269 / 7)]

theorem c16_fabs_mul_fsign (x : α) : fabs x * fsign x = x := by
  rw [fabs_eq_abs]
  rcases lt_trichotomy x 0 with h | h | h
  · rw [abs_of_neg h, fsign_of_neg h, neg_mul_neg, mul_one]
  · rw [h, fsign_zero, mul_zero]
  · rw [abs_of_pos h, fsign_of_pos h, mul_one]

/-- sign of the vertical velocity computed by `egg/ibm.py :: update`: it is `-W · sign(ρ_water - ρ_egg)` with an
unsigned speed `W` that is positive whenever the densities differ -/
theorem c16_egg_velocity_sign (hR : RpowLaws α) (temp salt buoy d : α) (hs : 0 ≤ salt) (hd : 0 < d) :
    (Gen.egg_density temp buoy < Gen.egg_density temp salt → Gen.egg_velocity temp salt buoy d < 0) ∧
    (Gen.egg_density temp salt < Gen.egg_density temp buoy → 0 < Gen.egg_velocity temp salt buoy d) ∧
    (Gen.egg_density temp salt = Gen.egg_density temp buoy → Gen.egg_velocity temp salt buoy d = 0) := by
  rw [c16_egg_velocity_form]
  simp only []
  refine and_assoc.1 ⟨C16.mul_fsign_sub_sign fun hne => neg_neg_of_pos ?_, fun h => ?_⟩
  · have ha : 0 < fabs (Gen.egg_density temp salt - Gen.egg_density temp buoy) := by
      rw [fabs_eq_abs]; exact abs_pos.mpr (sub_ne_zero.mpr hne)
    have hm := c16_my_w_pos temp salt hs
    split_ifs with hb
    · positivity
    · have h1 := hR.rpow_pos _ (2.0 / 3.0) ha
      have h2 := hR.rpow_pos _ (-1.0 / 3.0) hm
      have h4 := sub_pos.2 ((mul_le_of_le_one_left (a := (0.4 : α)) (hR.rpow_nonneg _ _ (by positivity))
        (by norm_num)).trans_lt (not_le.mp hb))
      positivity
  · rw [h, sub_self, fsign_zero, mul_zero]

/-- the interpreted `update` of the egg IBM on one particle: it finishes, and the new depth is the generated position
window `Gen.egg_Z` applied to the generated velocity (plus the random velocity iff `self.vertical_diffusion`) -/
theorem c16_egg_update_core (e : EggEnv α) (x y z age buoy xi : α) (rest : List α) :
    ∃ s, eggRun e x y z age buoy (xi :: rest) = some (some s) ∧
      s.z = Gen.egg_Z z (if e.vertDiff
          then Gen.egg_velocity (e.temp x y z) (e.salt x y z) buoy e.eggDiam + xi * rpow (2.0 * e.D / e.dt) 0.5
          else Gen.egg_velocity (e.temp x y z) (e.salt x y z) buoy e.eggDiam) e.dt := by
  obtain ⟨s, hs, hv⟩ := Bridge.of_map_view_some (Bridge.egg_update_seq e x y z age buoy xi rest)
  refine ⟨s, hs, ?_⟩
  rw [(Prod.mk.inj hv).1, Bridge.egg_update_z]
  cases e.vertDiff <;> rfl

/-- inside `[0, cap)` neither the surface mirror nor the cap changes the depth -/
theorem c16_mirrorCap_plain (cap capm1 w : α) (h0 : 0 ≤ w) (h1 : w < cap) : Bio.mirrorCap cap capm1 w = w := by
  simp only [Bio.mirrorCap, lit_0, if_neg (not_lt.mpr h0), if_neg (not_le.mpr h1)]

theorem c16_egg_Z_plain (z W dt w : α) (hw : z + W * dt = w) (h0 : 0 ≤ w) (h1 : w < 200) : Gen.egg_Z z W dt = w := by
  rw [← Bridge.egg_Z, hw]
  exact c16_mirrorCap_plain _ _ _ h0 (h1.trans_eq (by norm_num))

/-- **C16 (eggs lighter than the surrounding water rise)** on the interpreted `update` of the egg IBM
(`Gen.egg_update_seq`, one particle, forcing read at the old position).  An egg whose neutral-buoyancy salinity `buoy`
is below the ambient salinity is lighter than the water (composition with "density increases with salinity"); the
run finishes, its buoyancy velocity `W` is negative (upward), the new depth is the generated position window
`Gen.egg_Z` of `W` (plus the random velocity iff `self.vertical_diffusion`), and without mixing the egg ends strictly
above its old depth unless it would cross the surface (where it is mirrored).
Hypotheses: the property's ranges (`T ∈ [-2,40]`, `0 ≤ buoy < S ≤ 42`), positive diameter and time step; `hS`, `hR`:
laws of `sqrt` / `**`.  Forced by the bridge: the supply of random numbers is non-empty (`xi :: rest`; the number is
only consumed when `self.vertical_diffusion`). -/
theorem c16_egg_update_buoyant_rises (hS : SqrtLaws α) (hR : RpowLaws α) (e : EggEnv α) (x y z age buoy xi : α)
    (rest : List α) (hd : 0 < e.eggDiam) (hdt : 0 < e.dt)
    (ht0 : -2 ≤ e.temp x y z) (ht1 : e.temp x y z ≤ 40)
    (hb0 : 0 ≤ buoy) (hbs : buoy < e.salt x y z) (hs1 : e.salt x y z ≤ 42) :
    ∃ s W, eggRun e x y z age buoy (xi :: rest) = some (some s) ∧ W < 0 ∧
      s.z = Gen.egg_Z z (if e.vertDiff then W + xi * rpow (2.0 * e.D / e.dt) 0.5 else W) e.dt ∧
      (e.vertDiff = false → 0 ≤ z + W * e.dt → z < 200 → s.z < z) := by
  obtain ⟨s, hs, hz⟩ := c16_egg_update_core e x y z age buoy xi rest
  have hdens := C16.density_increases_with_salinity hS (e.temp x y z) buoy (e.salt x y z) ht0 ht1 hb0 hbs hs1
  rw [C16.density_copies_equal, C16.density_copies_equal] at hdens
  have hW := (c16_egg_velocity_sign hR (e.temp x y z) (e.salt x y z) buoy e.eggDiam (by linarith) hd).1 hdens
  refine ⟨s, _, hs, hW, hz, fun hv h0 h200 => ?_⟩
  rw [hz, hv]
  simp only [Bool.false_eq_true, if_false]
  have : Gen.egg_velocity (e.temp x y z) (e.salt x y z) buoy e.eggDiam * e.dt < 0 := mul_neg_of_neg_of_pos hW hdt
  rw [c16_egg_Z_plain _ _ _ _ rfl h0 ((add_lt_of_neg_right z this).trans h200)]
  exact add_lt_of_neg_right z this

/-- a 1.4 mm egg of neutral-buoyancy salinity 32 in water of 5 °C and salinity 34, no mixing -/
noncomputable def c16_exEgg (vd : Bool) : EggEnv ℝ := ⟨0.01, 600, 0.0014, vd, fun _ _ _ => 5, fun _ _ _ => 34⟩
example := c16_egg_update_buoyant_rises RealInst.sqrtLaws RealInst.rpowLaws (c16_exEgg false) 0 0 10 0 32 0 []
  (by norm_num [c16_exEgg]) (by norm_num [c16_exEgg]) (by norm_num [c16_exEgg]) (by norm_num [c16_exEgg]) (by norm_num)
  (by norm_num [c16_exEgg]) (by norm_num [c16_exEgg])

/-- **C16 (denser eggs sink)** on the interpreted egg `update`: `S < buoy ≤ 42` gives a positive (downward) velocity,
and without mixing the egg ends strictly below its old depth as long as it stays above the 200 m cap. -/
theorem c16_egg_update_dense_sinks (hS : SqrtLaws α) (hR : RpowLaws α) (e : EggEnv α) (x y z age buoy xi : α)
    (rest : List α) (hd : 0 < e.eggDiam) (hdt : 0 < e.dt)
    (ht0 : -2 ≤ e.temp x y z) (ht1 : e.temp x y z ≤ 40)
    (hs0 : 0 ≤ e.salt x y z) (hsb : e.salt x y z < buoy) (hb1 : buoy ≤ 42) :
    ∃ s W, eggRun e x y z age buoy (xi :: rest) = some (some s) ∧ 0 < W ∧
      s.z = Gen.egg_Z z (if e.vertDiff then W + xi * rpow (2.0 * e.D / e.dt) 0.5 else W) e.dt ∧
      (e.vertDiff = false → 0 ≤ z → z + W * e.dt < 200 → z < s.z) := by
  obtain ⟨s, hs, hz⟩ := c16_egg_update_core e x y z age buoy xi rest
  have hdens := C16.density_increases_with_salinity hS (e.temp x y z) (e.salt x y z) buoy ht0 ht1 hs0 hsb hb1
  rw [C16.density_copies_equal, C16.density_copies_equal] at hdens
  have hW := (c16_egg_velocity_sign hR (e.temp x y z) (e.salt x y z) buoy e.eggDiam hs0 hd).2.1 hdens
  refine ⟨s, _, hs, hW, hz, fun hv h0 h200 => ?_⟩
  rw [hz, hv]
  simp only [Bool.false_eq_true, if_false]
  have : 0 < Gen.egg_velocity (e.temp x y z) (e.salt x y z) buoy e.eggDiam * e.dt := mul_pos hW hdt
  rw [c16_egg_Z_plain _ _ _ _ rfl (add_nonneg h0 this.le) h200]
  exact lt_add_of_pos_right z this

example := c16_egg_update_dense_sinks RealInst.sqrtLaws RealInst.rpowLaws (c16_exEgg false) 0 0 10 0 36 0 []
  (by norm_num [c16_exEgg]) (by norm_num [c16_exEgg]) (by norm_num [c16_exEgg]) (by norm_num [c16_exEgg]) (by norm_num [c16_exEgg])
  (by norm_num [c16_exEgg]) (by norm_num)

/-- **C16 (zero at neutral buoyancy)** on the interpreted egg `update`: for `buoy` equal to the ambient salinity the
velocity is `0` (over a field `x / 0 = 0`; in IEEE arithmetic `dmax = inf` selects the Stokes branch, `0` as well) and
an egg in `[0, 200)` is not moved (no mixing). -/
theorem c16_egg_update_neutral_stays (e : EggEnv α) (x y z age xi : α) (rest : List α)
    (hv : e.vertDiff = false) (h0 : 0 ≤ z) (h200 : z < 200) :
    Gen.egg_velocity (e.temp x y z) (e.salt x y z) (e.salt x y z) e.eggDiam = 0 ∧
    ∃ s, eggRun e x y z age (e.salt x y z) (xi :: rest) = some (some s) ∧ s.z = z := by
  have hW : Gen.egg_velocity (e.temp x y z) (e.salt x y z) (e.salt x y z) e.eggDiam = 0 := by
    rw [c16_egg_velocity_form]
    simp only [sub_self, fsign_zero, mul_zero]
  obtain ⟨s, hs, hz⟩ := c16_egg_update_core e x y z age (e.salt x y z) xi rest
  refine ⟨hW, s, hs, ?_⟩
  rw [hz, hv]
  simp only [Bool.false_eq_true, if_false, hW]
  exact c16_egg_Z_plain _ _ _ _ (by rw [zero_mul, add_zero]) h0 h200

example := c16_egg_update_neutral_stays (c16_exEgg false) 0 0 10 0 0 [] rfl (by norm_num) (by norm_num)

/-! ## C16 (3) the larvae module's `sinkvel_egg`; consistency of the copies -/

/-- **C16 (odd function of the density difference)** on the interpreted `sinkvel_egg` of the larvae module:
exchanging the two densities negates the result and changes nothing else. -/
theorem c16_sinkvel_seq_odd (mu a b d : α) :
    larvaeSinkvelRun mu a b d Gen.larvae_sinkvel_egg_seq
      = (larvaeSinkvelRun mu b a d Gen.larvae_sinkvel_egg_seq).map (Option.map fun w => -w) := by
  rw [Bridge.larvae_sinkvel_egg_seq, Bridge.larvae_sinkvel_egg_seq, C16.sink_speed_odd mu a b d]
  rfl

/-- **C16 (zero at neutral buoyancy)** on the interpreted `sinkvel_egg`. -/
theorem c16_sinkvel_seq_zero_at_neutral (mu a d : α) :
    larvaeSinkvelRun mu a a d Gen.larvae_sinkvel_egg_seq = some (some 0) := by
  rw [Bridge.larvae_sinkvel_egg_seq, C16.sink_speed_zero_at_neutral]

/-- **C16 (right sign)** on the interpreted `sinkvel_egg`, both branches (Stokes and Dallavalle): lighter eggs get a
negative (upward) velocity, denser eggs a positive one.  Hypotheses: positive viscosity and diameter; `hR`: powers of
positive numbers are positive. -/
theorem c16_sinkvel_seq_sign (hR : RpowLaws α) (mu dw de d : α) (hmu : 0 < mu) (hd : 0 < d) :
    ∃ W, larvaeSinkvelRun mu dw de d Gen.larvae_sinkvel_egg_seq = some (some W) ∧
      (de < dw → W < 0) ∧ (dw < de → 0 < W) ∧ (de = dw → W = 0) := by
  refine ⟨_, Bridge.larvae_sinkvel_egg_seq mu dw de d, ?_⟩
  have h3 : de = dw → Gen.larvae_sinkvel_egg mu dw de d = 0 := fun h => by
    rw [h]; exact C16.sink_speed_zero_at_neutral mu dw d
  by_cases hbr : d ≤ rpow ((9.0 * mu * mu) / (1025.0 * 9.81 * (fabs (dw - de) + 1.0e-16))) (1.0 / 3.0)
  · obtain ⟨h1, h2⟩ := C16.sink_speed_sign_stokes mu dw de d hmu hd hbr
    exact ⟨h1, h2, h3⟩
  · have : 0 ≤ fabs (dw - de) := fabs_eq_abs (dw - de) ▸ abs_nonneg _
    obtain ⟨h1, h2⟩ := C16.sink_speed_sign_dallavalle hR mu dw de d hmu hbr (hR.rpow_nonneg _ _ (by positivity))
    exact ⟨h1, h2, h3⟩

example := c16_sinkvel_seq_sign (α := ℝ) RealInst.rpowLaws 0.0015 1027 1026 0.0014 (by norm_num) (by norm_num)

/-- **C16 (non-decreasing in the density difference) — PARTIAL**: shown inside the Stokes regime (both eggs below the
maximal Stokes diameter `dmax`, hypotheses `hb1`, `hb2`), where the speed is linear in the density difference.
MISSING: the Dallavalle branch and the switch between the branches — they need monotonicity / continuity laws of `**`
(`dmax` itself depends on the density difference), which no existing lemma provides. -/
theorem c16_sinkvel_seq_monotone_stokes_partial (mu dw de₁ de₂ d : α) (hmu : 0 < mu)
    (hb1 : d ≤ rpow ((9.0 * mu * mu) / (1025.0 * 9.81 * (fabs (dw - de₁) + 1.0e-16))) (1.0 / 3.0))
    (hb2 : d ≤ rpow ((9.0 * mu * mu) / (1025.0 * 9.81 * (fabs (dw - de₂) + 1.0e-16))) (1.0 / 3.0))
    (h12 : de₁ - dw ≤ de₂ - dw) :
    ∃ W₁ W₂, larvaeSinkvelRun mu dw de₁ d Gen.larvae_sinkvel_egg_seq = some (some W₁) ∧
      larvaeSinkvelRun mu dw de₂ d Gen.larvae_sinkvel_egg_seq = some (some W₂) ∧ W₁ ≤ W₂ := by
  refine ⟨_, _, Bridge.larvae_sinkvel_egg_seq mu dw de₁ d, Bridge.larvae_sinkvel_egg_seq mu dw de₂ d, ?_⟩
  rw [C16.sink_speed_stokes mu dw de₁ d hb1, C16.sink_speed_stokes mu dw de₂ d hb2]
  have hk : 0 ≤ 9.81 * (d * d) / (18 * mu) := by
    have := mul_self_nonneg d
    positivity
  exact mul_le_mul_of_nonpos_left (sub_le_sub_left ((sub_le_sub_iff_right dw).1 h12) dw) (neg_nonpos.2 hk)

/-- cube-root bound used to place a concrete egg in the Stokes regime -/
theorem c16_ex_cuberoot (d x : ℝ) (hd : 0 ≤ d) (h : d ^ 3 ≤ x) : d ≤ rpow x (1.0 / 3.0) := by
  have e : (1.0 / 3.0 : ℝ) = 1 / 3 := by norm_num
  show d ≤ x ^ (1.0 / 3.0 : ℝ)
  rw [e]
  calc d = (d ^ 3) ^ ((1 : ℝ) / 3) := by
        rw [← Real.rpow_natCast, ← Real.rpow_mul hd]; norm_num
    _ ≤ x ^ ((1 : ℝ) / 3) := Real.rpow_le_rpow (by positivity) h (by norm_num)

example := c16_sinkvel_seq_monotone_stokes_partial (α := ℝ) 0.0015 1027 1026 1026.5 0.0005 (by norm_num)
  (by apply c16_ex_cuberoot _ _ (by norm_num); norm_num [fabs])
  (by apply c16_ex_cuberoot _ _ (by norm_num); norm_num [fabs])
  (by norm_num)

/-- the locals of the interpreted egg `update` when it finishes (no mixing): velocity, viscosity, the two densities.
The run is stepped through statement by statement, as in `Bridge.egg_run`. -/
theorem c16_egg_run_locals (D dt diam : α) (ft fs : α → α → α → α) (x y z age buoy : α) (rest : List α) :
    (eggRun ⟨D, dt, diam, false, ft, fs⟩ x y z age buoy rest).map
        (Option.map fun s => (s.W, s.myW, s.densWater, s.densEgg))
      = some (some (some (Gen.egg_velocity (ft x y z) (fs x y z) buoy diam), some (Gen.egg_my_w (ft x y z) (fs x y z)),
          some (Gen.egg_density (ft x y z) (fs x y z)), some (Gen.egg_density (ft x y z) buoy))) := by
  delta eggRun Gen.egg_update_seq EggSt.init
  iterate 12 rw [Bridge.Run.runProc_assign (by
    intro s; delta eggStep eggStep.match_1
    simp only [String.reduceEq, ↓reduceDIte]; rfl) rfl (by rfl)]
  iterate 2 rw [Bridge.Run.runProc_skip_one rfl (by
    delta eggStep eggStep.match_1; simp only [String.reduceEq, ↓reduceDIte]; rfl)]
  iterate 4 rw [Bridge.Run.runProc_assign (by
    intro s; delta eggStep eggStep.match_1
    simp only [String.reduceEq, ↓reduceDIte]; rfl) rfl (by rfl)]
  rfl

/-- Stokes regime of both copies: the egg IBM's velocity is the larvae module's `sinkvel_egg` -/
theorem c16_egg_velocity_eq_sinkvel_stokes (temp salt buoy d : α)
    (h1 : d ≤ rpow (9.0 * Gen.egg_my_w temp salt * Gen.egg_my_w temp salt
      / (1025.0 * 9.81 * fabs (Gen.egg_density temp salt - Gen.egg_density temp buoy))) (1.0 / 3.0))
    (h2 : d ≤ rpow (9.0 * Gen.egg_my_w temp salt * Gen.egg_my_w temp salt
      / (1025.0 * 9.81 * (fabs (Gen.egg_density temp salt - Gen.egg_density temp buoy) + 1.0e-16))) (1.0 / 3.0)) :
    Gen.larvae_sinkvel_egg (Gen.egg_my_w temp salt) (Gen.egg_density temp salt) (Gen.egg_density temp buoy) d
      = Gen.egg_velocity temp salt buoy d := by
  rw [C16.sink_speed_stokes _ _ _ _ h2, c16_egg_velocity_form]
  simp only [h1, if_true]
  have := c16_fabs_mul_fsign (Gen.egg_density temp salt - Gen.egg_density temp buoy)
  set A := fabs (Gen.egg_density temp salt - Gen.egg_density temp buoy)
  set S := fsign (Gen.egg_density temp salt - Gen.egg_density temp buoy)
  rw [← this]
  lits
  ring

/-- **C16 (the independent copies give the same values)**, stated on the locals of the interpreted egg `update`
(no mixing) against the interpreted library functions: the inlined viscosity `my_w` is `utils.eos.viscosity`, the two
densities are `utils.eos.calc_density` (and the egg module's own `calc_density` is the same), and the egg IBM's
velocity `W` is the larvae module's `sinkvel_egg` of these values.
The last clause is PARTIAL: only when the diameter is in the Stokes regime of BOTH copies.  The copies are NOT
identical on the Dallavalle branch: the larvae module regularises `dmax` with `+ 1e-16` in the denominator, the egg
module does not (a real difference of the source, numerically negligible). -/
theorem c16_copies_agree (D dt diam : α) (ft fs : α → α → α → α) (x y z age buoy : α) (rest : List α) :
    ∃ s, eggRun ⟨D, dt, diam, false, ft, fs⟩ x y z age buoy rest = some (some s) ∧
      viscosityRun (ft x y z) (fs x y z) Gen.eos_viscosity_seq = some s.myW ∧
      calcDensityRun (ft x y z) (fs x y z) Gen.eos_calc_density_seq = some s.densWater ∧
      calcDensityRun (ft x y z) buoy Gen.eos_calc_density_seq = some s.densEgg ∧
      calcDensityRun (ft x y z) (fs x y z) Gen.egg_calc_density_seq = some s.densWater ∧
      (∀ mu dw de, s.myW = some mu → s.densWater = some dw → s.densEgg = some de →
        diam ≤ rpow (9.0 * mu * mu / (1025.0 * 9.81 * fabs (dw - de))) (1.0 / 3.0) →
        diam ≤ rpow (9.0 * mu * mu / (1025.0 * 9.81 * (fabs (dw - de) + 1.0e-16))) (1.0 / 3.0) →
        larvaeSinkvelRun mu dw de diam Gen.larvae_sinkvel_egg_seq = some s.W) := by
  obtain ⟨s, hs, hv⟩ := Bridge.of_map_view_some (c16_egg_run_locals D dt diam ft fs x y z age buoy rest)
  obtain ⟨hW, hm, hdw, hde⟩ : s.W = _ ∧ s.myW = _ ∧ s.densWater = _ ∧ s.densEgg = _ := by
    simpa only [Prod.mk.injEq] using hv
  refine ⟨s, hs, ?_, ?_, ?_, ?_, ?_⟩
  · rw [Bridge.eos_viscosity_seq, hm, C16.viscosity_generated_copies_equal]
  · rw [Bridge.eos_calc_density_seq, hdw, C16.density_copies_equal]
  · rw [Bridge.eos_calc_density_seq, hde, C16.density_copies_equal]
  · rw [Bridge.egg_calc_density_seq, hdw]
  · intro mu dw de h1 h2 h3 hb1 hb2
    rw [hm] at h1; rw [hdw] at h2; rw [hde] at h3
    cases h1; cases h2; cases h3
    rw [Bridge.larvae_sinkvel_egg_seq, hW, c16_egg_velocity_eq_sinkvel_stokes _ _ _ _ hb1 hb2]

example := c16_copies_agree (α := ℝ) 0.01 600 0.0014 (fun _ _ _ => 5) (fun _ _ _ => 34) 0 0 10 0 32 []

/-! ## C16 (4) behaviour: larvae, salmon lice, shrimp -/

/-- **C16 (larvae swim down when the light at their depth exceeds their preference and up otherwise)** on the
interpreted `update_ibm` of the larvae IBM.  `Eb` is the value of the interpreted `utils.light.light` at the larva's
OLD depth with the configured extinction coefficient `self.k`; the swimming velocity `W` stored by the code is positive
(down) iff `desired_light < Eb` and negative (up) iff `Eb < desired_light`; the new depth is the clipped old depth plus
`float32(float32(W) · float32(dt))` (`narrow` = rounding to binary32: `W` is a `float32` array in the source), with
the random term added iff `self.D ≠ 0`.
Hypotheses: hatched larva, positive swim speed; `hE`: `exp > 0`.  Forced by the bridge: `hg`, `hl` — the configured
callables `self.growth` / `self.length` are the species defaults `growth_cod_larvae` / `weight_to_length`; non-empty
supply of random numbers. -/
theorem c16_larvae_update_swims_by_light (hE : ExpLaws α) (e : LarvaEnv α) (hg : e.growth = Gen.larvae_growth)
    (hl : e.length = Gen.larvae_weight_to_length) (x y buoy : α) (p : Bio.Larva α) (xi : α) (rest : List α)
    (hhatch : e.c.hatchDay < p.age) (hs : 0 < e.c.swimSpeed) :
    ∃ W Eb : α,
      lightRun e.light0 x y p.z e.c.k Gen.light_seq = some (some Eb) ∧
      (0 < W ↔ e.c.desired < Eb) ∧ (W < 0 ↔ Eb < e.c.desired) ∧
      (larvaeRun e x y buoy p (xi :: rest)).map (Option.map fun s => s.particle.z)
        = some (some (fmax (fmin (p.z + narrow ((if Bio.isZeroS e.c.D then narrow W
            else narrow (narrow W + xi * sqrt (2.0 * e.c.D / e.c.dt))) * narrow e.c.dt)) e.c.maxDepth) e.c.minDepth)) := by
  obtain ⟨s, hrun, hv⟩ := Bridge.of_map_view_some (Bridge.larvae_update_seq e hg hl x y buoy p xi rest)
  refine ⟨_, _, Bridge.light_seq e.light0 x y p.z e.c.k,
    (C16.larva_swims_down_iff hE e.c.swimSpeed e.c.desired _
      (Bio.larvaWeight e.c.initWeight (e.temp x y p.z) e.c.dt p.weight) hs).1,
    (C16.larva_swims_down_iff hE e.c.swimSpeed e.c.desired _
      (Bio.larvaWeight e.c.initWeight (e.temp x y p.z) e.c.dt p.weight) hs).2, ?_⟩
  simp only [hrun, Option.map_some, (Prod.mk.inj hv).1]
  cases hD : Bio.isZeroS e.c.D <;>
  simp [Bio.larvaUpdate, Bio.larvaFinalZ, Bio.clipDepth, not_le.mpr hhatch]

/-- a cod larva configuration without mixing: band 5–60 m, preferred light 1, surface light 100 -/
noncomputable def c16_exLarva : LarvaEnv ℝ :=
  ⟨⟨60, 0.093, 0.2, 1, 5, 60, 0.2, 0, 600, 600, 0.0011, true⟩, fun _ _ _ => 5, fun _ _ _ => 34, fun _ _ => 100,
    Gen.larvae_growth, Gen.larvae_weight_to_length, false, fun x y => (x, y)⟩
example := c16_larvae_update_swims_by_light RealInst.expLaws c16_exLarva rfl rfl 0 0 32 ⟨20, 100, 0.2⟩ 0 []
  (by norm_num [c16_exLarva]) (by norm_num [c16_exLarva])

theorem c16_clip_mono_ge (lo hi z d : α) (h2 : z ≤ hi) (hd : 0 ≤ d) : z ≤ fmax (fmin (z + d) hi) lo := by
  rw [fmax_eq_max, fmin_eq_min]
  exact le_max_of_le_left (le_min (le_add_of_nonneg_right hd) h2)
theorem c16_clip_mono_le (lo hi z d : α) (h1 : lo ≤ z) (hd : d ≤ 0) : fmax (fmin (z + d) hi) lo ≤ z := by
  rw [fmax_eq_max, fmin_eq_min]
  exact max_le ((min_le_left _ _).trans (add_le_of_nonpos_right hd)) h1

/-- … hence the movement itself: without mixing, for a larva inside its depth band, the new depth is `≥` the old one
when the light exceeds the preference and `≤` when it is below.  Extra hypotheses: rounding to binary32 is monotone and
keeps `0` (`hNm`, `hN0`); weak inequalities because the rounded step may be flushed to `0` and the band clips. -/
theorem c16_larvae_update_direction (hE : ExpLaws α) (hN0 : narrow (0 : α) = 0)
    (hNm : ∀ a b : α, a ≤ b → narrow a ≤ narrow b) (e : LarvaEnv α) (hg : e.growth = Gen.larvae_growth)
    (hl : e.length = Gen.larvae_weight_to_length) (x y buoy : α) (p : Bio.Larva α) (xi : α) (rest : List α)
    (hhatch : e.c.hatchDay < p.age) (hs : 0 < e.c.swimSpeed) (hD : Bio.isZeroS e.c.D = true) (hdt : 0 ≤ e.c.dt)
    (hz1 : e.c.minDepth ≤ p.z) (hz2 : p.z ≤ e.c.maxDepth) :
    ∃ Eb znew : α,
      lightRun e.light0 x y p.z e.c.k Gen.light_seq = some (some Eb) ∧
      (larvaeRun e x y buoy p (xi :: rest)).map (Option.map fun s => s.particle.z) = some (some znew) ∧
      (e.c.desired < Eb → p.z ≤ znew) ∧ (Eb < e.c.desired → znew ≤ p.z) := by
  obtain ⟨W, Eb, hL, hpos, hneg, hrun⟩ := c16_larvae_update_swims_by_light hE e hg hl x y buoy p xi rest hhatch hs
  rw [hD] at hrun
  simp only [if_true] at hrun
  -- rounding keeps the sign
  have hn0 : ∀ a : α, 0 ≤ a → 0 ≤ narrow a := fun a h => hN0.symm.trans_le (hNm 0 a h)
  have hn1 : ∀ a : α, a ≤ 0 → narrow a ≤ 0 := fun a h => (hNm a 0 h).trans_eq hN0
  exact ⟨Eb, _, hL, hrun,
    fun h => c16_clip_mono_ge _ _ _ _ hz2 (hn0 _ (mul_nonneg (hn0 _ (hpos.mpr h).le) (hn0 _ hdt))),
    fun h => c16_clip_mono_le _ _ _ _ hz1
      (hn1 _ (mul_nonpos_of_nonpos_of_nonneg (hn1 _ (hneg.mpr h).le) (hn0 _ hdt)))⟩

example := c16_larvae_update_direction RealInst.expLaws rfl (fun _ _ h => h) c16_exLarva rfl rfl 0 0 32 ⟨20, 100, 0.2⟩ 0 []
  (by norm_num [c16_exLarva]) (by norm_num [c16_exLarva]) (by norm_num [c16_exLarva, Bio.isZeroS]) (by norm_num [c16_exLarva])
  (by norm_num [c16_exLarva]) (by norm_num [c16_exLarva])

/-- the interpreted lice update: new depth -/
theorem c16_lice_update_core (e : LiceEnv α) (x y : α) (p : Bio.Lice α) (r xi : α) (rest : List α) :
    (liceRun e x y p (r :: xi :: rest)).map (Option.map fun s => s.particle.z)
      = some (some (Gen.lice_Z p.z
          (if e.vertDiff then
            Gen.lice_W e.swimVel (Gen.light_at_depth (e.light0 x y) p.z e.k) (e.salt x y p.z) r
              (p.age + e.temp x y p.z * e.stateDt / 86400.0) + xi * rpow (2.0 * e.D / e.dt) 0.5
           else Gen.lice_W e.swimVel (Gen.light_at_depth (e.light0 x y) p.z e.k) (e.salt x y p.z) r
              (p.age + e.temp x y p.z * e.stateDt / 86400.0)) e.dt)) := by
  obtain ⟨s, hs, hv⟩ := Bridge.of_map_view_some (Bridge.lice_update_seq e x y p r xi rest)
  simp only [hs, Option.map_some, (Prod.mk.inj hv).1, ← Bridge.lice_Z, ← Bridge.lice_W]
  cases e.vertDiff <;> rfl

theorem c16_lice_Z_plain (z W dt w : α) (hw : z + W * dt = w) (h0 : 0 ≤ w) (h1 : w < 20) : Gen.lice_Z z W dt = w := by
  rw [← Bridge.lice_Z, hw]
  exact c16_mirrorCap_plain _ _ _ h0 (h1.trans_eq (by norm_num))

theorem c16_lice_W_up_value (sv Eb salt r age : α) (hE : 0.01 ≤ Eb) (hs : 32 ≤ salt) (hr0 : 0 ≤ r) :
    Gen.lice_W sv Eb salt r age = -sv := by
  unfold Gen.lice_W
  lits
  have h1 : ¬ (salt < 28 - r * 8) := by linarith
  have h2 : ¬ (salt < 32 - r * 2) := by linarith
  simp [hE, h1, h2]

theorem c16_lice_W_down_value (sv Eb salt r age : α) (hs : salt < 20) (hr0 : 0 ≤ r) (hr1 : r < 1) :
    Gen.lice_W sv Eb salt r age = sv := by
  unfold Gen.lice_W
  lits
  have h1 : salt < 28 - r * 8 := by linarith
  have h2 : salt < 32 - r * 2 := by linarith
  by_cases hn : age < 40 <;> simp [h1, h2, hn]

/-- **C16 (salmon lice swim up in light)** on the interpreted `update_ibm` of the salmon-lice IBM: if the light at
the louse's depth (`light0 · exp(-k·Z)` = the interpreted `utils.light.light`) is at least `0.01` and the water is
salty enough (`S ≥ 32`, whatever the stage and the uniform draw `r ≥ 0`), the swimming velocity is `-swim_vel < 0`
(upward); the new depth is the generated window `Gen.lice_Z` of it (plus the random velocity iff
`self.vertical_diffusion`) and, without mixing, strictly above the old depth unless the surface is crossed.
Forced by the bridge: two numbers in the supply (`r` uniform, `xi` normal; `xi` is consumed only with mixing). -/
theorem c16_lice_update_up_in_light (e : LiceEnv α) (x y : α) (p : Bio.Lice α) (r xi : α) (rest : List α)
    (hsv : 0 < e.swimVel) (hE : 0.01 ≤ Gen.light_at_depth (e.light0 x y) p.z e.k)
    (hs : 32 ≤ e.salt x y p.z) (hr0 : 0 ≤ r) :
    ∃ W znew : α, W < 0 ∧ W = -e.swimVel ∧
      lightRun e.light0 x y p.z e.k Gen.light_seq = some (some (Gen.light_at_depth (e.light0 x y) p.z e.k)) ∧
      (liceRun e x y p (r :: xi :: rest)).map (Option.map fun s => s.particle.z) = some (some znew) ∧
      znew = Gen.lice_Z p.z (if e.vertDiff then W + xi * rpow (2.0 * e.D / e.dt) 0.5 else W) e.dt ∧
      (e.vertDiff = false → 0 < e.dt → 0 ≤ p.z + W * e.dt → p.z < 20 → znew < p.z) := by
  have hval := c16_lice_W_up_value e.swimVel (Gen.light_at_depth (e.light0 x y) p.z e.k) (e.salt x y p.z) r
    (p.age + e.temp x y p.z * e.stateDt / 86400.0) hE hs hr0
  refine ⟨-e.swimVel, _, neg_neg_of_pos hsv, rfl, Bridge.light_seq _ _ _ _ _, c16_lice_update_core e x y p r xi rest,
    ?_, ?_⟩
  · rw [hval]
  · intro hv hdt h0 h20
    rw [hv, hval]
    simp only [Bool.false_eq_true, if_false]
    have : -e.swimVel * e.dt < 0 := mul_neg_of_neg_of_pos (neg_neg_of_pos hsv) hdt
    rw [c16_lice_Z_plain _ _ _ _ rfl h0 ((add_lt_of_neg_right _ this).trans h20)]
    exact add_lt_of_neg_right _ this

/-- salmon lice: `swim_vel = 0.0005`, `k = 0.2`, surface light 100, salinity `s` -/
noncomputable def c16_exLice (s : ℝ) : LiceEnv ℝ :=
  ⟨0.99, 0.2, 0.0005, 0.001, 600, 600, false, fun _ _ _ => 10, fun _ _ _ => s, fun _ _ => 100⟩
example := c16_lice_update_up_in_light (c16_exLice 34) 0 0 ⟨0, 50, 5, 1, true⟩ 0.5 0 []
  (by norm_num [c16_exLice]) (by simp [c16_exLice, Gen.light_at_depth, HasExp.exp]; norm_num) (by norm_num [c16_exLice])
  (by norm_num)

/-- **C16 (… and down in water fresher than their tolerance)**: for `S < 20` (below both tolerance thresholds
`28 - 8r`, `32 - 2r` for every draw `r ∈ [0,1)`) the velocity is `+swim_vel`, whatever the light and the stage. -/
theorem c16_lice_update_down_in_fresh (e : LiceEnv α) (x y : α) (p : Bio.Lice α) (r xi : α) (rest : List α)
    (hsv : 0 < e.swimVel) (hs : e.salt x y p.z < 20) (hr0 : 0 ≤ r) (hr1 : r < 1) :
    ∃ W znew : α, 0 < W ∧ W = e.swimVel ∧
      (liceRun e x y p (r :: xi :: rest)).map (Option.map fun s => s.particle.z) = some (some znew) ∧
      znew = Gen.lice_Z p.z (if e.vertDiff then W + xi * rpow (2.0 * e.D / e.dt) 0.5 else W) e.dt ∧
      (e.vertDiff = false → 0 < e.dt → 0 ≤ p.z → p.z + W * e.dt < 20 → p.z < znew) := by
  have hval := c16_lice_W_down_value e.swimVel (Gen.light_at_depth (e.light0 x y) p.z e.k) (e.salt x y p.z) r
    (p.age + e.temp x y p.z * e.stateDt / 86400.0) hs hr0 hr1
  refine ⟨e.swimVel, _, hsv, rfl, c16_lice_update_core e x y p r xi rest, ?_, ?_⟩
  · rw [hval]
  · intro hv hdt h0 h20
    rw [hv, hval]
    simp only [Bool.false_eq_true, if_false]
    have : 0 < e.swimVel * e.dt := mul_pos hsv hdt
    rw [c16_lice_Z_plain _ _ _ _ rfl (add_nonneg h0 this.le) h20]
    exact lt_add_of_pos_right _ this

example := c16_lice_update_down_in_fresh (c16_exLice 15) 0 0 ⟨3, 50, 5, 1, true⟩ 0.5 0 []
  (by norm_num [c16_exLice]) (by norm_num [c16_exLice]) (by norm_num) (by norm_num)

theorem c16_shrimp_migrate_between (dt speed pref z : α) (hs : 0 ≤ dt * speed) :
    (z ≤ pref → z ≤ Bio.shrimpMigrate dt speed pref z ∧ Bio.shrimpMigrate dt speed pref z ≤ pref) ∧
    (pref ≤ z → pref ≤ Bio.shrimpMigrate dt speed pref z ∧ Bio.shrimpMigrate dt speed pref z ≤ z) := by
  unfold Bio.shrimpMigrate
  rw [fmin_eq_min, fabs_eq_abs]
  -- the step length is between `0` and the distance to the preferred depth
  have h0 : 0 ≤ min (dt * speed) |pref - z| := le_min hs (abs_nonneg _)
  have h1 : min (dt * speed) |pref - z| ≤ |pref - z| := min_le_right _ _
  generalize min (dt * speed) |pref - z| = m at h0 h1
  rcases lt_trichotomy (pref - z) 0 with h | h | h
  · rw [abs_of_neg h] at h1
    rw [fsign_of_neg h]
    constructor <;> intro <;> constructor <;> linarith
  · rw [h, fsign_zero]
    constructor <;> intro <;> constructor <;> linarith
  · rw [abs_of_pos h] at h1
    rw [fsign_of_pos h]
    constructor <;> intro <;> constructor <;> linarith

theorem c16_shrimp_pref_eq (h minDay minNgh maxDay maxNgh q : α) :
    Bio.shrimpPreferred (if decide ((0.0 : α) < h) = true then minDay else minNgh)
        (if decide ((0.0 : α) < h) = true then maxDay else maxNgh) q
      = if 0 < h then minDay + (maxDay - minDay) * q else minNgh + (maxNgh - minNgh) * q := by
  unfold Bio.shrimpPreferred
  lits
  by_cases hh : 0 < h <;> simp [hh]

/-- **C16 (shrimp move toward their preferred day or night depth)** on the interpreted `diel_migration`
(`Gen.shrimp_diel_migration_seq`, the sun height from the interpreted `sunheight`): the preferred depth is
`mindepth + (maxdepth - mindepth)·q` of the DAY tables when the sun is above the horizon and of the NIGHT tables
otherwise, and the new depth lies between the old depth and the preferred depth (toward it, never past it).
Hypotheses: `dt ≥ 0`, non-negative speeds.  Forced by the bridge (the five table reads must succeed): the stage tables
have at least the five pelagic stages and the integer part of the stage is `≥ 1` (true after `growth`, which clips the
stage to `[1, 6]`). -/
theorem c16_shrimp_diel_toward_preferred [HasTrunc α] {τ : Type} (e : ShrimpEnv α τ) (p : Shrimp α)
    (hl1 : 5 ≤ e.vertSpeed.length) (hl2 : 5 ≤ e.maxDay.length) (hl3 : 5 ≤ e.maxNgh.length)
    (hl4 : 5 ≤ e.minDay.length) (hl5 : 5 ≤ e.minNgh.length) (hst : 1 ≤ trunc p.stage)
    (hspeed : ∀ v ∈ e.vertSpeed, 0 ≤ v) (hdt : 0 ≤ e.dt) :
    ∃ (p' : Shrimp α) (h maxDay maxNgh minDay minNgh pref : α),
      shrimpSunheightRun e.timetuple (if e.hasTimestamp then e.timestamp else e.timeVar)
        (e.lonlat p.x p.y).1 (e.lonlat p.x p.y).2 = some (some h) ∧
      npIndex e.maxDay (shrimpIntStage p.stage) = some maxDay ∧
      npIndex e.maxNgh (shrimpIntStage p.stage) = some maxNgh ∧
      npIndex e.minDay (shrimpIntStage p.stage) = some minDay ∧
      npIndex e.minNgh (shrimpIntStage p.stage) = some minNgh ∧
      pref = (if 0 < h then minDay + (maxDay - minDay) * p.q else minNgh + (maxNgh - minNgh) * p.q) ∧
      shrimpDielRun e p = some (some p') ∧
      (p.z ≤ pref → p.z ≤ p'.z ∧ p'.z ≤ pref) ∧ (pref ≤ p.z → pref ≤ p'.z ∧ p'.z ≤ p.z) := by
  obtain ⟨speed, h1⟩ := Bridge.shrimp_table_read e.vertSpeed hl1 p.stage hst
  obtain ⟨maxDay, h2⟩ := Bridge.shrimp_table_read e.maxDay hl2 p.stage hst
  obtain ⟨maxNgh, h3⟩ := Bridge.shrimp_table_read e.maxNgh hl3 p.stage hst
  obtain ⟨minDay, h4⟩ := Bridge.shrimp_table_read e.minDay hl4 p.stage hst
  obtain ⟨minNgh, h5⟩ := Bridge.shrimp_table_read e.minNgh hl5 p.stage hst
  have hsp : 0 ≤ speed := by
    apply hspeed
    unfold npIndex at h1
    split_ifs at h1 with a b
    · exact List.mem_of_getElem? h1
    · exact List.mem_of_getElem? h1
  have hrun := Bridge.shrimp_diel_migration_seq e p speed maxDay maxNgh minDay minNgh h1 h2 h3 h4 h5
  dsimp only at hrun
  rw [c16_shrimp_pref_eq] at hrun
  exact ⟨_, _, maxDay, maxNgh, minDay, minNgh, _, Bridge.shrimp_sunheight_seq _ _ _ _, h2, h3, h4, h5, rfl, hrun,
    c16_shrimp_migrate_between e.dt speed _ p.z (mul_nonneg hdt hsp)⟩

/-- shrimp with five pelagic stages -/
noncomputable def c16_exShrimp : ShrimpEnv ℝ Unit :=
  ⟨[0.01, 0.01, 0.01, 0.01, 0.01], [0.01, 0.01, 0.02, 0.02, 0.03], [100, 100, 150, 150, 200], [20, 20, 30, 30, 40],
    [50, 50, 60, 60, 80], [0, 0, 5, 5, 10], 600, fun _ _ _ => 5, fun _ _ _ => 34, fun x y => (x, y), true, (), (),
    fun _ => (100, 12), false⟩
example := c16_shrimp_diel_toward_preferred c16_exShrimp ⟨0, 0, 30, 2, 10, 0.5, true, none, none, none⟩
  (by simp [c16_exShrimp]) (by simp [c16_exShrimp]) (by simp [c16_exShrimp]) (by simp [c16_exShrimp]) (by simp [c16_exShrimp])
  (by simp [HasTrunc.trunc]) (by simp [c16_exShrimp]; norm_num) (by norm_num [c16_exShrimp])

/-! ## C16 (5) light -/

/-- **C16 (surface light is finite everywhere)**: the interpreted `surface_light` finishes for EVERY day, hour,
longitude and latitude, with the five-band function `C16.bandLight` of the generated sun height and day ratio. -/
theorem c16_surface_light_is_band (yday hours lon lat : α) :
    surfaceLightRun yday hours lon lat Gen.surface_light_seq
      = some (some (C16.bandLight (Gen.surface_light_height yday hours lon lat)
          (Gen.surface_light_ratio yday hours lon lat))) := by
  rw [Bridge.surface_light_seq, C16.surface_light_is_band]

example := c16_surface_light_is_band (α := ℝ) 100 12 5 60

/-- below the horizon the band function does not read the day ratio -/
theorem c16_band_light_night (h q : α) (h0 : h < 0) : C16.bandLight h q = C16.bandLight h 0 := by
  unfold C16.bandLight
  rw [if_neg (not_le.mpr h0), if_neg (not_le.mpr h0)]

theorem c16_band_light_bounds_day (h q : α) (hq : 0 ≤ h → 0 ≤ q ∧ q ≤ 1) :
    1.15e-5 ≤ C16.bandLight h q ∧ C16.bandLight h q ≤ 1505.76 := by
  by_cases h0 : 0 ≤ h
  · exact C16.band_light_bounds h q (hq h0).1 (hq h0).2
  · rw [c16_band_light_night h q (not_le.mp h0)]
    exact C16.band_light_bounds h 0 le_rfl zero_le_one

/-- **C16 (surface light stays within `[1.15e-5, 1505.76]`) — PARTIAL**: given that in the day band (sun height `≥ 0`)
the ratio `sin h / sin h₁₂` is in `[0, 1]`.  MISSING: that hypothesis from the input ranges — it needs laws of `sin`,
`cos`, `asin`, `π` (`sin h = a - b·cos τ ≤ a + b = sin h₁₂` for `b = cos δ · cos φ ≥ 0`; `C16.day_ratio_unit` is the
algebraic core) and fails at the pole in polar night (`0/0`), which the quantifier `lat ∈ (-90, 90)` excludes. -/
theorem c16_surface_light_bounds_partial (yday hours lon lat : α)
    (hq : 0 ≤ Gen.surface_light_height yday hours lon lat →
      0 ≤ Gen.surface_light_ratio yday hours lon lat ∧ Gen.surface_light_ratio yday hours lon lat ≤ 1) :
    ∃ L, surfaceLightRun yday hours lon lat Gen.surface_light_seq = some (some L) ∧ 1.15e-5 ≤ L ∧ L ≤ 1505.76 :=
  ⟨_, c16_surface_light_is_band yday hours lon lat, c16_band_light_bounds_day _ _ hq⟩

/- `c16_surface_light_bounds_partial`: its hypothesis is about `Gen.surface_light_ratio` at concrete date / position
(sines of irrational arguments) — instantiation out of reach; the band-level statement is instantiated instead -/
example := c16_band_light_bounds_day (α := ℝ) 10 (1 / 2) (fun _ => by norm_num)

/-- monotone and 1-Lipschitz -/
def c16_Slow (f : α → α) : Prop := ∀ x y, x ≤ y → f x ≤ f y ∧ f y - f x ≤ y - x

theorem c16_slow_const (c : α) : c16_Slow fun _ : α => c :=
  fun x y h => ⟨le_rfl, by rw [sub_self]; exact sub_nonneg.mpr h⟩

theorem c16_slow_affine (s b c : α) (h0 : 0 ≤ s) (h1 : s ≤ 1) : c16_Slow fun x => s * (b + x) + c := by
  intro x y h
  have e : s * (b + y) + c - (s * (b + x) + c) = s * (y - x) := by ring
  exact ⟨add_le_add (mul_le_mul_of_nonneg_left (add_le_add le_rfl h) h0) le_rfl,
    by rw [e]; exact mul_le_of_le_one_left (sub_nonneg.mpr h) h1⟩

/-- two such pieces that agree at the breakpoint `b` glue to such a function (a pair on different sides of `b` is
compared through `b`) -/
theorem c16_slow_ite (b : α) (f g : α → α) (hf : c16_Slow f) (hg : c16_Slow g) (hb : g b = f b) :
    c16_Slow fun x => if b ≤ x then f x else g x := by
  intro x y h
  by_cases hx : b ≤ x
  · simpa only [if_pos hx, if_pos (hx.trans h)] using hf x y h
  · by_cases hy : b ≤ y
    · have h1 := hg x b (not_le.mp hx).le
      have h2 := hf b y hy
      simp only [if_neg hx, if_pos hy]
      constructor <;> linarith
    · simpa only [if_neg hx, if_neg hy] using hg x y h

/-- with day ratio `0` the band function is monotone and 1-Lipschitz in the sun height on the whole line: affine
pieces of slope in `[0, 1]` that agree at `0°`, `-6°`, `-12°`, `-18°` -/
theorem c16_band_light_slow (h h' : α) (hh : h ≤ h') :
    C16.bandLight h 0 ≤ C16.bandLight h' 0 ∧ C16.bandLight h' 0 - C16.bandLight h 0 ≤ h' - h := by
  refine (?_ : c16_Slow fun h : α => C16.bandLight h 0) h h' hh
  unfold C16.bandLight
  refine c16_slow_ite _ _ _ (c16_slow_const _) (c16_slow_ite _ _ _ (c16_slow_affine _ _ _ ?_ ?_)
    (c16_slow_ite _ _ _ (c16_slow_affine _ _ _ ?_ ?_) (c16_slow_ite _ _ _ (c16_slow_affine _ _ _ ?_ ?_)
      (c16_slow_const _) ?_) ?_) ?_) ?_
  all_goals norm_num

/-- the night / twilight part of the band function is monotone and 1-Lipschitz in the sun height -/
theorem c16_band_light_lipschitz_night (h h' q q' : α) (hh : h ≤ h') (h0 : h' < 0) :
    C16.bandLight h q ≤ C16.bandLight h' q' ∧ C16.bandLight h' q' - C16.bandLight h q ≤ h' - h := by
  rw [c16_band_light_night h q (hh.trans_lt h0), c16_band_light_night h' q' h0]
  exact c16_band_light_slow h h' hh

/-- the day edge: below the horizon the value is within `|h|` of the twilight constant `5.76`, above it it is
`1500·q' + 5.76`, so the jump across the horizon is between `1500·q'` and `1500·q' + |h|` -/
theorem c16_band_light_day_edge (h h' q q' : α) (h0 : h < 0) (h1 : 0 ≤ h') :
    1500 * q' ≤ C16.bandLight h' q' - C16.bandLight h q ∧
      C16.bandLight h' q' - C16.bandLight h q ≤ 1500 * q' - h := by
  have e0 : C16.bandLight (0 : α) 0 = 5.76 := by simp [C16.bandLight]
  have e1 : C16.bandLight h' q' = 1500 * q' + 5.76 := if_pos h1
  have := c16_band_light_slow h 0 h0.le
  rw [e0, ← c16_band_light_night h q h0, zero_sub] at this
  rw [e1, add_sub_assoc, sub_eq_add_neg _ h]
  exact ⟨le_add_of_nonneg_right (sub_nonneg.mpr this.1), add_le_add le_rfl this.2⟩

/-- **C16 (continuous across the day / twilight / night bands)** on two runs of the interpreted `surface_light`:
below the horizon the value is monotone and 1-Lipschitz in the sun height (across the edges `-6°`, `-12°`, `-18°`
too), and across the horizon the jump is squeezed between `1500·q'` and `1500·q' + |h|` (`q'` = the day ratio
`sin h'/sin h₁₂`, which is `0` at `h' = 0`): no jump at any band edge. -/
theorem c16_surface_light_continuous (yday hours lon lat yday' hours' lon' lat' : α) :
    ∃ L L' : α,
      surfaceLightRun yday hours lon lat Gen.surface_light_seq = some (some L) ∧
      surfaceLightRun yday' hours' lon' lat' Gen.surface_light_seq = some (some L') ∧
      (Gen.surface_light_height yday hours lon lat ≤ Gen.surface_light_height yday' hours' lon' lat' →
        Gen.surface_light_height yday' hours' lon' lat' < 0 →
        L ≤ L' ∧ L' - L ≤ Gen.surface_light_height yday' hours' lon' lat' - Gen.surface_light_height yday hours lon lat) ∧
      (Gen.surface_light_height yday hours lon lat < 0 → 0 ≤ Gen.surface_light_height yday' hours' lon' lat' →
        1500 * Gen.surface_light_ratio yday' hours' lon' lat' ≤ L' - L ∧
        L' - L ≤ 1500 * Gen.surface_light_ratio yday' hours' lon' lat' - Gen.surface_light_height yday hours lon lat) := by
  exact ⟨_, _, c16_surface_light_is_band yday hours lon lat, c16_surface_light_is_band yday' hours' lon' lat',
    fun hh h0 => c16_band_light_lipschitz_night _ _ _ _ hh h0, fun h0 h1 => c16_band_light_day_edge _ _ _ _ h0 h1⟩

example := c16_surface_light_continuous (α := ℝ) 100 12 5 60 100 13 5 60

/-- **C16 (light decays with depth as `exp(-k·depth)`)** on the interpreted `utils.light.light`: the value is
`surface · exp(-k·d)`, it is multiplicative over depth increments, and non-increasing in depth for `k ≥ 0`. -/
theorem c16_light_decays_with_depth (hE : ExpLaws α) (surf : α → α → α) (lon lat k d₁ d₂ : α) :
    ∃ E₁ E₂ E₁₂ : α,
      lightRun surf lon lat d₁ k Gen.light_seq = some (some E₁) ∧
      lightRun surf lon lat d₂ k Gen.light_seq = some (some E₂) ∧
      lightRun surf lon lat (d₁ + d₂) k Gen.light_seq = some (some E₁₂) ∧
      E₁ = surf lon lat * exp (-k * d₁) ∧
      E₁₂ = E₁ * exp (-k * d₂) ∧
      (0 ≤ surf lon lat → 0 ≤ k → d₁ ≤ d₂ → E₂ ≤ E₁) := by
  refine ⟨_, _, _, Bridge.light_seq surf lon lat d₁ k, Bridge.light_seq surf lon lat d₂ k,
    Bridge.light_seq surf lon lat (d₁ + d₂) k, C16.light_decay _ _ _, ?_,
    fun h0 hk hd => C16.light_decay_monotone hE _ k d₁ d₂ h0 hk hd⟩
  have := C16.light_decay_additive hE (surf lon lat) k d₁ d₂
  rw [this, C16.light_decay (Gen.light_at_depth (surf lon lat) d₁ k)]

example := c16_light_decays_with_depth RealInst.expLaws (fun _ _ => (100 : ℝ)) 5 60 0.2 3 7

/-- **C16 (copies: surface light and sun height)**: the interpreted `sunheight` of the shrimp IBM returns the very sun
height from which the interpreted `utils.light.surface_light` computes its value. -/
theorem c16_sunheight_copies_agree {τ : Type} (tt : τ → α × α) (t : τ) (lon lat : α) :
    ∃ h : α, shrimpSunheightRun tt t lon lat = some (some h) ∧
      surfaceLightRun (tt t).1 (tt t).2 lon lat Gen.surface_light_seq
        = some (some (C16.bandLight h (Gen.surface_light_ratio (tt t).1 (tt t).2 lon lat))) := by
  refine ⟨_, Bridge.shrimp_sunheight_seq tt t lon lat, ?_⟩
  rw [c16_surface_light_is_band, C16.sunheight_copy_equal]

example := c16_sunheight_copies_agree (α := ℝ) (fun _ : Unit => (100, 12)) () 5 60

end c16

/-! ## C20 (1) chemicals: `diffuse_const`, `diffuse_labolle` -/

section c20field
variable {α : Type} [Field α] [LinearOrder α] [IsStrictOrderedRing α] [HasSqrt α]

/-- **C20 (chemicals `diffuse_const` is the reflected uniform-increment random walk)**: the interpreted method body
(with its call of the interpreted `reflect`) consumes exactly ONE number `u` of the particle's supply and returns the
reflection (generated window `Gen.chem_reflect`) of `Z + sqrt(2D)·(2u-1)·sqrt(3dt)`.  No hypothesis. -/
theorem c20_chem_diffuse_const_is_reflected_walk (dt D H u : α) (rest : List α) (z : α) :
    Seq.runChemDiffuseConst Gen.chem_diffuse_const_seq dt D H (u :: rest) z
      = some (some (Gen.chem_reflect (z + sqrt (2 * D) * ((2 * u - 1) * sqrt (3 * dt))) H, rest, 1)) := by
  let _ : HasFloor α := ⟨id⟩
  let _ : HasRound α := ⟨id⟩
  rw [Bridge.chem_diffuse_const_seq, Bridge.chem_diffuse_const]
  unfold Gen.chem_diffuse_const
  lits
  simp only [mul_comm u 2]

example := c20_chem_diffuse_const_is_reflected_walk (α := ℝ) 600 0.001 50 0.25 [] 10

/-- the increment of the interpreted `diffuse_const` (previous theorem) squared is `2·D·dt · 3(2u-1)²`; the factor has
mean 1 for uniform `u` (`c20_chem_diffuse_const_mean_variance`) -/
theorem c20_chem_diffuse_const_increment_sq (hS : SqrtLaws α) (dt D u : α) (hD : 0 ≤ D) (hdt : 0 ≤ dt) :
    (sqrt (2 * D) * ((2 * u - 1) * sqrt (3 * dt))) ^ 2 = 2 * D * dt * (3 * (2 * u - 1) ^ 2) := by
  have := C20.uniform_step_sq hS D dt u hD hdt
  unfold Chemicals.uniformDW at this
  lits
  rw [← this]; ring

example := c20_chem_diffuse_const_increment_sq RealInst.sqrtLaws 600 0.001 0.25 (by norm_num) (by norm_num)

end c20field

/-- the new depth the interpreted `diffuse_const` (with its `reflect`) returns for the draw `u` (`0` is never used:
the run always finishes) -/
noncomputable def c20_chemConstStep (dt D H u z : ℝ) : ℝ :=
  (((Seq.runChemDiffuseConst Gen.chem_diffuse_const_seq dt D H [u] z).join).map (fun r => r.1)).getD 0

theorem c20_chemConstStep_eq (dt D H u z : ℝ) :
    c20_chemConstStep dt D H u z = Gen.chem_reflect (Gen.chem_diffuse_const z D dt u) H := by
  let _ : HasFloor ℝ := ⟨id⟩
  let _ : HasRound ℝ := ⟨id⟩
  unfold c20_chemConstStep
  rw [Bridge.chem_diffuse_const_seq, Bridge.chem_diffuse_const]
  rfl

/-- **C20 (well-mixed stays well-mixed, exact, constant diffusivity)** lifted from the window to the interpreted method
body: with the depth uniform on `[0,H]` and the draw uniform on `[0,1]`, independent, the depth returned by the
interpreted `diffuse_const` (+ `reflect`) is again uniform on `[0,H]` — no accumulation at the surface or the bed.
Hypothesis: the largest possible step `sqrt(2D)·sqrt(3dt)` does not exceed the depth (the property's "step smaller than
the depth"). -/
theorem c20_chem_diffuse_const_wellmixed (H D dt : ℝ) (hH : 0 ≤ H)
    (hstep : Real.sqrt (2 * D) * Real.sqrt (3 * dt) ≤ H) :
    (∀ u z rest, ∃ z', Seq.runChemDiffuseConst Gen.chem_diffuse_const_seq dt D H (u :: rest) z
        = some (some (z', rest, 1))) ∧
    ((volume.restrict (Icc (0 : ℝ) 1)).prod (volume.restrict (Icc 0 H))).map
        (fun p => c20_chemConstStep dt D H p.1 p.2)
      = volume.restrict (Icc 0 H) := by
  refine ⟨fun u z rest => ⟨_, c20_chem_diffuse_const_is_reflected_walk dt D H u rest z⟩, ?_⟩
  simp only [c20_chemConstStep_eq]
  exact chem_const_walk_wellmixed H D dt hH hstep

theorem c20_ex_step_le (D dt H : ℝ) (hD : 0 ≤ 2 * D) (hH : 0 ≤ H) (h : 2 * D * (3 * dt) ≤ H ^ 2) :
    Real.sqrt (2 * D) * Real.sqrt (3 * dt) ≤ H := by
  rw [← Real.sqrt_mul hD]
  exact Real.sqrt_le_iff.mpr ⟨hH, h⟩

example := c20_chem_diffuse_const_wellmixed 50 0.001 600 (by norm_num)
  (c20_ex_step_le _ _ _ (by norm_num) (by norm_num) (by norm_num))

/-- **C20 (variance `2·D·dt` away from boundaries)** for the interpreted `diffuse_const`: an interior particle is
displaced by exactly the increment, and over the uniform draw the increment has mean `0` and second moment (=
variance) `2·D·dt`. -/
theorem c20_chem_diffuse_const_mean_variance (D dt : ℝ) (hD : 0 ≤ D) (hdt : 0 ≤ dt) :
    (∀ H z u rest, 0 ≤ z + Real.sqrt (2 * D) * ((2 * u - 1) * Real.sqrt (3 * dt)) →
      z + Real.sqrt (2 * D) * ((2 * u - 1) * Real.sqrt (3 * dt)) ≤ H →
      Seq.runChemDiffuseConst Gen.chem_diffuse_const_seq dt D H (u :: rest) z
        = some (some (z + Real.sqrt (2 * D) * ((2 * u - 1) * Real.sqrt (3 * dt)), rest, 1))) ∧
    (∫ u in (0 : ℝ)..1, Real.sqrt (2 * D) * ((2 * u - 1) * Real.sqrt (3 * dt))) = 0 ∧
    (∫ u in (0 : ℝ)..1, (Real.sqrt (2 * D) * ((2 * u - 1) * Real.sqrt (3 * dt))) ^ 2) = 2 * D * dt := by
  refine ⟨fun H z u rest h0 h1 => ?_, ?_, ?_⟩
  · have := c20_chem_diffuse_const_is_reflected_walk dt D H u rest z
    simp only [HasSqrt.sqrt] at this
    rw [this, ← Bridge.chem_reflect, C20.reflect_of_le _ _ h1, abs_of_nonneg h0]
  -- both moments by the substitution `x = 2u - 1`, after pulling the two roots out of the integral
  · simp only [intervalIntegral.integral_const_mul, intervalIntegral.integral_mul_const]
    rw [intervalIntegral.integral_comp_mul_sub (fun x => x) two_ne_zero]
    norm_num
  · simp only [mul_pow, intervalIntegral.integral_const_mul, intervalIntegral.integral_mul_const]
    rw [intervalIntegral.integral_comp_mul_sub (fun x => x ^ 2) two_ne_zero, Real.sq_sqrt (by positivity),
      Real.sq_sqrt (by positivity), integral_pow, smul_eq_mul]
    push_cast
    ring

example := c20_chem_diffuse_const_mean_variance 0.001 600 (by norm_num) (by norm_num)

section c20labolle
variable {α : Type} [Field α] [LinearOrder α] [IsStrictOrderedRing α] [HasSqrt α] [HasFloor α]

/-- the sub-step lengths of the `while current_time < dt` loop, from the generated window `Gen.chem_labolle_time` -/
def c20_genSubsteps (dt vdt : α) : Nat → α → List α
  | 0, _ => []
  | n + 1, cur =>
    if cur < dt then (Gen.chem_labolle_time cur dt vdt).2 :: c20_genSubsteps dt vdt n (Gen.chem_labolle_time cur dt vdt).1
    else []

theorem c20_genSubsteps_eq (dt vdt : α) : ∀ (fuel : Nat) (cur : α),
    Chemicals.substeps dt vdt fuel cur = c20_genSubsteps dt vdt fuel cur := by
  intro fuel
  induction fuel with
  | zero => intro cur; rfl
  | succ n ih =>
    intro cur
    rw [Bridge.chem_labolle_time]
    unfold c20_genSubsteps
    split_ifs
    · rw [ih]
    · rfl

/-- iterating the interpreted `diffuse_const` (with its `reflect`) over the sub-steps, one draw each -/
def c20_chemConstIter (D H : α) : List α → List α → α → α
  | ddt :: ds, u :: us, z =>
    c20_chemConstIter D H ds us
      ((((Seq.runChemDiffuseConst Gen.chem_diffuse_const_seq ddt D H [u] z).join).map (fun r => r.1)).getD z)
  | _, _, z => z

theorem c20_labolle_const_iter (k vmax dz H : α) : ∀ (ds us : List α) (z : α),
    Chemicals.diffuseLabolle (fun _ => k) vmax dz H ds us z = c20_chemConstIter (fmin k vmax) H ds us z := by
  let _ : HasRound α := ⟨id⟩
  intro ds
  induction ds with
  | nil => intro us z; cases us <;> rfl
  | cons ddt ds ih =>
    intro us z
    cases us with
    | nil => rfl
    | cons u us =>
      unfold Chemicals.diffuseLabolle c20_chemConstIter
      rw [ih, C20.labolle_const_reduces, Bridge.chem_diffuse_const_seq]
      rfl

/-- **C20 (LaBolle reduces to the constant walk for constant `K`)**: if the diffusivity profile at the particle's
position is constant `= k`, the interpreted `diffuse_labolle` IS the interpreted `diffuse_const` with `D = min(k,
vertdiff_max)`, iterated over the sub-steps of the `while` loop (`c20_genSubsteps`, from the generated window
`Gen.chem_labolle_time`), one draw each.  Forced by the bridge: `hlen` — the supply holds a number per sub-step. -/
theorem c20_chem_labolle_constant_K_is_const_walk (e : Chemicals.Env α) (dt vdt dz vmax x y k : α) (fuel : Nat)
    (us : List α) (z : α) (hK : ∀ zz, e.vdiff x y zz = k)
    (hlen : (c20_genSubsteps dt vdt fuel 0.0).length ≤ us.length) :
    Seq.runChemDiffuseLabolle Gen.chem_diffuse_labolle_seq e dt vdt dz vmax x y fuel us z
      = some (some (c20_chemConstIter (fmin k vmax) (e.depth x y) (c20_genSubsteps dt vdt fuel 0.0) us z,
          us.drop (c20_genSubsteps dt vdt fuel 0.0).length, (c20_genSubsteps dt vdt fuel 0.0).length)) := by
  let _ : HasRound α := ⟨id⟩
  rw [← c20_genSubsteps_eq] at hlen ⊢
  rw [Bridge.chem_diffuse_labolle_seq e dt vdt dz vmax x y fuel us z hlen]
  have : e.vdiff x y = fun _ => k := funext hK
  rw [this, c20_labolle_const_iter]

/-- the sub-steps add up to `dt` and none exceeds `vertdiff_dt` (loop bound `fuel` large enough) -/
theorem c20_chem_labolle_substeps_cover (dt vdt : α) (hv : 0 < vdt) (hdt : 0 ≤ dt) (fuel : Nat)
    (hf : dt ≤ fuel * vdt) :
    (c20_genSubsteps dt vdt fuel 0.0).sum = dt ∧ ∀ d ∈ c20_genSubsteps dt vdt fuel 0.0, 0 < d ∧ d ≤ vdt := by
  let _ : HasRound α := ⟨id⟩
  rw [← c20_genSubsteps_eq]
  have := C20.substeps_cover dt vdt hv fuel 0.0 (by lits; exact hdt) (by lits; simpa using hf)
  lits
  simpa using this

example := c20_chem_labolle_substeps_cover (α := ℝ) 600 100 (by norm_num) (by norm_num) 10 (by norm_num)

end c20labolle

/-! ## C20 (2) sedimentation and mine: constant mixing with the normal draw -/

section c20sed
variable {α : Type} [Field α] [LinearOrder α] [IsStrictOrderedRing α] [HasSqrt α]

/-- the three cases of the surface mirror followed by one reflection at the bed, `w` the displaced depth -/
theorem c20_sed_mix_const_cases (z h dt v xi w : α) (hw : z + sqrt (2 * v) * (xi * sqrt dt) = w) :
    (0 ≤ w → w ≤ h → Gen.sed_mix_const z h dt v xi = w) ∧
    (w < 0 → -w ≤ h → Gen.sed_mix_const z h dt v xi = -w) ∧
    (0 ≤ w → h < w → Gen.sed_mix_const z h dt v xi = 2 * h - w) := by
  unfold Gen.sed_mix_const
  lits
  simp only [decide_eq_true_eq, hw]
  refine ⟨fun h0 h1 => ?_, fun h0 h1 => ?_, fun h0 h1 => ?_⟩
  · rw [if_neg (not_lt.mpr h0), if_neg (not_lt.mpr h1)]
  · rw [if_pos h0, if_neg (by rw [mul_neg, mul_one]; exact not_lt.mpr h1)]; ring
  · rw [if_neg (not_lt.mpr h0), if_pos h1]

/-- **C20 (sedimentation, constant mixing)** on the interpreted `diffuse` of the sedimentation IBM with
`vertical_mixing` a constant `v`, for a suspended particle (`active ≠ 0`): the increment is `sqrt(2v)·(ξ·sqrt(dt))`
with square `2·v·dt·ξ²`; an interior particle moves by exactly the increment, one that crosses the surface is mirrored
there and one that crosses the bed is mirrored at the bed; and the function object the interpreted factory
`get_vdiff_constant_fn(v)` returns computes the same depth from the standard-normal draw `ξ`.
Forced by the bridge: `Sed.Config` carries the mixing method the constructor selected (`hmix`). -/
theorem c20_sed_const_mixing_step (hS : SqrtLaws α) (c : Sed.Config α) (cache : Grain.Cache α) (t : Int)
    (e : Sed.Env α) (xi : α) (a : Nat) (z v : α) (hmix : c.mixing = .const v) (ha : a ≠ 0)
    (hv : 0 ≤ v) (hdt : 0 ≤ c.dt) :
    ∃ (inc z' : α) (cache' : Grain.Cache α),
      Seq.runSedDiffuse Gen.sed_diffuse_seq c cache t e xi a z = some (some (z', cache')) ∧
      inc = sqrt (2 * v) * (xi * sqrt c.dt) ∧ inc ^ 2 = 2 * v * c.dt * xi ^ 2 ∧
      (0 ≤ z + inc → z + inc ≤ e.H → z' = z + inc) ∧
      (z + inc < 0 → -(z + inc) ≤ e.H → z' = -(z + inc)) ∧
      (0 ≤ z + inc → e.H < z + inc → z' = 2 * e.H - (z + inc)) ∧
      (∃ fn, Seq.runVdiffConstantFn Gen.sed_get_vdiff_constant_fn_seq v = some (some fn) ∧
        ∀ (draw : Seq.SfDraw → α) (us : α), draw .stdNormal = xi → fn draw z e.H c.dt us = some (some z')) := by
  let _ : HasFloor α := ⟨id⟩
  have hrun := Bridge.sed_diffuse_seq_full c cache t e xi a z
  rw [hmix] at hrun
  simp only [ha, if_false] at hrun
  rw [Bridge.sed_mix_const] at hrun
  obtain ⟨c1, c2, c3⟩ := c20_sed_mix_const_cases z e.H c.dt v xi _ rfl
  refine ⟨_, _, _, hrun, rfl, ?_, c1, c2, c3, ?_⟩
  · have := C20.normal_step_sq hS v c.dt xi hv hdt
    lits
    exact this
  · have hf := Bridge.sed_get_vdiff_constant_fn v
    rw [Bridge.sf_mix_fn_const_gen] at hf
    refine ⟨_, hf, fun draw us hd => ?_⟩
    rw [hd]

example := c20_sed_const_mixing_step RealInst.sqrtLaws (⟨600, 600, 1000000, .const 0.001, .numeric⟩ : Sed.Config ℝ)
  ⟨0, 0⟩ 1 ⟨50, 0.1, 0, none, 0.01⟩ 0.3 1 10 0.001 rfl (by norm_num) (by norm_num) (by norm_num)

theorem c20_mine_mix_cases (z dt v xi w : α) (hw : z + sqrt (2 * v) * (xi * sqrt dt) = w) :
    (0 ≤ w → Gen.mine_mix z v dt xi = w) ∧ (w < 0 → Gen.mine_mix z v dt xi = -w) ∧ 0 ≤ Gen.mine_mix z v dt xi := by
  let _ : HasFloor α := ⟨id⟩
  refine ⟨fun h0 => ?_, fun h0 => ?_, Bridge.mine_mix v dt xi z ▸ C05.mixMine_nonneg v dt xi z⟩
  all_goals
    unfold Gen.mine_mix
    lits
    simp only [decide_eq_true_eq, hw]
  · rw [if_neg (not_lt.mpr h0)]
  · rw [if_pos h0]; ring

/-- **C20 (mine, constant mixing)** on the interpreted `diffuse` of the mine IBM, active particle: increment
`sqrt(2K)·(ξ·sqrt(dt))` with square `2·K·dt·ξ²`, interior particles move by exactly the increment, reflection at the
surface (result never negative). -/
theorem c20_mine_mixing_step (hS : SqrtLaws α) (vdiff dt xi : α) (act : Nat) (z : α) (ha : act ≠ 0)
    (hv : 0 ≤ vdiff) (hdt : 0 ≤ dt) :
    ∃ inc z' : α,
      Seq.runMineDiffuse Gen.mine_diffuse_seq vdiff dt xi act z = some (some z') ∧
      inc = sqrt (2 * vdiff) * (xi * sqrt dt) ∧ inc ^ 2 = 2 * vdiff * dt * xi ^ 2 ∧
      (0 ≤ z + inc → z' = z + inc) ∧ (z + inc < 0 → z' = -(z + inc)) ∧ 0 ≤ z' := by
  let _ : HasFloor α := ⟨id⟩
  have hrun := Bridge.mine_diffuse_seq vdiff dt xi act z
  simp only [ha, if_false] at hrun
  rw [Bridge.mine_mix] at hrun
  obtain ⟨c1, c2, c3⟩ := c20_mine_mix_cases z dt vdiff xi _ rfl
  refine ⟨_, _, hrun, rfl, ?_, c1, c2, c3⟩
  have := C20.normal_step_sq hS vdiff dt xi hv hdt
  lits
  exact this

example := c20_mine_mixing_step RealInst.sqrtLaws (0.001 : ℝ) 600 0.3 1 10 (by norm_num) (by norm_num) (by norm_num)

end c20sed

/-- **C20 (variance `2·K·dt` with the normal draw)** for the interpreted mine `diffuse` and the interpreted
sedimentation `diffuse` with constant mixing: interior particles are displaced by exactly the increment, and with `ξ`
standard normal the increment has mean `0` and variance `2·K·dt`. -/
theorem c20_normal_increment_mean_variance (K dt : ℝ) (hK : 0 ≤ K) (hdt : 0 ≤ dt) :
    (∀ (z xi : ℝ) (act : Nat), act ≠ 0 → 0 ≤ z + Real.sqrt (2 * K) * (xi * Real.sqrt dt) →
      Seq.runMineDiffuse Gen.mine_diffuse_seq K dt xi act z
        = some (some (z + Real.sqrt (2 * K) * (xi * Real.sqrt dt)))) ∧
    (∀ (c : Sed.Config ℝ) (cache : Grain.Cache ℝ) (t : Int) (e : Sed.Env ℝ) (z xi : ℝ) (a : Nat),
      c.mixing = .const K → c.dt = dt → a ≠ 0 → 0 ≤ z + Real.sqrt (2 * K) * (xi * Real.sqrt dt) →
      z + Real.sqrt (2 * K) * (xi * Real.sqrt dt) ≤ e.H →
      (Seq.runSedDiffuse Gen.sed_diffuse_seq c cache t e xi a z).map (Option.map Prod.fst)
        = some (some (z + Real.sqrt (2 * K) * (xi * Real.sqrt dt)))) ∧
    (∫ xi, Real.sqrt (2 * K) * (xi * Real.sqrt dt) ∂(gaussianReal 0 1)) = 0 ∧
    Var[fun xi : ℝ => Real.sqrt (2 * K) * (xi * Real.sqrt dt); gaussianReal 0 1] = 2 * K * dt := by
  have hlin : (fun xi : ℝ => Real.sqrt (2 * K) * (xi * Real.sqrt dt))
      = fun xi => (Real.sqrt (2 * K) * Real.sqrt dt) * xi := by
    funext xi; ring
  refine ⟨fun z xi act ha h0 => ?_, fun c cache t e z xi a hm hd ha h0 h1 => ?_, ?_, ?_⟩
  · obtain ⟨_, z', hrun, rfl, -, h1, -⟩ := c20_mine_mixing_step RealInst.sqrtLaws K dt xi act z ha hK hdt
    rw [hrun, h1 h0]
    rfl
  · subst hd
    obtain ⟨_, z', cache', hrun, rfl, -, hi, -⟩ :=
      c20_sed_const_mixing_step RealInst.sqrtLaws c cache t e xi a z K hm ha hK hdt
    rw [hrun, hi h0 h1]
    rfl
  · simp only [hlin]
    rw [integral_const_mul, integral_id_gaussianReal, mul_zero]
  · rw [hlin, variance_const_mul, variance_fun_id_gaussianReal, NNReal.coe_one, mul_one, mul_pow,
      Real.sq_sqrt (by positivity), Real.sq_sqrt hdt]

example := c20_normal_increment_mean_variance 0.001 600 (by norm_num) (by norm_num)

/-! ## C20 (3) interior variance of the biological IBMs (shrimp, egg, salmon lice, sand eel) -/

section c20bio
variable {α : Type} [Field α] [LinearOrder α] [IsStrictOrderedRing α]
  [HasSqrt α] [HasExp α] [HasLog α] [HasSin α] [HasCos α] [HasAsin α] [HasRpow α] [HasPi α] [HasNarrow α]
  [HasFloor α] [HasRound α]

/-- **C20 (shrimp, interior variance)** on the interpreted `mixing`: increment `sqrt(2·v·dt)·ξ` (`v` = the mixing
coefficient of the particle's stage), square `2·v·dt·ξ²`; mirrored at the surface. -/
theorem c20_shrimp_mixing_step [HasTrunc α] (hS : SqrtLaws α) (vm : List α) (dt : α) (p : Shrimp α) (xi : α)
    (rest : List α) (log : List Draw) (v : α) (hv : npIndex vm (shrimpIntStage p.stage) = some v)
    (h0 : 0 ≤ v) (hdt : 0 ≤ dt) :
    ∃ (inc : α) (p' : Shrimp α),
      shrimpMixRun vm dt p ⟨xi :: rest, log⟩ = some (some (p', ⟨rest, log ++ [.normal]⟩)) ∧
      inc = sqrt (2 * v * dt) * xi ∧ inc ^ 2 = 2 * v * dt * xi ^ 2 ∧
      (0 ≤ p.z + inc → p'.z = p.z + inc) ∧ (p.z + inc < 0 → p'.z = -(p.z + inc)) ∧ 0 ≤ p'.z := by
  have hrun := Bridge.shrimp_mixing_seq vm dt p ⟨xi :: rest, log⟩
  rw [hv] at hrun
  simp only [Rng.pop, Option.bind_some, Option.map_some] at hrun
  refine ⟨_, _, hrun, rfl, ?_, ?_, ?_, C05.shrimpMix_nonneg _ _ _ _⟩
  · have := C20.normal_step_sq_single hS v dt xi (by lits; positivity)
    lits
    rw [← this]; ring
  all_goals
    simp only [Bio.shrimpMix]
    lits
  · intro h; rw [if_neg (not_lt.mpr h)]
  · intro h; rw [if_pos h]

example := c20_shrimp_mixing_step RealInst.sqrtLaws [0.01, 0.01, 0.01, 0.01, 0.01] 600
  ⟨0, 0, 30, 2, 10, 0.5, true, none, none, none⟩ 0.3 [] [] 0.01 (by simp [npIndex, shrimpIntStage, HasTrunc.trunc])
  (by norm_num) (by norm_num)

theorem c20_half_power_step_sq (D dt xi r : α) (hpow : r * r = 2 * D / dt) (hdt : dt ≠ 0) :
    (xi * r * dt) ^ 2 = 2 * D * dt * xi ^ 2 := by
  calc (xi * r * dt) ^ 2 = (r * r * dt) * dt * xi ^ 2 := by ring
    _ = 2 * D * dt * xi ^ 2 := by rw [hpow, div_mul_cancel₀ _ hdt]

/-- **C20 (egg, interior variance)** on the interpreted egg `update` with mixing: the random part of the displacement
is `ξ·(2D/dt)^0.5·dt`, with square `2·D·dt·ξ²`; an interior egg is moved by buoyancy plus exactly this.
`hpow`: `x ** 0.5` is a square root of `2D/dt` (law of the Python-float power). -/
theorem c20_egg_random_increment (e : EggEnv α) (x y z age buoy xi : α) (rest : List α) (hv : e.vertDiff = true)
    (hpow : rpow (2.0 * e.D / e.dt) 0.5 * rpow (2.0 * e.D / e.dt) 0.5 = 2 * e.D / e.dt) (hdt : e.dt ≠ 0) :
    ∃ (s : EggSt α) (inc : α),
      eggRun e x y z age buoy (xi :: rest) = some (some s) ∧
      inc = xi * rpow (2.0 * e.D / e.dt) 0.5 * e.dt ∧ inc ^ 2 = 2 * e.D * e.dt * xi ^ 2 ∧
      (0 ≤ z + Gen.egg_velocity (e.temp x y z) (e.salt x y z) buoy e.eggDiam * e.dt + inc →
        z + Gen.egg_velocity (e.temp x y z) (e.salt x y z) buoy e.eggDiam * e.dt + inc < 200 →
        s.z = z + Gen.egg_velocity (e.temp x y z) (e.salt x y z) buoy e.eggDiam * e.dt + inc) := by
  obtain ⟨s, hs, hz⟩ := c16_egg_update_core e x y z age buoy xi rest
  refine ⟨s, _, hs, rfl, c20_half_power_step_sq _ _ _ _ hpow hdt, fun h0 h1 => ?_⟩
  rw [hz, hv]
  simp only [if_true]
  exact c16_egg_Z_plain _ _ _ _ (by ring) h0 h1

theorem c20_ex_half_power (a : ℝ) (ha : 0 < a) : rpow a 0.5 * rpow a 0.5 = a := by
  show a ^ (0.5 : ℝ) * a ^ (0.5 : ℝ) = a
  rw [← Real.rpow_add ha]; norm_num

example := c20_egg_random_increment (c16_exEgg true) 0 0 10 0 32 0.3 [] rfl
  (by simp only [c16_exEgg]; exact (c20_ex_half_power _ (by norm_num)).trans (by norm_num)) (by norm_num [c16_exEgg])

/-- **C20 (salmon lice, interior variance)**, same statement for the interpreted lice `update_ibm`. -/
theorem c20_lice_random_increment (e : LiceEnv α) (x y : α) (p : Bio.Lice α) (r xi : α) (rest : List α)
    (hv : e.vertDiff = true)
    (hpow : rpow (2.0 * e.D / e.dt) 0.5 * rpow (2.0 * e.D / e.dt) 0.5 = 2 * e.D / e.dt) (hdt : e.dt ≠ 0) :
    ∃ (W inc znew : α),
      (liceRun e x y p (r :: xi :: rest)).map (Option.map fun s => s.particle.z) = some (some znew) ∧
      W = Gen.lice_W e.swimVel (Gen.light_at_depth (e.light0 x y) p.z e.k) (e.salt x y p.z) r
              (p.age + e.temp x y p.z * e.stateDt / 86400.0) ∧
      inc = xi * rpow (2.0 * e.D / e.dt) 0.5 * e.dt ∧ inc ^ 2 = 2 * e.D * e.dt * xi ^ 2 ∧
      (0 ≤ p.z + W * e.dt + inc → p.z + W * e.dt + inc < 20 → znew = p.z + W * e.dt + inc) := by
  refine ⟨_, _, _, c16_lice_update_core e x y p r xi rest, rfl, rfl, c20_half_power_step_sq _ _ _ _ hpow hdt,
    fun h0 h1 => ?_⟩
  rw [hv]
  simp only [if_true]
  exact c16_lice_Z_plain _ _ _ _ (by ring) h0 h1

example := c20_lice_random_increment
  (⟨0.99, 0.2, 0.0005, 0.001, 600, 600, true, fun _ _ _ => 10, fun _ _ _ => 34, fun _ _ => 100⟩ : LiceEnv ℝ)
  0 0 ⟨3, 50, 5, 1, true⟩ 0.5 0.3 [] rfl
  ((c20_ex_half_power _ (by norm_num)).trans (by norm_num)) (by norm_num)

/-- **C20 (sand eel, interior variance)** on the interpreted `vertical_diffuse`, active particle: increment
`ξ·sqrt(2·D·dt)`, square `2·D·dt·ξ²`; the result is the generated window `Gen.sandeel_vertical` (two reflecting
boundaries `0` and `min(maxdepth, H)`), interior particles move by exactly the increment. -/
theorem c20_sandeel_mixing_step (hS : SqrtLaws α) (e : SandeelEnv α) (x y z xi : α) (rest : List α)
    (log : List Draw) (h0 : 0 ≤ e.D) (hdt : 0 ≤ e.dt) :
    ∃ (inc z' : α),
      sandeelVertRun e x y z true ⟨xi :: rest, log⟩ = some (some (z', ⟨rest, log ++ [.normal]⟩)) ∧
      inc = xi * sqrt (2 * e.D * e.dt) ∧ inc ^ 2 = 2 * e.D * e.dt * xi ^ 2 ∧
      z' = Gen.sandeel_vertical z xi e.D e.dt e.maxdepth (e.sampleDepth x y) ∧
      (0 ≤ z + inc → z + inc ≤ fmin e.maxdepth (e.sampleDepth x y) → z' = z + inc) := by
  have hrun := Bridge.sandeel_vertical_diffuse_seq e x y z true ⟨xi :: rest, log⟩
  simp only [if_true, Rng.pop, Option.map_some] at hrun
  rw [Bridge.sandeel_vertical] at hrun
  refine ⟨_, _, hrun, rfl, ?_, rfl, fun a b => ?_⟩
  · have := C20.normal_step_sq_single hS e.D e.dt xi (by lits; positivity)
    lits
    exact this
  · unfold Gen.sandeel_vertical Gen.sandeel_reflexive fmin fmax
    lits
    simp only [decide_eq_true_eq]
    unfold fmin at b
    set w := z + xi * sqrt (2 * e.D * e.dt)
    set m := (if e.sampleDepth x y < e.maxdepth then e.sampleDepth x y else e.maxdepth)
    rw [if_neg (not_lt.mpr a), if_neg (not_lt.mpr b), if_neg (not_lt.mpr a), if_neg (not_lt.mpr b)]

example := c20_sandeel_mixing_step RealInst.sqrtLaws
  (⟨0.001, 600, 100, 0, 0, fun _ _ => 5, fun _ _ _ => 5, fun _ _ => 50, fun _ _ => some (some 10), false⟩ : SandeelEnv ℝ)
  0 0 10 0.3 [] [] (by norm_num) (by norm_num)

end c20bio

theorem c20_genSubsteps_one {α : Type} [Field α] [LinearOrder α] [IsStrictOrderedRing α] [HasSqrt α] [HasFloor α]
    (dt vdt : α) (fuel : Nat) (h0 : 0 < dt) (h1 : dt ≤ vdt) :
    c20_genSubsteps dt vdt (fuel + 1) 0.0 = [dt] := by
  unfold c20_genSubsteps Gen.chem_labolle_time fmin
  lits
  simp only [h0, if_true, zero_add, if_neg (not_lt.mpr h1), sub_zero]
  cases fuel with
  | zero => rfl
  | succ n => unfold c20_genSubsteps; simp

/-- the new depth the interpreted `diffuse_labolle` returns for the single draw `u` -/
noncomputable def c20_chemLabolleStep [HasFloor ℝ] (e : Chemicals.Env ℝ) (dt vdt dz vmax x y : ℝ) (fuel : Nat) (u z : ℝ) : ℝ :=
  (((Seq.runChemDiffuseLabolle Gen.chem_diffuse_labolle_seq e dt vdt dz vmax x y fuel [u] z).join).map
    (fun r => r.1)).getD 0

/-- … hence **C20 (well-mixed) for LaBolle with constant `K`**, when `dt ≤ vertdiff_dt` (one sub-step): uniform depth
× uniform draw ↦ uniform depth.  PARTIAL in the number of sub-steps: for `n > 1` sub-steps the result is the `n`-fold
composition of this measure-preserving step with independent draws, which is not formalised. -/
theorem c20_chem_labolle_constant_K_wellmixed_one_substep [HasFloor ℝ] (e : Chemicals.Env ℝ)
    (dt vdt dz vmax x y k : ℝ) (fuel : Nat) (hK : ∀ zz, e.vdiff x y zz = k) (hdt : 0 < dt) (hv : dt ≤ vdt)
    (hH : 0 ≤ e.depth x y)
    (hstep : Real.sqrt (2 * fmin k vmax) * Real.sqrt (3 * dt) ≤ e.depth x y) :
    ((volume.restrict (Icc (0 : ℝ) 1)).prod (volume.restrict (Icc 0 (e.depth x y)))).map
        (fun p => c20_chemLabolleStep e dt vdt dz vmax x y (fuel + 1) p.1 p.2)
      = volume.restrict (Icc 0 (e.depth x y)) := by
  have h1 := c20_genSubsteps_one dt vdt fuel hdt hv
  have hfun : (fun p : ℝ × ℝ => c20_chemLabolleStep e dt vdt dz vmax x y (fuel + 1) p.1 p.2)
      = fun p => c20_chemConstStep dt (fmin k vmax) (e.depth x y) p.1 p.2 := by
    funext p
    unfold c20_chemLabolleStep c20_chemConstStep
    rw [c20_chem_labolle_constant_K_is_const_walk e dt vdt dz vmax x y k (fuel + 1) [p.1] p.2 hK
      (by rw [h1]; simp), h1]
    simp only [c20_chemConstIter, c20_chem_diffuse_const_is_reflected_walk, Option.join_some, Option.map_some,
      Option.getD_some]
  rw [hfun]
  exact (c20_chem_diffuse_const_wellmixed (e.depth x y) (fmin k vmax) dt hH hstep).2

/-- a 50 m column with constant diffusivity `0.001` -/
noncomputable def c20_exChemEnv : Chemicals.Env ℝ :=
  ⟨fun _ _ => 50, fun _ _ _ => 0, fun _ _ _ => 0.001, fun _ _ _ => 1, fun _ _ => 800, fun _ _ => 800, fun _ _ => true⟩
example := c20_chem_labolle_constant_K_is_const_walk c20_exChemEnv 600 600 0 0.01 0 0 0.001 1 [0.25] 10 (fun _ => rfl)
  (by rw [c20_genSubsteps_one _ _ 0 (by norm_num) (by norm_num)]; simp)
example := c20_chem_labolle_constant_K_wellmixed_one_substep c20_exChemEnv 600 600 0 0.01 0 0 0.001 3 (fun _ => rfl)
  (by norm_num) (by norm_num) (by norm_num [c20_exChemEnv])
  (by
    have : fmin (0.001 : ℝ) 0.01 = 0.001 := by norm_num [fmin]
    rw [this]
    exact c20_ex_step_le _ _ _ (by norm_num) (by norm_num [c20_exChemEnv]) (by norm_num [c20_exChemEnv]))

end OnCode
