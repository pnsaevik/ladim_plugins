import LadimProofs.C08
import LadimProofs.Bridge.Settle
import LadimProofs.Bridge.Seq
import LadimProofs.Bridge.Mixing
import LadimProofs.Bridge.SedimentSeq
import LadimProofs.Bridge.SedFactorySeq
/-!
# C08 end to end — the clauses of the property about the interpretation of the current source

Property C08 — Sediment particles settle, rest and resuspend according to bed shear stress

STATEMENT: A suspended particle sinks by exactly sinking velocity x time step (plus the configured mixing), and when it reaches the sea bed it is placed exactly on the bed and marked settled; a settled particle keeps its position until the bed shear stress (1000 x 0.003 x bottom speed squared) reaches the local critical stress - constant or derived from the grain-size map cell nearest to it - and never resuspends when no critical stress is configured. Particles that have rested on the bed before are flagged distinctly from never-settled ones when the activity flag can hold more than two values, and in the mining variant without resuspension settled particles leave the simulation.

QUANTIFIER: all mixtures of suspended / settled / previously-settled particles, all depths, bottom speeds, sinking velocities, critical stresses (absent, 0, constant, grain-size bin/poly maps), mixing methods (none, constant, bounded-linear) with any random draws, over any number of consecutive updates

## What the theorems speak about

`c08SedUpdate` / `c08MineUpdate` (defined here) are the TWO-LEVEL interpretation of `update_ibm`: the generated statement
sequence `Gen.sed_update_seq` / `Gen.mine_update_seq` is run by `Seq.run`; every `call` statement whose method body has
a generated sequence runs the interpretation of THAT sequence (`runSedInitialize Gen.sed_initialize_seq`,
`runSedResuspend Gen.sed_resuspend_seq` — which in turn runs `Gen.sed_shear_velocity_seq` —, `runSedDiffuse
Gen.sed_diffuse_seq`, `runSedSink Gen.sed_sink_seq`, `runSedBury Gen.sed_bury_seq`, `runSedKillOld
Gen.sed_kill_old_seq`; mine likewise), the shear-velocity cache `(self._ustar_tstep, self._ustar)` being handed from
method to method; the remaining statements (assignments of `update_ibm`, mine's `reposition` and `store`, which do not
touch the vertical state) are those of `Seq.sedStep` / `Seq.mineStep`.  A raise or an unknown text anywhere makes the
result `none`.  No hand-written model function occurs in the statements of the `c08_…` theorems; depths and stresses
are written with the generated windows (`Gen.sed_mix_const`, `Gen.sed_mix_bounded_linear`, `Gen.sed_turbulence`,
`Gen.sed_ustar`, `Gen.mine_mix`, `Gen.mine_sink`, `Gen.mine_sink_vadv`, `Gen.sed_taucrit_poly`) or in closed form.
The proofs go through the bridges (`Bridge.sed_*_seq`, `Bridge.mine_*_seq`, `Bridge.sed_get_taucrit_fn`,
`Bridge.sed_ctor_config`, …) and the model theorems of `LadimProofs/C08.lean` (private lemmas `c08aux_…`).

Per-particle reading (inherited from the interpreters): arrays are the particle's element, masks its condition; the
particles of a mixture do not interact except through `numOthers` (number of OTHER new particles seen by
`initialize`), which is universally quantified.  Parameters of the interpretation, not interpreted further:
`e.H` = `grid.sample_depth`, `e.ub`, `e.vb` = `forcing.velocity` at the bed, `e.taucrit` = the particle's element of
`self.taucrit_fn(lon, lat)` (`none` iff `self.taucrit_fn is None`; section `ctor` derives it from the interpreted
constructor through `c08TauAt`), `e.newSink` = the value `sinkvel(n)` hands to the particle, `xi` = the particle's
normal draw, `c.carrier` = what the flag array can hold (`numeric`: 0, 1, 2; `bool`: every non-zero value reads 1).

## Hypotheses (all are side conditions of the property; the bridge that forces each is named)

* `hc : cache.tstep < t` — the IBM has not evaluated the bottom shear velocity at step `t` yet (the constructor sets
  the counter to -1, LADiM's step counter increases from update to update; in histories: the steps are strictly
  increasing).  Forced by `Bridge.sed_resuspend_seq`, `Bridge.sed_diffuse_seq`, `Bridge.mine_resuspend_seq`
  (`Coherent cache t (ustar ub vb)`): a cache filled at the same step by ANOTHER velocity would be returned as is
  (`c08_sed_shear_velocity_same_step`).
* `hs : c.carrier = .bool → p.active ≤ 1` — the incoming flag is a value the flag array can hold.  Forced by
  `Bridge.sed_call_resuspend` / `Bridge.mine_resuspend_seq` (`c.carrier.store s.active = s.active`).
* mine, `hA : c.hasActive = true ∨ c.taucrit = none` — with resuspension configured the state must have the variable
  `active`; otherwise the code raises (`c08_mine_resuspension_needs_active_variable`, `Bridge.mine_resuspend_seq_raises`).
* `hS : SqrtLaws α` — `sqrt x * sqrt x = x` for `0 ≤ x`: needed to write the stress `ustar * ustar * 1000` as
  `1000 * (0.003 * (u*u + v*v))` (`C08.tau_formula`); `hT : C08.TruncLaw α` — `np.int32` truncates non-negative
  numbers; both hold for `ℝ` (`RealInst.sqrtLaws`, section `examples`).
* grain-size raster: the file opens, has the variable, both axes have at least two points and the raster at least
  one cell per axis — otherwise the code raises (`Bridge.sed_get_taucrit_fn_grain_size`).

## Not covered

* `…_partial` (grain-size raster): "the cell nearest to it" is shown for positions inside the raster extent, beyond the
  last coordinate (last cell) and within half a cell of the first coordinate (first cell).  For positions more than half
  a cell before the first coordinate the index is only shown to lie in the raster: `C08.TruncLaw` says nothing about
  `np.int32` of negative numbers.
* `grid.lonlat`, `grid.sample_depth`, `forcing.velocity`, the spline of `sinkvel` are parameters; the value `None` of
  `self._ustar` before the first evaluation is not modelled (as in `SedimentSeq.lean`).

Remark on "resuspended exactly when τ ≥ τ_crit": the method `resuspend` sets the flag to `True` exactly then
(`c08_sed_resuspend_method`); a particle lifted off the bed that sinks below the bed again in the same step is buried
again by `bury`, so the flag AFTER the update is non-zero iff τ ≥ τ_crit and `zs ≤ H` (`c08_sed_resuspends_iff`,
`c08_mine_resuspends_iff`) — without mixing and with a positive sinking velocity a resting particle is re-buried at once.
-/
open Ladim Ladim.Seq Ladim.Sed Ladim.Grain

set_option linter.unusedSectionVars false
set_option linter.unusedVariables false
set_option linter.unusedSimpArgs false
set_option linter.unnecessarySeqFocus false
namespace OnCode
variable {α : Type} [Field α] [LinearOrder α] [IsStrictOrderedRing α] [HasSqrt α]

/-- the variables of one sediment particle together with the shear-velocity cache -/
abbrev C08SedSt (α : Type) := SedSt α × Cache α

/-- one statement of the sedimentation `update_ibm`: a `call` of a method runs the interpretation of the generated
sequence of that method's body (a raise, `some none`, ends the run with `none`); the flag and the cache it returns
are stored; any other call is unknown; the assignments are those of `Seq.sedStep` -/
def c08SedStep (c : Sed.Config α) (t : Int) (e : Sed.Env α) (xi : α) (numOthers : Nat) (s : C08SedSt α) :
    String → String → Option (C08SedSt α)
  | "call", "initialize" =>
    (runSedInitialize Gen.sed_initialize_seq numOthers e.newSink s.1.sinkVel).join.map
      (fun v => ({ s.1 with sinkVel := v }, s.2))
  | "call", "resuspend" =>
    (runSedResuspend Gen.sed_resuspend_seq s.2 t e s.1.active).join.map
      (fun r => ({ s.1 with active := r.1 }, r.2))
  | "call", "diffuse" =>
    (runSedDiffuse Gen.sed_diffuse_seq c s.2 t e xi s.1.active s.1.z).join.map
      (fun r => ({ s.1 with z := r.1 }, r.2))
  | "call", "sink" =>
    (runSedSink Gen.sed_sink_seq c.dt s.1.sinkVel s.1.active s.1.z).join.map
      (fun z => ({ s.1 with z := z }, s.2))
  | "call", "bury" =>
    (runSedBury Gen.sed_bury_seq e.H s.1.z s.1.active s.1.alive).join.map
      (fun r => ({ s.1 with z := r.1, active := r.2.1, alive := r.2.2 }, s.2))
  | "call", "kill_old" =>
    (runSedKillOld Gen.sed_kill_old_seq c.stateDt c.lifespan s.1.age s.1.alive).join.map
      (fun r => ({ s.1 with age := r.1, alive := r.2 }, s.2))
  | "call", _ => none
  | k, tx => (Seq.sedStep c e xi s.1 k tx).map (fun s' => (s', s.2))

/-- **the interpreted `update_ibm` of the sedimentation IBM** for one particle at step `t` (two levels: the statement
sequence of `update_ibm`, and of every method it calls): the particle and the cache afterwards -/
def c08SedUpdate (c : Sed.Config α) (t : Int) (e : Sed.Env α) (xi : α) (numOthers : Nat) (cache : Cache α)
    (p : Sed.Particle α) : Option (Sed.Particle α × Cache α) :=
  (Seq.run (fun s => Seq.sedAtom s.1) (c08SedStep c t e xi numOthers) Gen.sed_update_seq (SedSt.init p, cache)).map
    (fun s => (s.1.particle, s.2))

private theorem c08aux_store_resuspend (c : Sed.Config α) (e : Sed.Env α) (a : Nat) (hs : c.carrier.store a = a) :
    c.carrier.store (resuspend e a) = resuspend e a := by
  unfold resuspend
  cases e.taucrit with
  | none => exact hs
  | some tc => by_cases hle : tc ≤ shearStress (ustar e.ub e.vb) <;> simp [hle, hs, Bridge.store_one]

private theorem c08aux_storable_iff (k : Carrier) (a : Nat) : k.store a = a ↔ (k = .bool → a ≤ 1) := by
  cases k <;> simp [Carrier.store]
  split_ifs <;> omega

/-- a cache that is not ahead of step `t` and may be used at `t` stays so when it is looked up at `t` -/
private theorem c08aux_cache_get {k : Cache α} {t : Int} {v : α} (h : k.tstep ≤ t ∧ Bridge.Coherent k t v) :
    (k.get t v).1.tstep ≤ t ∧ Bridge.Coherent (k.get t v).1 t v := by
  refine ⟨?_, Or.inr (Bridge.coherent_get h.2).1⟩
  unfold Cache.get
  split_ifs
  exacts [le_refl t, h.1]

/-- composition of the bridges: the two-level interpretation is the model's `Sed.update` -/
private theorem c08aux_sed_code_eq_model (c : Sed.Config α) (t : Int) (e : Sed.Env α) (xi : α) (n : Nat) (cache : Cache α)
    (p : Sed.Particle α) (hc : cache.tstep < t) (hs' : c.carrier = .bool → p.active ≤ 1) :
    ∃ k, c08SedUpdate c t e xi n cache p = some (Sed.update c e xi p, k) ∧ k.tstep ≤ t := by
  have hst := c08aux_store_resuspend c e p.active ((c08aux_storable_iff _ _).mpr hs')
  have h0 : cache.tstep ≤ t ∧ Bridge.Coherent cache t (ustar e.ub e.vb) := ⟨hc.le, Or.inl hc⟩
  -- the cache `resuspend` hands to `diffuse`
  have h1 : (if e.taucrit.isSome then (cache.get t (ustar e.ub e.vb)).1 else cache).tstep ≤ t ∧
      Bridge.Coherent (if e.taucrit.isSome then (cache.get t (ustar e.ub e.vb)).1 else cache) t (ustar e.ub e.vb) := by
    split_ifs
    exacts [c08aux_cache_get h0, h0]
  have h2 := (c08aux_cache_get h1).1
  simp [c08SedUpdate, Seq.run, Seq.guardVal, c08SedStep.eq_def, Seq.sedStep.eq_def, Gen.sed_update_seq,
    Bridge.sed_initialize_seq, Bridge.sed_resuspend_seq _ _ _ _ h0.2, Bridge.sed_diffuse_seq _ _ _ _ _ _ _ h1.2,
    Bridge.sed_sink_seq, Bridge.sed_bury_seq, Bridge.sed_kill_old_seq, SedSt.init, SedSt.particle, Sed.update, hst]
  cases c.mixing
  exacts [h1.1, h2, h2]

/-- the variables of one mine particle together with the shear-velocity cache -/
abbrev C08MineSt (α : Type) := MineSt α × Cache α

/-- one statement of the mine `update_ibm`: `resuspend`, `diffuse`, `sink`, `bury`, `kill_old` run the interpretation
of the generated sequence of the method body; `reposition`, `store` and the assignments are those of `Seq.mineStep` -/
def c08MineStep (c : Mine.Config α) (t : Int) (e : Mine.Env α) (xi : α) (s : C08MineSt α) :
    String → String → Option (C08MineSt α)
  | "call", "resuspend" =>
    (runMineResuspend Gen.mine_resuspend_seq c s.2 t e s.1.act).join.map
      (fun r => ({ s.1 with act := r.1 }, r.2))
  | "call", "diffuse" =>
    (runMineDiffuse Gen.mine_diffuse_seq c.vdiff c.dt xi s.1.act s.1.z).join.map
      (fun z => ({ s.1 with z := z }, s.2))
  | "call", "sink" =>
    (runMineSink Gen.mine_sink_seq c.dt s.1.sinkVel e.w c.vadv s.1.act s.1.z).join.map
      (fun z => ({ s.1 with z := z }, s.2))
  | "call", "bury" =>
    (runMineBury Gen.mine_bury_seq c e.H s.1.z s.1.act s.1.alive).join.map
      (fun r => ({ s.1 with z := r.1, act := r.2.1, alive := r.2.2 }, s.2))
  | "call", "kill_old" =>
    (runMineKillOld Gen.mine_kill_old_seq c.stateDt c.lifespan s.1.age s.1.alive).join.map
      (fun r => ({ s.1 with age := r.1, alive := r.2 }, s.2))
  | k, tx => (Seq.mineStep c e xi s.1 k tx).map (fun s' => (s', s.2))

/-- **the interpreted `update_ibm` of the mine IBM** for one particle at step `t` -/
def c08MineUpdate (c : Mine.Config α) (t : Int) (e : Mine.Env α) (xi : α) (cache : Cache α)
    (p : Sed.Particle α) : Option (Sed.Particle α × Cache α) :=
  (Seq.run (fun s => Seq.mineAtom c s.1) (c08MineStep c t e xi) Gen.mine_update_seq (MineSt.init c p, cache)).map
    (fun s => (MineSt.particle c p s.1, s.2))

/-- composition of the bridges: the two-level interpretation is the model's `Sed.Mine.update` -/
private theorem c08aux_mine_code_eq_model (c : Mine.Config α) (t : Int) (e : Mine.Env α) (xi : α) (cache : Cache α)
    (p : Sed.Particle α) (hc : cache.tstep < t) (hA : c.hasActive = true ∨ c.taucrit = none)
    (hs' : c.hasActive = true → c.carrier = .bool → p.active ≤ 1) :
    ∃ k, c08MineUpdate c t e xi cache p = some (Mine.update c e xi p, k) ∧ k.tstep ≤ t := by
  have hs : c.hasActive = true → c.carrier.store p.active = p.active :=
    fun h => (c08aux_storable_iff _ _).mpr (hs' h)
  have hk := (c08aux_cache_get (v := ustar e.ub e.vb) ⟨hc.le, Or.inl hc⟩).1
  have hr := fun a hs => Bridge.mine_resuspend_seq c cache t e a hA hs (Or.inl hc)
  have ht : c.hasActive = false → c.taucrit = none := fun h => hA.resolve_left (by simp [h])
  rcases hh : c.hasActive with _ | _ <;>
  simp [c08MineUpdate, Seq.run, Seq.guardVal, Seq.mineAtom, c08MineStep.eq_def, Seq.mineStep.eq_def,
    Gen.mine_update_seq, hr, Bridge.store_one, hs, Bridge.mine_diffuse_seq, Bridge.mine_sink_seq,
    Bridge.mine_bury_seq, Bridge.mine_kill_old_seq, MineSt.init, MineSt.particle, Mine.update, Mine.resusp, ht, hh,
    hc.le]
  split_ifs
  exacts [hk, hc.le]

/-! ## sedimentation: the clauses -/

/-- depth of a mobile particle after `diffuse`, in the generated windows of the configured mixing function -/
def c08SedMixed (c : Sed.Config α) (e : Sed.Env α) (xi z : α) : α :=
  match c.mixing with
  | .none => z
  | .const v => Gen.sed_mix_const z e.H c.dt v xi
  | .boundedLinear m =>
    Gen.sed_mix_bounded_linear z e.H c.dt
      (Gen.sed_turbulence (Gen.sed_ustar e.ub e.vb) (max (e.H - z) 0) m).1
      (Gen.sed_turbulence (Gen.sed_ustar e.ub e.vb) (max (e.H - z) 0) m).2 xi

/-- depth of a mobile particle after `diffuse` and `sink`, before `bury` -/
def c08SedSunk (c : Sed.Config α) (e : Sed.Env α) (xi : α) (p : Sed.Particle α) : α :=
  c08SedMixed c e xi p.z + c.dt * (if p.sinkVel = 0 then e.newSink else p.sinkVel)

private theorem c08aux_isZero (x : α) : isZero x = true ↔ x = 0 := by
  unfold isZero
  lits
  simp only [Bool.not_eq_true', Bool.or_eq_false_iff, decide_eq_false_iff_not, not_lt]
  constructor
  · rintro ⟨h1, h2⟩; exact le_antisymm h2 h1
  · rintro rfl; simp

private theorem c08aux_sv (e : Sed.Env α) (p : Sed.Particle α) :
    C08.sv e p = if p.sinkVel = 0 then e.newSink else p.sinkVel := by
  unfold C08.sv
  by_cases h : p.sinkVel = 0
  · simp [h, (c08aux_isZero _).mpr]
  · have : isZero p.sinkVel = false := by
      rw [← Bool.not_eq_true]; exact fun h' => h ((c08aux_isZero _).mp h')
    simp [h, this]

private theorem c08aux_diffuse (c : Sed.Config α) (e : Sed.Env α) (xi : α) (a : Nat) (z : α) (ha : a ≠ 0) :
    diffuse c e xi a z = c08SedMixed c e xi z := by
  -- the bridges of `Bridge/Mixing.lean` take an instance `[HasFloor α]` that they do not use: any will do
  let _ : HasFloor α := ⟨id⟩
  unfold diffuse c08SedMixed
  rw [if_neg ha]
  cases c.mixing with
  | none => rfl
  | const v => exact Bridge.sed_mix_const ..
  | boundedLinear m =>
    rw [← lit_0 (α := α), ← fmax_eq_max, ← Bridge.sed_ustar]
    exact Bridge.sed_mix_bounded_linear ..

private theorem c08aux_store_ne (k : Carrier) (n : Nat) (hn : n ≠ 0) : k.store n ≠ 0 := by
  cases k <;> simp [Carrier.store, hn]

private theorem c08aux_a1_ne (c : Sed.Config α) (e : Sed.Env α) (p : Sed.Particle α) (ha : p.active ≠ 0) :
    C08.a1 c e p ≠ 0 := by
  refine c08aux_store_ne _ _ ?_
  unfold resuspend
  split
  · exact ha
  · split_ifs
    exacts [one_ne_zero, ha]

private theorem c08aux_zSunk (c : Sed.Config α) (e : Sed.Env α) (xi : α) (p : Sed.Particle α) (ha : C08.a1 c e p ≠ 0) :
    C08.zSunk c e xi p = c08SedSunk c e xi p := by
  rw [C08.sink_exact_mixing c e xi p ha, c08aux_diffuse c e xi _ _ ha, c08aux_sv]; rfl

/-- the value the flag array stores for "mobile, has rested on the bed before" -/
def c08Flag2 (k : Carrier) : Nat := if k = .numeric then 2 else 1

private theorem c08aux_store2 (k : Carrier) : k.store 2 = c08Flag2 k := by cases k <;> rfl

/-- **"A suspended particle sinks by exactly sinking velocity × time step (plus the configured mixing), and when it
reaches the sea bed it is placed exactly on the bed and marked settled."**  For a particle that is not settled
(`active ≠ 0`: never settled or has rested before), every mixing method, every draw: the interpreted update returns;
the sinking velocity is the stored one (a new particle, `sink_vel == 0`, gets `e.newSink`); with `zs = c08SedSunk` =
(depth after the configured mixing, in the generated windows) + `dt × w`: if `zs ≤ H` the particle is at `zs` and stays
mobile, if `zs > H` it is at `H` exactly and flagged 0.  Hypotheses: `hc`, `hs` (header). -/
theorem c08_sed_suspended_sinks_and_settles (c : Sed.Config α) (t : Int) (e : Sed.Env α) (xi : α) (n : Nat)
    (cache : Cache α) (p : Sed.Particle α) (hc : cache.tstep < t) (hs : c.carrier = .bool → p.active ≤ 1)
    (ha : p.active ≠ 0) :
    ∃ q k, c08SedUpdate c t e xi n cache p = some (q, k) ∧
      q.sinkVel = (if p.sinkVel = 0 then e.newSink else p.sinkVel) ∧
      (c08SedSunk c e xi p ≤ e.H → q.z = c08SedSunk c e xi p ∧ q.active ≠ 0) ∧
      (e.H < c08SedSunk c e xi p → q.z = e.H ∧ q.active = 0) := by
  obtain ⟨k, hk, _⟩ := c08aux_sed_code_eq_model c t e xi n cache p hc hs
  have ha1 := c08aux_a1_ne c e p ha
  refine ⟨_, k, hk, ?_, ?_, ?_⟩
  · rw [← c08aux_sv]; rfl
  · intro hz
    rw [← c08aux_zSunk c e xi p ha1] at hz ⊢
    exact C08.stays_suspended c e xi p ha1 hz
  · intro hz
    rw [← c08aux_zSunk c e xi p ha1] at hz
    exact C08.settle_on_bed c e xi p ha1 hz

/-- the same without mixing, above the bed: the new depth is `z + dt × w` exactly -/
theorem c08_sed_sinks_exactly_no_mixing (c : Sed.Config α) (t : Int) (e : Sed.Env α) (xi : α) (n : Nat)
    (cache : Cache α) (p : Sed.Particle α) (hc : cache.tstep < t) (hs : c.carrier = .bool → p.active ≤ 1)
    (ha : p.active ≠ 0) (hm : c.mixing = .none)
    (hz : p.z + c.dt * (if p.sinkVel = 0 then e.newSink else p.sinkVel) ≤ e.H) :
    ∃ q k, c08SedUpdate c t e xi n cache p = some (q, k) ∧
      q.z = p.z + c.dt * (if p.sinkVel = 0 then e.newSink else p.sinkVel) ∧ q.active ≠ 0 := by
  obtain ⟨q, k, hk, _, h1, _⟩ := c08_sed_suspended_sinks_and_settles c t e xi n cache p hc hs ha
  have hsunk : c08SedSunk c e xi p = p.z + c.dt * (if p.sinkVel = 0 then e.newSink else p.sinkVel) := by
    unfold c08SedSunk c08SedMixed; rw [hm]
  rw [hsunk] at h1
  exact ⟨q, k, hk, h1 hz⟩

/-- **"a settled particle keeps its position until the bed shear stress (1000 × 0.003 × bottom speed squared) reaches
the local critical stress … and never resuspends when no critical stress is configured"**: a settled particle
(`active = 0`) with no critical stress, or with `1000·0.003·(u² + v²) < taucrit`, has the same depth and flag 0 after
the update, whatever mixing, draw and sinking velocity.  Hypotheses: `hc`; `hS` (header). -/
theorem c08_sed_settled_rests (hS : SqrtLaws α) (c : Sed.Config α) (t : Int) (e : Sed.Env α) (xi : α) (n : Nat)
    (cache : Cache α) (p : Sed.Particle α) (hc : cache.tstep < t) (h0 : p.active = 0)
    (hq : e.taucrit = none ∨ ∃ tc, e.taucrit = some tc ∧ 1000 * (0.003 * (e.ub * e.ub + e.vb * e.vb)) < tc) :
    ∃ q k, c08SedUpdate c t e xi n cache p = some (q, k) ∧ q.z = p.z ∧ q.active = 0 := by
  obtain ⟨k, hk, _⟩ := c08aux_sed_code_eq_model c t e xi n cache p hc (fun _ => h0.trans_le zero_le_one)
  refine ⟨_, k, hk, ?_⟩
  apply C08.settled_rests c e xi p h0
  rw [C08.tau_formula hS]
  exact hq

/-- **"never resuspends when no critical stress is configured"** (no law of `sqrt` needed) -/
theorem c08_sed_never_resuspends_without_taucrit (c : Sed.Config α) (t : Int) (e : Sed.Env α) (xi : α) (n : Nat)
    (cache : Cache α) (p : Sed.Particle α) (hc : cache.tstep < t) (h0 : p.active = 0) (hq : e.taucrit = none) :
    ∃ q k, c08SedUpdate c t e xi n cache p = some (q, k) ∧ q.z = p.z ∧ q.active = 0 := by
  obtain ⟨k, hk, _⟩ := c08aux_sed_code_eq_model c t e xi n cache p hc (fun _ => h0.trans_le zero_le_one)
  exact ⟨_, k, hk, C08.settled_rests c e xi p h0 (Or.inl hq)⟩

/-- the flag `resuspend` leaves when the stress reaches the critical stress -/
private theorem c08aux_a1_lifted (hS : SqrtLaws α) (c : Sed.Config α) (e : Sed.Env α) (p : Sed.Particle α) (tc : α)
    (ht : e.taucrit = some tc) (hle : tc ≤ 1000 * (0.003 * (e.ub * e.ub + e.vb * e.vb))) : C08.a1 c e p = 1 := by
  unfold C08.a1 resuspend
  rw [ht]
  simp only [C08.tau_formula hS, hle, if_true, Bridge.store_one]

/-- **resuspension, exact rule**: a settled particle with critical stress `tc` is mobile after the update iff
`tc ≤ 1000·0.003·(u² + v²)` and it does not sink below the bed again in the same step (`zs ≤ H`); when the stress
reaches `tc` it is mixed and sinks like a suspended particle, and its flag is the code's "has rested before" value:
2 in a numeric flag array, 1 (`True`) in a boolean one (`c08Flag2`); re-buried: at `H`, flag 0. -/
theorem c08_sed_resuspends_iff (hS : SqrtLaws α) (c : Sed.Config α) (t : Int) (e : Sed.Env α) (xi : α) (n : Nat)
    (cache : Cache α) (p : Sed.Particle α) (tc : α) (hc : cache.tstep < t) (h0 : p.active = 0)
    (ht : e.taucrit = some tc) :
    ∃ q k, c08SedUpdate c t e xi n cache p = some (q, k) ∧
      (q.active ≠ 0 ↔ (tc ≤ 1000 * (0.003 * (e.ub * e.ub + e.vb * e.vb)) ∧ c08SedSunk c e xi p ≤ e.H)) ∧
      (tc ≤ 1000 * (0.003 * (e.ub * e.ub + e.vb * e.vb)) →
        (c08SedSunk c e xi p ≤ e.H → q.z = c08SedSunk c e xi p ∧ q.active = c08Flag2 c.carrier) ∧
        (e.H < c08SedSunk c e xi p → q.z = e.H ∧ q.active = 0)) := by
  obtain ⟨k, hk, _⟩ := c08aux_sed_code_eq_model c t e xi n cache p hc (fun _ => h0.trans_le zero_le_one)
  have ha1 := fun hle => ne_of_eq_of_ne (c08aux_a1_lifted hS c e p tc ht hle) one_ne_zero
  refine ⟨_, k, hk, ?_, fun hle => ?_⟩
  · rw [C08.resuspends_iff c e xi p tc h0 ht, C08.tau_formula hS, not_lt]
    exact and_congr_right fun hle => by rw [c08aux_zSunk c e xi p (ha1 hle)]
  · rw [← c08aux_zSunk c e xi p (ha1 hle)]
    refine ⟨fun hz => ⟨(C08.stays_suspended c e xi p (ha1 hle) hz).1, ?_⟩, C08.settle_on_bed c e xi p (ha1 hle)⟩
    have hb : bury e.H (C08.a1 c e p) (C08.zSunk c e xi p) = (C08.zSunk c e xi p, 1) := by
      unfold bury; simp [ha1 hle, not_lt.mpr hz]
    rw [C08.update_active, hb, ← c08aux_store2]
    simp [h0]

/-! ### flags, histories -/

private theorem c08aux_bury_flag (H : α) (a : Nat) (z : α) : (bury H a z).2 ≤ 1 := by
  unfold bury; split_ifs <;> simp

/-- the flag `q` after the last statement of `update_ibm`: `x` is the flag `bury` leaves, `a` the incoming one -/
private theorem c08aux_flag_values (k : Carrier) (x a q : Nat) (hx : x ≤ 1)
    (hq : q = if x ≠ 0 ∧ a ≠ 1 then k.store 2 else x) :
    (k = .numeric → q ≤ 2 ∧ (q = 2 ↔ (q ≠ 0 ∧ a ≠ 1)) ∧ (a ≠ 1 → q ≠ 1)) ∧ (k = .bool → q ≤ 1) := by
  subst hq
  obtain rfl | rfl : x = 0 ∨ x = 1 := by omega
  · simp
  · by_cases ha : a = 1 <;> cases k <;> simp [ha, Carrier.store]

/-- **"Particles that have rested on the bed before are flagged distinctly from never-settled ones when the activity
flag can hold more than two values"**: after an update a numeric flag is 0, 1 or 2; it is 2 exactly for the mobile
particles whose flag was not 1 before (settled or rested before); a flag that is not 1 never becomes 1 again; a
boolean flag stays in {0, 1}.  Also: the cache counter afterwards is at most `t`. -/
theorem c08_sed_flag_values (c : Sed.Config α) (t : Int) (e : Sed.Env α) (xi : α) (n : Nat)
    (cache : Cache α) (p : Sed.Particle α) (hc : cache.tstep < t) (hs : c.carrier = .bool → p.active ≤ 1) :
    ∃ q k, c08SedUpdate c t e xi n cache p = some (q, k) ∧ k.tstep ≤ t ∧
      (c.carrier = .numeric → q.active ≤ 2 ∧ (q.active = 2 ↔ (q.active ≠ 0 ∧ p.active ≠ 1)) ∧
        (p.active ≠ 1 → q.active ≠ 1)) ∧
      (c.carrier = .bool → q.active ≤ 1) := by
  obtain ⟨k, hk, hk'⟩ := c08aux_sed_code_eq_model c t e xi n cache p hc hs
  exact ⟨_, k, hk, hk', c08aux_flag_values _ _ _ _ (c08aux_bury_flag _ _ _) (C08.update_active c e xi p)⟩

/-- consecutive updates of one particle: step counter, environment, normal draw and number of other new particles
of every update; the cache is handed from update to update -/
def c08SedRun (c : Sed.Config α) : List (Int × Sed.Env α × α × Nat) → Sed.Particle α × Cache α →
    Option (Sed.Particle α × Cache α)
  | [], s => some s
  | st :: rest, s => (c08SedUpdate c st.1 st.2.1 st.2.2.1 st.2.2.2 s.2 s.1).bind (c08SedRun c rest)

/-- **flags over any number of consecutive updates** (steps strictly increasing, all after the cached step): the
interpreted run returns, the flag stays in its value set ({0,1,2} numeric, {0,1} boolean), and a particle that has
rested on the bed (flag ≠ 1) is never flagged "never settled" again. -/
theorem c08_sed_flag_history (c : Sed.Config α) (steps : List (Int × Sed.Env α × α × Nat))
    (hinc : steps.Pairwise (fun a b => a.1 < b.1)) :
    ∀ (cache : Cache α) (p : Sed.Particle α), (∀ st ∈ steps, cache.tstep < st.1) →
      (c.carrier = .bool → p.active ≤ 1) →
      ∃ q k, c08SedRun c steps (p, cache) = some (q, k) ∧
        (c.carrier = .numeric → (p.active ≤ 2 → q.active ≤ 2) ∧ (p.active ≠ 1 → q.active ≠ 1)) ∧
        (c.carrier = .bool → q.active ≤ 1) := by
  induction steps with
  | nil =>
    intro cache p _ hs
    exact ⟨p, cache, rfl, fun _ => ⟨id, id⟩, hs⟩
  | cons st rest ih =>
    intro cache p h0 hs
    rw [List.pairwise_cons] at hinc
    obtain ⟨q1, k1, h1, hk1, hn1, hb1⟩ :=
      c08_sed_flag_values c st.1 st.2.1 st.2.2.1 st.2.2.2 cache p (h0 st (by simp)) hs
    obtain ⟨q, k, h2, hn2, hb2⟩ := ih hinc.2 k1 q1
      (fun s hs' => lt_of_le_of_lt hk1 (hinc.1 s hs')) hb1
    refine ⟨q, k, ?_, ?_, hb2⟩
    · simp only [c08SedRun, h1, Option.bind_some, h2]
    · intro hn
      exact ⟨fun _ => (hn2 hn).1 (hn1 hn).1, fun hp => (hn2 hn).2 ((hn1 hn).2.2 hp)⟩

/-- **a settled particle keeps its position over any number of consecutive updates** during which the bed shear stress
stays below the critical stress (or none is configured) -/
theorem c08_sed_rests_history (hS : SqrtLaws α) (c : Sed.Config α) (steps : List (Int × Sed.Env α × α × Nat))
    (hinc : steps.Pairwise (fun a b => a.1 < b.1))
    (hq : ∀ st ∈ steps, st.2.1.taucrit = none ∨ ∃ tc, st.2.1.taucrit = some tc ∧
      1000 * (0.003 * (st.2.1.ub * st.2.1.ub + st.2.1.vb * st.2.1.vb)) < tc) :
    ∀ (cache : Cache α) (p : Sed.Particle α), (∀ st ∈ steps, cache.tstep < st.1) → p.active = 0 →
      ∃ q k, c08SedRun c steps (p, cache) = some (q, k) ∧ q.z = p.z ∧ q.active = 0 := by
  induction steps with
  | nil => intro cache p _ h0; exact ⟨p, cache, rfl, rfl, h0⟩
  | cons st rest ih =>
    intro cache p hc h0
    rw [List.pairwise_cons] at hinc
    obtain ⟨k1, h1, hk1⟩ := c08aux_sed_code_eq_model c st.1 st.2.1 st.2.2.1 st.2.2.2 cache p (hc st (by simp))
      (fun _ => h0.trans_le zero_le_one)
    obtain ⟨hz1, ha1⟩ := C08.settled_rests c st.2.1 st.2.2.1 p h0 (by rw [C08.tau_formula hS]; exact hq st (by simp))
    obtain ⟨q, k, h2, hz2, ha2⟩ := ih hinc.2 (fun s hs' => hq s (by simp [hs'])) k1 _
      (fun s hs' => lt_of_le_of_lt hk1 (hinc.1 s hs')) ha1
    exact ⟨q, k, by simp only [c08SedRun, h1, Option.bind_some, h2], hz2.trans hz1, ha2⟩

/-! ### the method `resuspend` and the shear-velocity cache -/

/-- **the method `resuspend` alone**: without critical stress nothing changes (flag, cache); with `tc`: the flag
becomes 1 (`True`) if `tc ≤ 1000·0.003·(u² + v²)` and is unchanged if the stress is smaller; the cache then holds the
current step and the current bottom shear velocity `Gen.sed_ustar u v`. -/
theorem c08_sed_resuspend_method (hS : SqrtLaws α) (cache : Cache α) (t : Int) (e : Sed.Env α) (a : Nat)
    (hc : cache.tstep < t) :
    ∃ a' k, runSedResuspend Gen.sed_resuspend_seq cache t e a = some (some (a', k)) ∧
      (e.taucrit = none → a' = a ∧ k = cache) ∧
      (∀ tc, e.taucrit = some tc →
        (tc ≤ 1000 * (0.003 * (e.ub * e.ub + e.vb * e.vb)) → a' = 1) ∧
        (1000 * (0.003 * (e.ub * e.ub + e.vb * e.vb)) < tc → a' = a) ∧
        k.tstep = t ∧ k.value = Gen.sed_ustar e.ub e.vb) := by
  rw [Bridge.sed_resuspend_seq cache t e a (Or.inl hc)]
  refine ⟨_, _, rfl, ?_, ?_⟩
  · intro h; simp [resuspend, h]
  · intro tc h
    simp only [resuspend, h, C08.tau_formula hS, Option.isSome_some, if_true, Cache.get, hc, ← Bridge.sed_ustar]
    refine ⟨fun hle => by simp [hle], fun hlt => by simp [not_le.mpr hlt], ?_⟩
    exact ⟨trivial, trivial⟩

/-- **shear-velocity cache**: the first lookup at a new step computes `sqrt(0.003 (u² + v²))` from the current bottom
velocity and stores the step -/
theorem c08_sed_shear_velocity_new_step (cache : Cache α) (t : Int) (H ub vb : α) (h : cache.tstep < t) :
    runSedShearVelocity Gen.sed_shear_velocity_seq cache t H ub vb
      = some (some (⟨t, Gen.sed_ustar ub vb⟩, Gen.sed_ustar ub vb)) := by
  rw [Bridge.sed_shear_velocity_seq]; simp [Cache.get, h, ← Bridge.sed_ustar]

/-- a further lookup within the same step returns the cached value and leaves the cache as it is -/
theorem c08_sed_shear_velocity_same_step (cache : Cache α) (H ub vb : α) :
    runSedShearVelocity Gen.sed_shear_velocity_seq cache cache.tstep H ub vb = some (some (cache, cache.value)) :=
  Bridge.sed_shear_velocity_same_step cache H ub vb

theorem c08_mine_shear_velocity_new_step (cache : Cache α) (t : Int) (H ub vb : α) (h : cache.tstep < t) :
    runMineShearVelocity Gen.mine_shear_velocity_seq cache t H ub vb
      = some (some (⟨t, Gen.mine_ustar ub vb⟩, Gen.mine_ustar ub vb)) := by
  rw [Bridge.mine_shear_velocity_seq]; simp [Cache.get, h, ← Bridge.mine_ustar]

theorem c08_mine_shear_velocity_same_step (cache : Cache α) (H ub vb : α) :
    runMineShearVelocity Gen.mine_shear_velocity_seq cache cache.tstep H ub vb = some (some (cache, cache.value)) :=
  Bridge.mine_shear_velocity_same_step cache H ub vb

/-- a sequence of lookups `(step, depth, u, v)`, the cache handed on: the returned values -/
def c08SedUstarRun : List (Int × α × α × α) → Cache α → Option (List α)
  | [], _ => some []
  | st :: rest, cache =>
    match runSedShearVelocity Gen.sed_shear_velocity_seq cache st.1 st.2.1 st.2.2.1 st.2.2.2 with
    | some (some (k, v)) => (c08SedUstarRun rest k).map (v :: ·)
    | _ => none

/-- **the shear-velocity cache returns the value of the current step** over any run of lookups at strictly
increasing steps (all after the cached step), whatever the velocities -/
theorem c08_sed_shear_velocity_history (steps : List (Int × α × α × α))
    (hinc : steps.Pairwise (fun a b => a.1 < b.1)) :
    ∀ cache : Cache α, (∀ st ∈ steps, cache.tstep < st.1) →
      c08SedUstarRun steps cache = some (steps.map (fun st => Gen.sed_ustar st.2.2.1 st.2.2.2)) := by
  induction steps with
  | nil => intro _ _; rfl
  | cons st rest ih =>
    intro cache h0
    rw [List.pairwise_cons] at hinc
    have h1 := c08_sed_shear_velocity_new_step cache st.1 st.2.1 st.2.2.1 st.2.2.2 (h0 st (by simp))
    simp only [c08SedUstarRun, h1, List.map_cons]
    rw [ih hinc.2 _ (fun s hs => hinc.1 s hs)]
    rfl

/-! ### the critical stress function (`get_taucrit_fn`, `get_taucrit_fn_grain_size`) -/
section taucrit
variable [HasTrunc α] [HasNarrow α]

/-- `get_taucrit_fn(None)` is `None` -/
theorem c08_sed_taucrit_fn_absent (openDs : String → Option (SfDataset α)) :
    sedTaucritFnSeq openDs (.none : SfConf α) = some (some none) := by
  rw [Bridge.sed_get_taucrit_fn]; rfl

/-- a number, or `{method: constant, value: v}`: the constant function `v` -/
theorem c08_sed_taucrit_fn_constant (openDs : String → Option (SfDataset α)) (v : α) (md : Option α)
    (src vn : Option String) :
    ∃ f, sedTaucritFnSeq openDs (.num v) = some (some (some f)) ∧
      sedTaucritFnSeq openDs (.dict ⟨some "constant", some v, md, src, vn⟩) = some (some (some f)) ∧
      ∀ lon lat, f lon lat = some (some v) := by
  refine ⟨Bridge.sfTauConst v, ?_, ?_, fun lon lat => Bridge.sf_tau_const_field v lon lat⟩
  · rw [Bridge.sed_get_taucrit_fn]; rfl
  · rw [Bridge.sed_get_taucrit_fn]; simp [Bridge.sfTaucritSpec]

/-- the generated window of `taucrit_poly` is the polynomial of the property -/
theorem c08_taucrit_poly_formula (sed : α) :
    Gen.sed_taucrit_poly sed = if sed = 0 then 0.12 else 6e-6 * (sed * sed) + 3e-5 * sed + 0.0591 := by
  have e1 : (6.0e-6 : α) = 6e-6 := by norm_num
  have e2 : (3.0e-5 : α) = 3e-5 := by norm_num
  have hf : Gen.feq sed 0.0 = true ↔ sed = 0 := by
    unfold Gen.feq; lits
    simp only [Bool.and_eq_true, Bool.not_eq_true', decide_eq_false_iff_not, not_lt]
    exact ⟨fun h => le_antisymm h.2 h.1, fun h => ⟨h.ge, h.le⟩⟩
  unfold Gen.sed_taucrit_poly
  simp only [e1, e2, hf]

/-- `j` is a cell index the code may select along a raster axis with first coordinate `x0`, spacing `dx` and `n`
cells for the coordinate `x` (`t = (x - x0) / dx` is the position in cell units): it lies in the raster; for a
position inside the raster extent it is the nearest cell (`|t - j| ≤ 1/2`); beyond the last coordinate it is the last
cell; within half a cell around the first coordinate it is the first cell -/
def c08NearestIdx (x0 dx x : α) (n : Nat) (j : Int) : Prop :=
  0 ≤ j ∧ j < n ∧
  (0 ≤ (x - x0) / dx → (x - x0) / dx ≤ (n : α) - 1 → |(x - x0) / dx - (j : α)| ≤ 1 / 2) ∧
  ((n : α) - 1 ≤ (x - x0) / dx → j = (n : Int) - 1) ∧
  (-(1 / 2) < (x - x0) / dx → (x - x0) / dx < 1 / 2 → j = 0)

/-- the threshold table of `taucrit_bin` (the array is `float32`: `narrow`) -/
def c08BinTable (sed tc : α) : Prop :=
  (sed = 0 → tc = narrow 0.12) ∧ (0 < sed → sed < 70 → tc = narrow 0.06) ∧
  (70 ≤ sed → sed ≤ 180 → tc = narrow 0.12) ∧ (180 < sed → tc = narrow 0.32)

/-- `np.clip(np.int32(.5 + t), 0, m)` beyond the last cell and around the first one -/
private theorem c08aux_clip_trunc (hT : C08.TruncLaw α) (t : α) (m : Int) (hm : 0 ≤ m) :
    ((m : α) ≤ t → clipInt (trunc (0.5 + t)) 0 m = m) ∧
    (-(1 / 2) < t → t < 1 / 2 → clipInt (trunc (0.5 + t)) 0 m = 0) := by
  have h5 : (0.5 : α) = 1 / 2 := by norm_num
  rw [h5]
  have hT' := hT (1 / 2 + t)
  generalize trunc (1 / 2 + t) = k at hT' ⊢
  have hh : (0 : α) ≤ 1 / 2 := by norm_num
  unfold clipInt
  constructor
  · intro h
    have h0 : (0 : α) ≤ t := (Int.cast_nonneg_iff.mpr hm).trans h
    have : m < k + 1 := Int.cast_lt (R := α).mp (by
      rw [Int.cast_add, Int.cast_one]
      exact lt_of_le_of_lt (h.trans (le_add_of_nonneg_left hh)) (hT' (add_nonneg hh h0)).2)
    split_ifs <;> omega
  · intro h1 h2
    have h0 : (0 : α) < 1 / 2 + t := neg_lt_iff_pos_add'.mp h1
    obtain ⟨hl, hu⟩ := hT' h0.le
    have : k < 1 := Int.cast_lt (R := α).mp (by
      rw [Int.cast_one]; exact lt_of_le_of_lt hl ((add_lt_add_right h2 _).trans_eq (add_halves 1)))
    have : -1 < k := Int.cast_lt (R := α).mp (by
      rw [Int.cast_neg, Int.cast_one]; exact neg_lt_iff_pos_add.mpr (h0.trans hu))
    split_ifs <;> omega

private theorem c08aux_nearest_idx (hT : C08.TruncLaw α) (x0 dx x : α) (n : Nat) (hn : 0 < n) :
    c08NearestIdx x0 dx x n (nearestCell x0 dx ((n : Int) - 1) x) := by
  have hr := C08.nearest_cell_clamped x0 dx x ((n : Int) - 1) (by omega)
  have hc := c08aux_clip_trunc hT ((x - x0) / dx) ((n : Int) - 1) (by omega)
  refine ⟨hr.1, by omega, fun h0 h1 => ?_, fun h1 => hc.1 (by push_cast; exact h1), hc.2⟩
  exact C08.nearest_cell_is_nearest hT x0 dx x ((n : Int) - 1) h0 (by push_cast; exact h1) (by omega)

/-- **"derived from the grain-size map cell nearest to it"**: for `{method: grain_size_bin | grain_size_poly, source,
varname}` the interpreted `get_taucrit_fn` returns a function whose value at `(lon, lat)` is taken from the raster
cell `[j, i]` (a NaN cell reads 0) with `j`, `i` as in `c08NearestIdx` along the latitude / longitude axis; `poly`:
the generated window `Gen.sed_taucrit_poly` (`c08_taucrit_poly_formula`: 0.12 at 0, else 6e-6 s² + 3e-5 s + 0.0591);
`bin`: the `float32` table 0.12 / 0.06 / 0.12 / 0.32 (`c08BinTable`).  PARTIAL: see the header (positions more than
half a cell before the first coordinate).  Hypotheses: the file content is well formed (else the code raises);
`hT`. -/
theorem c08_sed_taucrit_fn_grain_size_partial (hT : C08.TruncLaw α) (openDs : String → Option (SfDataset α))
    (d : SfDataset α) (g : SfGrid2 α) (src vn : String) (la0 la1 lo0 lo1 : α) (lar lor : List α)
    (val md : Option α)
    (hd : openDs src = some d) (hg : d.dataVars vn = some g)
    (hla : d.latitude = la0 :: la1 :: lar) (hlo : d.longitude = lo0 :: lo1 :: lor)
    (hs0 : 0 < g.shape0) (hs1 : 0 < g.shape1) (lon lat : α) :
    ∃ fb fp,
      sedTaucritFnSeq openDs (.dict ⟨some "grain_size_bin", val, md, some src, some vn⟩) = some (some (some fb)) ∧
      sedTaucritFnSeq openDs (.dict ⟨some "grain_size_poly", val, md, some src, some vn⟩) = some (some (some fp)) ∧
      ∃ j i : Int, c08NearestIdx la0 (la1 - la0) lat g.shape0 j ∧ c08NearestIdx lo0 (lo1 - lo0) lon g.shape1 i ∧
        fp lon lat = some (some (Gen.sed_taucrit_poly ((g.val j.toNat i.toNat).getD 0))) ∧
        ∃ tcb, fb lon lat = some (some tcb) ∧ c08BinTable ((g.val j.toNat i.toNat).getD 0) tcb := by
  have hjx := c08aux_nearest_idx hT la0 (la1 - la0) lat g.shape0 hs0
  have hix := c08aux_nearest_idx hT lo0 (lo1 - lo0) lon g.shape1 hs1
  set j := nearestCell la0 (la1 - la0) ((g.shape0 : Int) - 1) lat with hjdef
  set i := nearestCell lo0 (lo1 - lo0) ((g.shape1 : Int) - 1) lon with hidef
  have hcell : sfCell g j i = some (g.val j.toNat i.toNat) := by
    unfold sfCell; rw [if_pos ⟨hjx.1, hjx.2.1, hix.1, hix.2.1⟩]
  have hgeom : Bridge.sfGrainGeom openDs src vn = some (g, la0, la1 - la0, lo0, lo1 - lo0) := by
    simp [Bridge.sfGrainGeom, hd, hg, hla, hlo, Bridge.sfAxis]
  have hsv : Bridge.sfSedValue g la0 (la1 - la0) lo0 (lo1 - lo0) lon lat = some ((g.val j.toNat i.toNat).getD 0) := by
    unfold Bridge.sfSedValue; rw [← hjdef, ← hidef, hcell]; lits; rfl
  refine ⟨fun lon lat => some ((Bridge.sfSedValue g la0 (la1 - la0) lo0 (lo1 - lo0) lon lat).map taucritBinF32),
    fun lon lat => some ((Bridge.sfSedValue g la0 (la1 - la0) lo0 (lo1 - lo0) lon lat).map taucritPoly), ?_, ?_,
    j, i, hjx, hix, ?_, taucritBinF32 ((g.val j.toNat i.toNat).getD 0), ?_,
    Bridge.sf_taucrit_bin_f32_table _⟩
  · rw [Bridge.sed_get_taucrit_fn]; simp [Bridge.sfTaucritSpec, Bridge.sfGrainSpec, hgeom]
  · rw [Bridge.sed_get_taucrit_fn]; simp [Bridge.sfTaucritSpec, Bridge.sfGrainSpec, hgeom]
  · simp only [hsv, Option.map_some, Bridge.sf_taucrit_poly_gen]
  · simp only [hsv, Option.map_some]

end taucrit

/-! ## mine: the clauses -/

/-- depth of a mobile mine particle after `diffuse` and `sink`, before `bury`, in the generated windows -/
def c08MineSunk (c : Mine.Config α) (e : Mine.Env α) (xi : α) (p : Sed.Particle α) : α :=
  if c.vadv then Gen.mine_sink_vadv (Gen.mine_mix p.z c.vdiff c.dt xi) p.sinkVel c.dt e.w
  else Gen.mine_sink (Gen.mine_mix p.z c.vdiff c.dt xi) p.sinkVel c.dt

private theorem c08aux_mine_sunk (c : Mine.Config α) (e : Mine.Env α) (xi : α) (p : Sed.Particle α) (a : Nat) (ha : a ≠ 0) :
    sink c.dt (if c.vadv then p.sinkVel + e.w else p.sinkVel) a (mixMine c.vdiff c.dt xi p.z)
      = c08MineSunk c e xi p := by
  let _ : HasFloor α := ⟨id⟩
  unfold sink c08MineSunk Gen.mine_sink_vadv Gen.mine_sink
  rw [Bridge.mine_mix]
  cases c.vadv <;> simp [ha]

private theorem c08aux_mine_a1_ne (c : Mine.Config α) (e : Mine.Env α) (a : Nat) (ha : a ≠ 0) : Mine.resusp c e a ≠ 0 := by
  unfold Mine.resusp
  split
  · exact ha
  · refine c08aux_store_ne _ _ ?_
    split_ifs
    exacts [one_ne_zero, ha]

/-- the model's update of a particle that is mobile after `resuspend` -/
private theorem c08aux_mine_update_mobile (c : Mine.Config α) (e : Mine.Env α) (xi : α) (p : Sed.Particle α)
    (ha1 : Mine.resusp c e (if c.hasActive then p.active else 1) ≠ 0) :
    Mine.update c e xi p =
      ⟨if e.H < c08MineSunk c e xi p then e.H else c08MineSunk c e xi p,
       if c.hasActive then
         (if e.H < c08MineSunk c e xi p then 0 else if p.active ≠ 1 then c.carrier.store 2 else 1)
       else p.active,
       (if c.taucrit.isNone then p.alive && decide (¬ e.H < c08MineSunk c e xi p) else p.alive)
         && decide (p.age + c.stateDt ≤ c.lifespan),
       p.age + c.stateDt, p.sinkVel⟩ := by
  have hsunk := c08aux_mine_sunk c e xi p _ ha1
  unfold Mine.update
  simp only [ha1, if_false, hsunk]
  unfold bury
  simp only [ha1, if_false]
  cases hh : c.hasActive <;> by_cases hz : e.H < c08MineSunk c e xi p <;> simp [hh] at ha1 <;>
    simp [hh, hz, ha1]

/-- **mine: sinking, settling, leaving.**  A mobile particle (`self.active() ≠ 0`; 1 for every particle when the state
has no variable `active`) is at `zs = c08MineSunk` = `Gen.mine_mix` + `dt × w` (`w` plus the vertical water velocity
when `vertical_advection`) if `zs ≤ H`, stays mobile, and `alive` is changed by the age limit only; if `zs > H` it is
at `H` exactly, flagged 0 (if there is a flag), and **without resuspension it leaves the simulation**
(`alive = False`), with resuspension it stays.  Hypotheses: `hc`, `hA`, `hs` (header). -/
theorem c08_mine_suspended_sinks_and_settles (c : Mine.Config α) (t : Int) (e : Mine.Env α) (xi : α)
    (cache : Cache α) (p : Sed.Particle α) (hc : cache.tstep < t) (hA : c.hasActive = true ∨ c.taucrit = none)
    (hs : c.hasActive = true → c.carrier = .bool → p.active ≤ 1) (ha : c.hasActive = true → p.active ≠ 0) :
    ∃ q k, c08MineUpdate c t e xi cache p = some (q, k) ∧
      (c08MineSunk c e xi p ≤ e.H → q.z = c08MineSunk c e xi p ∧ (c.hasActive = true → q.active ≠ 0) ∧
        q.alive = (p.alive && decide (p.age + c.stateDt ≤ c.lifespan))) ∧
      (e.H < c08MineSunk c e xi p → q.z = e.H ∧ (c.hasActive = true → q.active = 0) ∧
        (c.taucrit = none → q.alive = false) ∧
        (c.taucrit ≠ none → q.alive = (p.alive && decide (p.age + c.stateDt ≤ c.lifespan)))) := by
  obtain ⟨k, hk, _⟩ := c08aux_mine_code_eq_model c t e xi cache p hc hA hs
  refine ⟨_, k, hk, ?_⟩
  have ha0 : (if c.hasActive then p.active else 1) ≠ 0 := by
    cases hh : c.hasActive <;> simp [hh] at ha ⊢
    exact ha
  rw [c08aux_mine_update_mobile c e xi p (c08aux_mine_a1_ne c e _ ha0)]
  constructor
  · intro hz
    have hz' := not_lt.mpr hz
    refine ⟨by simp [hz'], fun hh => ?_, ?_⟩
    · simp only [hh, hz', if_true, if_false]
      split_ifs <;> [exact c08aux_store_ne _ _ (by norm_num); exact one_ne_zero]
    · cases c.taucrit <;> simp [hz']
  · intro hz
    refine ⟨by simp [hz], fun hh => by simp [hh, hz], fun ht => by simp [ht, hz], fun ht => ?_⟩
    cases htc : c.taucrit with
    | none => exact absurd htc ht
    | some tc => simp

/-- the mining variant without resuspension: a particle that reaches the bed leaves the simulation -/
theorem c08_mine_settled_leaves (c : Mine.Config α) (t : Int) (e : Mine.Env α) (xi : α)
    (cache : Cache α) (p : Sed.Particle α) (hc : cache.tstep < t) (ht : c.taucrit = none)
    (hs : c.hasActive = true → c.carrier = .bool → p.active ≤ 1) (ha : c.hasActive = true → p.active ≠ 0)
    (hz : e.H < c08MineSunk c e xi p) :
    ∃ q k, c08MineUpdate c t e xi cache p = some (q, k) ∧ q.z = e.H ∧ q.alive = false := by
  obtain ⟨q, k, hk, _, h2⟩ := c08_mine_suspended_sinks_and_settles c t e xi cache p hc (Or.inr ht) hs ha
  exact ⟨q, k, hk, (h2 hz).1, (h2 hz).2.2.1 ht⟩

private theorem c08aux_mine_update_settled (c : Mine.Config α) (e : Mine.Env α) (xi : α) (p : Sed.Particle α)
    (hh : c.hasActive = true) (ha1 : Mine.resusp c e p.active = 0) :
    (Mine.update c e xi p).z = p.z ∧ (Mine.update c e xi p).active = 0 := by
  unfold Mine.update
  simp only [hh, if_true, ha1]
  unfold sink bury
  simp

/-- mine: a settled particle rests while `1000·0.003·(u² + v²) < taucrit` (or no resuspension is configured) -/
theorem c08_mine_settled_rests (hS : SqrtLaws α) (c : Mine.Config α) (t : Int) (e : Mine.Env α) (xi : α)
    (cache : Cache α) (p : Sed.Particle α) (hc : cache.tstep < t) (hh : c.hasActive = true) (h0 : p.active = 0)
    (hq : c.taucrit = none ∨ ∃ tc, c.taucrit = some tc ∧ 1000 * (0.003 * (e.ub * e.ub + e.vb * e.vb)) < tc) :
    ∃ q k, c08MineUpdate c t e xi cache p = some (q, k) ∧ q.z = p.z ∧ q.active = 0 := by
  obtain ⟨k, hk, _⟩ := c08aux_mine_code_eq_model c t e xi cache p hc (Or.inl hh) (fun _ _ => h0.trans_le zero_le_one)
  refine ⟨_, k, hk, c08aux_mine_update_settled c e xi p hh ?_⟩
  unfold Mine.resusp
  rcases hq with h | ⟨tc, h, hlt⟩
  · rw [h]; exact h0
  · rw [h]
    simp only [C08.tau_formula hS, not_le.mpr hlt, if_false, h0, Bridge.store_zero]

/-- mine: exact resuspension rule, as `c08_sed_resuspends_iff` -/
theorem c08_mine_resuspends_iff (hS : SqrtLaws α) (c : Mine.Config α) (t : Int) (e : Mine.Env α) (xi : α)
    (cache : Cache α) (p : Sed.Particle α) (tc : α) (hc : cache.tstep < t) (hh : c.hasActive = true)
    (h0 : p.active = 0) (ht : c.taucrit = some tc) :
    ∃ q k, c08MineUpdate c t e xi cache p = some (q, k) ∧
      (q.active ≠ 0 ↔ (tc ≤ 1000 * (0.003 * (e.ub * e.ub + e.vb * e.vb)) ∧ c08MineSunk c e xi p ≤ e.H)) ∧
      (tc ≤ 1000 * (0.003 * (e.ub * e.ub + e.vb * e.vb)) →
        (c08MineSunk c e xi p ≤ e.H → q.z = c08MineSunk c e xi p ∧ q.active = c08Flag2 c.carrier) ∧
        (e.H < c08MineSunk c e xi p → q.z = e.H ∧ q.active = 0)) := by
  obtain ⟨k, hk, _⟩ := c08aux_mine_code_eq_model c t e xi cache p hc (Or.inl hh) (fun _ _ => h0.trans_le zero_le_one)
  refine ⟨_, k, hk, ?_⟩
  by_cases hle : tc ≤ 1000 * (0.003 * (e.ub * e.ub + e.vb * e.vb))
  · have ha1 : Mine.resusp c e (if c.hasActive then p.active else 1) ≠ 0 := by
      unfold Mine.resusp
      simp only [hh, if_true, ht, C08.tau_formula hS, hle, Bridge.store_one]
      exact one_ne_zero
    rw [c08aux_mine_update_mobile c e xi p ha1]
    simp only [hh, if_true, h0, ← c08aux_store2]
    by_cases hz : e.H < c08MineSunk c e xi p
    · simp [hz, hle, not_le.mpr hz]
    · have hz' := not_lt.mp hz
      simp [hz, hle, hz', c08aux_store_ne]
  · have ha1 : Mine.resusp c e p.active = 0 := by
      unfold Mine.resusp
      simp only [ht, C08.tau_formula hS, hle, if_false, h0, Bridge.store_zero]
    have := c08aux_mine_update_settled c e xi p hh ha1
    simp [this.2, hle]

/-- mine: flag values after one update, as `c08_sed_flag_values` -/
theorem c08_mine_flag_values (c : Mine.Config α) (t : Int) (e : Mine.Env α) (xi : α)
    (cache : Cache α) (p : Sed.Particle α) (hc : cache.tstep < t) (hh : c.hasActive = true)
    (hs : c.carrier = .bool → p.active ≤ 1) :
    ∃ q k, c08MineUpdate c t e xi cache p = some (q, k) ∧ k.tstep ≤ t ∧
      (c.carrier = .numeric → q.active ≤ 2 ∧ (q.active = 2 ↔ (q.active ≠ 0 ∧ p.active ≠ 1)) ∧
        (p.active ≠ 1 → q.active ≠ 1)) ∧
      (c.carrier = .bool → q.active ≤ 1) := by
  obtain ⟨k, hk, hk'⟩ := c08aux_mine_code_eq_model c t e xi cache p hc (Or.inl hh) (fun _ => hs)
  exact ⟨_, k, hk, hk', c08aux_flag_values _ _ _ _ (c08aux_bury_flag e.H _ _)
    (by unfold Mine.update; simp only [hh, if_true]; rfl)⟩

/-- consecutive updates of one mine particle, the cache handed from update to update -/
def c08MineRun (c : Mine.Config α) : List (Int × Mine.Env α × α) → Sed.Particle α × Cache α →
    Option (Sed.Particle α × Cache α)
  | [], s => some s
  | st :: rest, s => (c08MineUpdate c st.1 st.2.1 st.2.2 s.2 s.1).bind (c08MineRun c rest)

/-- mine: flags over any number of consecutive updates, as `c08_sed_flag_history` -/
theorem c08_mine_flag_history (c : Mine.Config α) (hh : c.hasActive = true) (steps : List (Int × Mine.Env α × α))
    (hinc : steps.Pairwise (fun a b => a.1 < b.1)) :
    ∀ (cache : Cache α) (p : Sed.Particle α), (∀ st ∈ steps, cache.tstep < st.1) →
      (c.carrier = .bool → p.active ≤ 1) →
      ∃ q k, c08MineRun c steps (p, cache) = some (q, k) ∧
        (c.carrier = .numeric → (p.active ≤ 2 → q.active ≤ 2) ∧ (p.active ≠ 1 → q.active ≠ 1)) ∧
        (c.carrier = .bool → q.active ≤ 1) := by
  induction steps with
  | nil =>
    intro cache p _ hs
    exact ⟨p, cache, rfl, fun _ => ⟨id, id⟩, hs⟩
  | cons st rest ih =>
    intro cache p h0 hs
    rw [List.pairwise_cons] at hinc
    obtain ⟨q1, k1, h1, hk1, hn1, hb1⟩ :=
      c08_mine_flag_values c st.1 st.2.1 st.2.2 cache p (h0 st (by simp)) hh hs
    obtain ⟨q, k, h2, hn2, hb2⟩ := ih hinc.2 k1 q1
      (fun s hs' => lt_of_le_of_lt hk1 (hinc.1 s hs')) hb1
    refine ⟨q, k, ?_, ?_, hb2⟩
    · simp only [c08MineRun, h1, Option.bind_some, h2]
    · intro hn
      exact ⟨fun _ => (hn2 hn).1 (hn1 hn).1, fun hp => (hn2 hn).2 ((hn1 hn).2.2 hp)⟩

/-- the code raises when resuspension is configured and the state has no variable `active` -/
theorem c08_mine_resuspension_needs_active_variable (c : Mine.Config α) (t : Int) (e : Mine.Env α) (xi : α)
    (cache : Cache α) (p : Sed.Particle α) (tc : α) (hh : c.hasActive = false) (ht : c.taucrit = some tc) :
    c08MineUpdate c t e xi cache p = none := by
  simp [c08MineUpdate, Seq.run, Seq.guardVal, Seq.mineAtom, c08MineStep, Seq.mineStep, Gen.mine_update_seq,
    Bridge.mine_resuspend_seq_full, MineSt.init, hh, ht]

/-- the critical stress of the mining variant: none for a configured value of 1000 or more, else that constant -/
theorem c08_mine_taucrit_fn (value : α) :
    (1000 ≤ value → mineTaucritFnSeq value = some (some none)) ∧
    (value < 1000 → ∃ f, mineTaucritFnSeq value = some (some (some f)) ∧ ∀ lon lat, f lon lat = some (some value)) := by
  rw [Bridge.mine_get_taucrit_fn]
  unfold Bridge.sfMineTaucrit
  lits
  constructor
  · intro h; simp [h]
  · intro h
    refine ⟨Bridge.sfTauConst value, by simp [not_le.mpr h], fun lon lat => Bridge.sf_tau_const_field value lon lat⟩

/-! ## constructors: which critical stress an update sees -/
section ctor
variable [HasTrunc α] [HasNarrow α]

/-- the particle's element of `self.taucrit_fn(lon, lat)` — the parameter `taucrit` of the interpretation of
`resuspend` (`Sed.Env.taucrit`): `none` iff `self.taucrit_fn is None` -/
def c08TauAt (fn : Option (SfTauFn α)) (lon lat : α) : Option α := fn.bind (fun f => (f lon lat).join)

/-- the attribute `taucrit_fn` of a constructed sedimentation IBM is what the interpretation of `get_taucrit_fn`
returns for `config['ibm'].get('taucrit', None)`; the cache counter starts at -1 -/
theorem c08_sed_ctor_taucrit (openDs : String → Option (SfDataset α)) (cfg : SfSedCfg α) (self : SfSedSelf α)
    (h : sedCtorSeq openDs cfg = some (some self)) :
    ∃ ibm, cfg.ibm = some ibm ∧
      sedTaucritFnSeq openDs (ibm.taucrit.getD .none) = some (some self.taucritFn) ∧ self.ustarTstep = -1 := by
  obtain ⟨c, ibm, _, hibm, _, _, _, ht, hu⟩ := Bridge.sed_ctor_config openDs cfg 0 .numeric self h
  exact ⟨ibm, hibm, by rw [Bridge.sed_get_taucrit_fn, ht], hu⟩

private theorem c08aux_ctor_fn {openDs : String → Option (SfDataset α)} {cfg : SfSedCfg α} {self : SfSedSelf α}
    {ibm : SfSedIbm α} {tc : SfConf α} {f : Option (SfTauFn α)} (h : sedCtorSeq openDs cfg = some (some self))
    (hibm : cfg.ibm = some ibm) (ht : ibm.taucrit.getD .none = tc)
    (hf : sedTaucritFnSeq openDs tc = some (some f)) : self.taucritFn = f := by
  obtain ⟨ibm', hibm', hf', _⟩ := c08_sed_ctor_taucrit openDs cfg self h
  cases hibm.symm.trans hibm'
  rw [ht, hf] at hf'
  exact (Option.some.inj (Option.some.inj hf')).symm

/-- **"never resuspends when no critical stress is configured", from the constructor on**: with the key `taucrit`
absent or `None` every update of the constructed IBM sees `e.taucrit = none` (then `c08_sed_never_resuspends_without_taucrit`) -/
theorem c08_sed_ctor_tau_absent (openDs : String → Option (SfDataset α)) (cfg : SfSedCfg α) (self : SfSedSelf α)
    (ibm : SfSedIbm α) (h : sedCtorSeq openDs cfg = some (some self)) (hibm : cfg.ibm = some ibm)
    (ht : ibm.taucrit = none ∨ ibm.taucrit = some .none) (lon lat : α) :
    c08TauAt self.taucritFn lon lat = none := by
  rw [c08aux_ctor_fn h hibm (by rcases ht with ht | ht <;> rw [ht] <;> rfl) (c08_sed_taucrit_fn_absent openDs)]
  rfl

/-- a constant critical stress configured -/
theorem c08_sed_ctor_tau_constant (openDs : String → Option (SfDataset α)) (cfg : SfSedCfg α) (self : SfSedSelf α)
    (ibm : SfSedIbm α) (v : α) (md : Option α) (src vn : Option String)
    (h : sedCtorSeq openDs cfg = some (some self)) (hibm : cfg.ibm = some ibm)
    (ht : ibm.taucrit = some (.num v) ∨ ibm.taucrit = some (.dict ⟨some "constant", some v, md, src, vn⟩))
    (lon lat : α) :
    c08TauAt self.taucritFn lon lat = some v := by
  obtain ⟨f, h1, h2, h3⟩ := c08_sed_taucrit_fn_constant openDs v md src vn
  have hn : self.taucritFn = some f := by
    rcases ht with ht | ht
    · exact c08aux_ctor_fn h hibm (by rw [ht]; rfl) h1
    · exact c08aux_ctor_fn h hibm (by rw [ht]; rfl) h2
  rw [hn]; simp [c08TauAt, h3]

/-- **the critical stress an update of the constructed IBM sees comes from the raster cell nearest to the particle**
(`c08_sed_taucrit_fn_grain_size_partial` through the interpreted constructor) -/
theorem c08_sed_ctor_tau_grain_size_partial (hT : C08.TruncLaw α) (openDs : String → Option (SfDataset α))
    (cfg : SfSedCfg α) (self : SfSedSelf α) (ibm : SfSedIbm α)
    (d : SfDataset α) (g : SfGrid2 α) (src vn : String) (la0 la1 lo0 lo1 : α) (lar lor : List α)
    (val md : Option α)
    (h : sedCtorSeq openDs cfg = some (some self)) (hibm : cfg.ibm = some ibm)
    (hd : openDs src = some d) (hg : d.dataVars vn = some g)
    (hla : d.latitude = la0 :: la1 :: lar) (hlo : d.longitude = lo0 :: lo1 :: lor)
    (hs0 : 0 < g.shape0) (hs1 : 0 < g.shape1) (lon lat : α) :
    ∃ j i : Int, c08NearestIdx la0 (la1 - la0) lat g.shape0 j ∧ c08NearestIdx lo0 (lo1 - lo0) lon g.shape1 i ∧
      (ibm.taucrit = some (.dict ⟨some "grain_size_poly", val, md, some src, some vn⟩) →
        c08TauAt self.taucritFn lon lat = some (Gen.sed_taucrit_poly ((g.val j.toNat i.toNat).getD 0))) ∧
      (ibm.taucrit = some (.dict ⟨some "grain_size_bin", val, md, some src, some vn⟩) →
        ∃ tcb, c08TauAt self.taucritFn lon lat = some tcb ∧ c08BinTable ((g.val j.toNat i.toNat).getD 0) tcb) := by
  obtain ⟨fb, fp, hb, hp, j, i, hjx, hix, hpv, tcb, hbv, htab⟩ :=
    c08_sed_taucrit_fn_grain_size_partial hT openDs d g src vn la0 la1 lo0 lo1 lar lor val md hd hg hla hlo hs0 hs1
      lon lat
  refine ⟨j, i, hjx, hix, fun ht => ?_, fun ht => ⟨tcb, ?_, htab⟩⟩
  · rw [c08aux_ctor_fn h hibm (by rw [ht]; rfl) hp]
    simp [c08TauAt, hpv]
  · rw [c08aux_ctor_fn h hibm (by rw [ht]; rfl) hb]
    simp [c08TauAt, hbv]

end ctor

/-- the mining variant: default (key `taucrit` absent) or a configured value of 1000 or more — no resuspension -/
theorem c08_mine_ctor_no_resuspension (cfg : SfMineCfg α) (self : SfMineSelf α) (stateDt : α) (hasActive : Bool)
    (carrier : Carrier) (ibm : SfMineIbm α) (h : mineCtorSeq cfg = some (some self)) (hibm : cfg.ibm = some ibm)
    (ht : ibm.taucrit = none ∨ ∃ v, ibm.taucrit = some v ∧ 1000 ≤ v) :
    self.taucritFn = none ∧ ∃ c, Bridge.sfMineConfigOf cfg stateDt hasActive carrier = some c ∧ c.taucrit = none := by
  obtain ⟨c, hc, _, _, _, _, htf, _⟩ := Bridge.mine_ctor_config cfg stateDt hasActive carrier self h
  have hct : c.taucrit = none := by
    unfold Bridge.sfMineConfigOf at hc
    rw [hibm] at hc
    cases hl : ibm.lifespan <;> cases hd : cfg.dt <;> simp [hl, hd] at hc
    subst hc
    show Bridge.sfMineTaucrit _ = none
    unfold Bridge.sfMineTaucrit
    lits
    rcases ht with ht | ⟨v, ht, hv⟩ <;> simp [ht]
    exact hv
  refine ⟨by rw [htf, hct]; rfl, c, hc, hct⟩

/-! ## the hypotheses are satisfiable: concrete instances over `ℝ` -/
section examples

noncomputable local instance c08RealTrunc : HasTrunc ℝ := ⟨fun x => ⌊x⌋⟩
local instance c08RealNarrow : HasNarrow ℝ := ⟨id⟩

private theorem c08aux_real_trunc_law : C08.TruncLaw ℝ := fun x _ => ⟨Int.floor_le x, Int.lt_floor_add_one x⟩

/-- from what a clause says about the result `(q, k)` of a run to a consequence of it on an instance -/
private theorem c08aux_result_imp {β γ : Type} {u : Option (β × γ)} {R R' : β → γ → Prop}
    (h : ∃ q k, u = some (q, k) ∧ R' q k) (hi : ∀ q k, R' q k → R q k) : ∃ q k, u = some (q, k) ∧ R q k :=
  let ⟨q, k, hu, hr⟩ := h
  ⟨q, k, hu, hi q k hr⟩

/-- `c08_sed_sinks_exactly_no_mixing`: a never-settled particle at 5 m, sinking velocity 0.01 m/s, time step 600 s,
water depth 100 m, flag 1: after the update it is at 11 m and still mobile -/
example : ∃ q k, c08SedUpdate (α := ℝ) ⟨600, 600, 1000000, .none, .numeric⟩ 0 ⟨100, 0.1, 0, none, 0.02⟩ 0 0 ⟨-1, 0⟩
    ⟨5, 1, true, 0, 0.01⟩ = some (q, k) ∧ q.z = 11 ∧ q.active ≠ 0 := by
  refine c08aux_result_imp (c08_sed_sinks_exactly_no_mixing _ _ _ _ _ _ _ (by decide) (fun _ => le_refl _) (by decide)
    rfl (by norm_num)) fun q k h => ⟨?_, h.2⟩
  rw [h.1]; norm_num

/-- `c08_sed_suspended_sinks_and_settles` with constant mixing and a boolean flag array -/
example : ∃ q k, c08SedUpdate (α := ℝ) ⟨600, 600, 1000000, .const 0.01, .bool⟩ 3 ⟨100, 0.1, 0, some 0.12, 0.02⟩ 0.5 2
    ⟨2, 7⟩ ⟨5, 1, true, 0, 0⟩ = some (q, k) ∧ q.sinkVel = 0.02 := by
  refine c08aux_result_imp (c08_sed_suspended_sinks_and_settles _ _ _ _ _ _ _ (by decide) (fun _ => le_refl _)
    (by decide)) fun q k h => ?_
  rw [h.1]; norm_num

/-- `c08_sed_settled_rests`: bottom speed 0.1 m/s gives 0.03 Pa < 0.12 Pa -/
example : ∃ q k, c08SedUpdate (α := ℝ) ⟨600, 600, 1000000, .boundedLinear 0.01, .numeric⟩ 3
    ⟨100, 0.1, 0, some 0.12, 0.02⟩ 0.5 2 ⟨2, 7⟩ ⟨100, 0, true, 0, 0.01⟩ = some (q, k) ∧ q.z = 100 ∧ q.active = 0 :=
  c08_sed_settled_rests RealInst.sqrtLaws _ _ _ _ _ _ _ (by decide) rfl (Or.inr ⟨0.12, rfl, by norm_num⟩)

/-- `c08_sed_resuspends_iff`: bottom speed 0.3 m/s gives 0.27 Pa ≥ 0.12 Pa; the particle rests at 90 m in 100 m of
water, no mixing: it is lifted off the bed, sinks 6 m and is flagged 2 -/
example : ∃ q k, c08SedUpdate (α := ℝ) ⟨600, 600, 1000000, .none, .numeric⟩ 3
    ⟨100, 0.3, 0, some 0.12, 0.02⟩ 0.5 2 ⟨2, 7⟩ ⟨90, 0, true, 0, 0.01⟩ = some (q, k) ∧ q.z = 96 ∧ q.active = 2 := by
  refine c08aux_result_imp (c08_sed_resuspends_iff RealInst.sqrtLaws _ _ _ _ _ _ _ 0.12 (by decide) rfl rfl)
    fun q k h => ?_
  obtain ⟨hz, ha⟩ := (h.2 (by norm_num)).1 (by norm_num [c08SedSunk, c08SedMixed])
  exact ⟨by rw [hz]; norm_num [c08SedSunk, c08SedMixed], ha⟩

/-- `c08_sed_flag_history` / `c08_sed_rests_history`: three updates at steps 0, 1, 4 -/
example : ∃ q k, c08SedRun (α := ℝ) ⟨600, 600, 1000000, .const 0.01, .numeric⟩
    [(0, ⟨100, 0.1, 0, some 0.12, 0.02⟩, 0.5, 0), (1, ⟨100, 0.1, 0.1, some 0.12, 0.02⟩, -0.5, 1),
     (4, ⟨100, 0, 0, none, 0.02⟩, 0.1, 0)] (⟨100, 0, true, 0, 0.01⟩, ⟨-1, 0⟩) = some (q, k) ∧ q.z = 100 ∧ q.active = 0 := by
  apply c08_sed_rests_history RealInst.sqrtLaws
  · simp
  · intro st hst
    simp only [List.mem_cons, List.not_mem_nil, or_false] at hst
    rcases hst with rfl | rfl | rfl
    · exact Or.inr ⟨0.12, rfl, by norm_num⟩
    · exact Or.inr ⟨0.12, rfl, by norm_num⟩
    · exact Or.inl rfl
  · decide
  · rfl

example : ∃ q k, c08SedRun (α := ℝ) ⟨600, 600, 1000000, .const 0.01, .numeric⟩
    [(0, ⟨100, 0.3, 0, some 0.12, 0.02⟩, 0.5, 0), (1, ⟨100, 0.1, 0.1, some 0.12, 0.02⟩, -0.5, 1)]
    (⟨100, 0, true, 0, 0.01⟩, ⟨-1, 0⟩) = some (q, k) ∧ q.active ≤ 2 ∧ q.active ≠ 1 := by
  exact c08aux_result_imp (c08_sed_flag_history _ _ (by simp) _ _ (by decide) (fun _ => Nat.zero_le _))
    fun q k h => ⟨(h.1 rfl).1 (by decide), (h.1 rfl).2 (by decide)⟩

/-- `c08_sed_shear_velocity_history` -/
example : c08SedUstarRun (α := ℝ) [(0, 100, 0.1, 0), (1, 100, 0.2, 0.1), (5, 50, 0, 0)] ⟨-1, 3⟩
    = some [Gen.sed_ustar 0.1 0, Gen.sed_ustar 0.2 0.1, Gen.sed_ustar 0 0] := by
  apply c08_sed_shear_velocity_history
  · simp
  · decide

/-- `c08_sed_taucrit_fn_grain_size_partial`: a 2 × 3 raster (one row of grain size 100, one row of NaN), a particle
inside it -/
example : ∃ fb fp,
    sedTaucritFnSeq (α := ℝ)
      (fun _ => some ⟨fun _ => some ⟨2, 3, fun j _ => if j = 0 then some 100 else none⟩, [60, 60.5], [5, 5.25, 5.5]⟩)
      (.dict ⟨some "grain_size_bin", none, none, some "grain.nc", some "grain_size"⟩) = some (some (some fb)) ∧
    sedTaucritFnSeq (α := ℝ)
      (fun _ => some ⟨fun _ => some ⟨2, 3, fun j _ => if j = 0 then some 100 else none⟩, [60, 60.5], [5, 5.25, 5.5]⟩)
      (.dict ⟨some "grain_size_poly", none, none, some "grain.nc", some "grain_size"⟩) = some (some (some fp)) ∧
    ∃ j i : Int, c08NearestIdx (60 : ℝ) (60.5 - 60) 60.1 2 j ∧ c08NearestIdx (5 : ℝ) (5.25 - 5) 5.3 3 i ∧
      fp 5.3 60.1 = some (some (Gen.sed_taucrit_poly
        (((fun (j : Nat) (_ : Nat) => if j = 0 then some (100 : ℝ) else none) j.toNat i.toNat).getD 0))) ∧
      ∃ tcb, fb 5.3 60.1 = some (some tcb) ∧
        c08BinTable (((fun (j : Nat) (_ : Nat) => if j = 0 then some (100 : ℝ) else none) j.toNat i.toNat).getD 0) tcb :=
  c08_sed_taucrit_fn_grain_size_partial c08aux_real_trunc_law _ _
    ⟨2, 3, fun j _ => if j = 0 then some 100 else none⟩ _ _ _ _ _ _ _ _ _ _
    rfl rfl rfl rfl (by decide) (by decide) _ _

/-- the constructor hypothesis of `c08_sed_ctor_tau_constant` / `c08_sed_ctor_tau_absent`: `taucrit: 0.12` -/
example : ∃ self, sedCtorSeq (α := ℝ) (fun _ => none) ⟨some ⟨some 1000, none, some (.num 0.12)⟩, some 600⟩
    = some (some self) ∧ ∀ lon lat, c08TauAt self.taucritFn lon lat = some 0.12 := by
  refine ⟨?_, ?h, fun lon lat => c08_sed_ctor_tau_constant _ _ _ _ 0.12 none none none ?h rfl (Or.inl rfl) lon lat⟩
  case h => rw [Bridge.sed_ctor_seq]; rfl

example : ∃ self, sedCtorSeq (α := ℝ) (fun _ => none) ⟨some ⟨some 1000, some (.num 0.01), none⟩, some 600⟩
    = some (some self) ∧ ∀ lon lat, c08TauAt self.taucritFn lon lat = none := by
  refine ⟨?_, ?h, fun lon lat => c08_sed_ctor_tau_absent _ _ _ _ ?h rfl (Or.inl rfl) lon lat⟩
  case h => rw [Bridge.sed_ctor_seq]; rfl

/-- `c08_mine_settled_leaves`: no resuspension, no mixing, a particle 1 m above the bed sinking 6 m in the step -/
example : ∃ q k, c08MineUpdate (α := ℝ) ⟨600, 600, 1000000, 0, none, false, true, .numeric⟩ 0 ⟨100, 0.1, 0, 0⟩ 0.3
    ⟨-1, 0⟩ ⟨99, 1, true, 0, 0.01⟩ = some (q, k) ∧ q.z = 100 ∧ q.alive = false := by
  apply c08_mine_settled_leaves _ _ _ _ _ _ (by decide) rfl (fun _ _ => le_refl _) (fun _ => by decide)
  simp only [c08MineSunk, Gen.mine_sink, Gen.mine_mix, HasSqrt.sqrt]
  norm_num

/-- `c08_mine_resuspends_iff` / `c08_mine_settled_rests` / `c08_mine_flag_values`: critical stress 0.12 Pa -/
example : ∃ q k, c08MineUpdate (α := ℝ) ⟨600, 600, 1000000, 0.001, some 0.12, true, true, .numeric⟩ 2 ⟨100, 0.1, 0, 0.001⟩
    0.3 ⟨1, 0⟩ ⟨100, 0, true, 0, 0.01⟩ = some (q, k) ∧ q.z = 100 ∧ q.active = 0 :=
  c08_mine_settled_rests RealInst.sqrtLaws _ _ _ _ _ _ (by decide) rfl rfl (Or.inr ⟨0.12, rfl, by norm_num⟩)

example : ∃ q k, c08MineUpdate (α := ℝ) ⟨600, 600, 1000000, 0.001, some 0.12, true, true, .bool⟩ 2 ⟨100, 0.3, 0, 0.001⟩
    0.3 ⟨1, 0⟩ ⟨100, 0, true, 0, 0.01⟩ = some (q, k) ∧
    (q.active ≠ 0 ↔ ((0.12 : ℝ) ≤ 1000 * (0.003 * (0.3 * 0.3 + 0 * 0)) ∧
      c08MineSunk (α := ℝ) ⟨600, 600, 1000000, 0.001, some 0.12, true, true, .bool⟩ ⟨100, 0.3, 0, 0.001⟩ 0.3
        ⟨100, 0, true, 0, 0.01⟩ ≤ 100)) := by
  exact c08aux_result_imp (c08_mine_resuspends_iff RealInst.sqrtLaws _ _ _ _ _ _ 0.12 (by decide) rfl rfl rfl)
    fun q k h => h.1

/-- `c08_mine_ctor_no_resuspension`: the default configuration (no key `taucrit`) -/
example : ∃ self, mineCtorSeq (α := ℝ) ⟨some ⟨some 1000, none, none, none, none, none⟩, some 600, some [], some []⟩
    = some (some self) ∧ self.taucritFn = none := by
  refine ⟨?_, ?h, (c08_mine_ctor_no_resuspension _ _ 600 true .numeric _ ?h rfl (Or.inl rfl)).1⟩
  case h => rw [Bridge.mine_ctor_seq]; rfl

/-- `c08_sed_resuspend_method`: 0.27 Pa ≥ 0.12 Pa, the settled particle is flagged `True` -/
example : ∃ a' k, runSedResuspend (α := ℝ) Gen.sed_resuspend_seq ⟨-1, 0⟩ 0 ⟨100, 0.3, 0, some 0.12, 0.02⟩ 0
    = some (some (a', k)) ∧ a' = 1 ∧ k.tstep = 0 := by
  obtain ⟨a', k, h, _, h2⟩ := c08_sed_resuspend_method RealInst.sqrtLaws (α := ℝ) ⟨-1, 0⟩ 0
    ⟨100, 0.3, 0, some 0.12, 0.02⟩ 0 (by decide)
  exact ⟨a', k, h, (h2 0.12 rfl).1 (by norm_num), (h2 0.12 rfl).2.2.1⟩

/-- `c08_mine_flag_history`: two updates of a particle that has rested before, boolean flag array -/
example : ∃ q k, c08MineRun (α := ℝ) ⟨600, 600, 1000000, 0.001, some 0.12, true, true, .bool⟩
    [(3, ⟨100, 0.3, 0, 0.001⟩, 0.3), (7, ⟨100, 0, 0, 0⟩, -1.2)] (⟨100, 0, true, 0, 0.01⟩, ⟨1, 0⟩) = some (q, k) ∧
    q.active ≤ 1 := by
  exact c08aux_result_imp (c08_mine_flag_history _ rfl _ (by simp) _ _ (by decide) (fun _ => Nat.zero_le _))
    fun q k h => h.2 rfl

/-- `c08_mine_taucrit_fn` has no hypothesis; `c08_mine_resuspension_needs_active_variable`: -/
example : c08MineUpdate (α := ℝ) ⟨600, 600, 1000000, 0.001, some 0.12, true, false, .bool⟩ 0 ⟨100, 0.3, 0, 0.001⟩ 0.3
    ⟨-1, 0⟩ ⟨100, 1, true, 0, 0.01⟩ = none :=
  c08_mine_resuspension_needs_active_variable _ _ _ _ _ _ 0.12 rfl rfl

/-- the constructor hypothesis of `c08_sed_ctor_tau_grain_size_partial`: `taucrit: {method: grain_size_poly, …}` -/
example : ∃ self, sedCtorSeq (α := ℝ)
    (fun _ => some ⟨fun _ => some ⟨2, 3, fun j _ => if j = 0 then some 100 else none⟩, [60, 60.5], [5, 5.25, 5.5]⟩)
    ⟨some ⟨some 1000, none,
      some (.dict ⟨some "grain_size_poly", none, none, some "grain.nc", some "grain_size"⟩)⟩, some 600⟩
    = some (some self) := by
  rw [Bridge.sed_ctor_seq]
  exact ⟨_, rfl⟩

end examples

end OnCode
