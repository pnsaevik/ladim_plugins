import LadimProofs.C19Weighted
import LadimProofs.Bridge.RasterSeq
import LadimProofs.Bridge.SettledSeq
import LadimProofs.Bridge.Runners
/-!
# C19 end to end — the clauses of the property, stated about the interpretation of the current source

Property C19 — Post-processing conserves particles
STATEMENT: Rasterising a particle file conserves particles: for every time slot the cell counts sum to the number of particles located within the grid's outer bin edges and each weighted sum equals the total weight of those particles, with bin edges midway between bin centres. Converting an output file to SQLite stores every particle and every particle instance exactly once with its time stamp, and selecting settled particles returns, for each particle, its last recorded instance.
QUANTIFIER: all sparse LADiM datasets (any number of time slots including empty ones, any particle counts), all monotone bin-centre grids, all weights; all pid sequences with repeats

Every main theorem (`OnCode.c19_…`) is about what the interpreters of `LadimModel/Post/{RasterSeq,SettledSeq}.lean`
return when they run the statement sequences generated from the current source:

* `fromParticlesSeq A P none` — by definition `Loops.retVal PtSt.ret (Loops.run (ptInterp A P none)
  Gen.raster_from_particles_seq PtSt.init)`, whose last statement calls `fromParticleSeq`, the run of
  `Gen.raster_from_particle_seq` (`utils/rasterize.py :: from_particles`, `_from_particle`);
* `ladimFileToSqliteSeq files` — the run of `Gen.sqlite_file_seq`, calling the runs of `Gen.sqlite_particles_seq` and
  `Gen.sqlite_instances_seq` (`utils/converter.py :: ladim_file_to_sqlite`, `add_particle_values`,
  `add_instance_values`);
* `runSettledIndex / runSettled / runSettledSt … Gen.settled_particles_seq` (`sedimentation/ibm.py ::
  get_settled_particles`);
* `edgesSeq a` — the run of `Gen.raster_edges_seq` (`utils/rasterize.py :: _edges`) under an interpretation that is
  local to this file (there is none in `LadimModel`).
(The `example`s directly below the imports state these unfoldings.)  The bridges of `LadimProofs/Bridge/{RasterSeq,
SettledSeq}.lean` and the model theorems of `LadimProofs/C19.lean`, `C19Weighted.lean` are used as lemmas; what they
leave open (conservation in any number of dimensions, decreasing axes, the cell that contains a particle, the rows of
one time slot of the SQLite table) is proved here.  The definitions of this file (`allCells`, `countTotal`,
`insideGrid`, `inBin`, `slotRows`, …) are vocabulary of the statements, written in terms of list positions and edges,
not in terms of the hand-written model.

Main theorems and the clause each covers
* `c19_raster_returns` — a sparse dataset gives one raster per time slot (empty slots included) and variable;
* `c19_raster_count_conserved` — "the cell counts sum to the number of particles located within the grid's outer bin edges";
* `c19_raster_weight_conserved` — "each weighted sum equals the total weight of those particles";
* `c19_raster_cells` — each particle is counted in exactly one cell, the one whose edges contain it; no particle of
  another slot is counted; the same cells for counts and weights;
* `c19_raster_decreasing_flipped` — decreasing axes give the same raster, flipped;
* `c19_raster_no_slot` — a dataset without any time slot: the code raises (the quantifier's "any number of time slots"
  fails at zero);
* `c19_raster_centres_midway`, `c19_edges_midway` — "with bin edges midway between bin centres";
* `c19_sqlite_returns`, `c19_sqlite_particle_table`, `c19_sqlite_instance_table`, `c19_instance_row` — "stores every
  particle and every particle instance exactly once with its time stamp", split runs concatenate;
* `c19_settled_last_instance`, `c19_settled_dataset` — "returns, for each particle, its last recorded instance".
-/
open Ladim Ladim.Post Ladim.Seq

set_option linter.unusedSectionVars false
set_option linter.unusedVariables false
set_option linter.unusedSimpArgs false

namespace OnCode.E2E_C19

/-! the entry points are, by definition, runs of the generated sequences -/
section entry
variable {α β τ H : Type} [Add α] [Mul α] [LT α] [DecidableLT α] [OfScientific α]
example (A : HistArgs α β H) (P : Particles β τ) (t : Option Nat) :
    fromParticlesSeq A P t =
      Loops.retVal PtSt.ret (Loops.run (ptInterp A P t) Gen.raster_from_particles_seq PtSt.init) := rfl
example (A : HistArgs α β H) (sl : Nat → Option (List β)) (tv : Option (List τ)) :
    fromParticleSeq A sl tv =
      Loops.retVal FpSt.ret (Loops.run (fpInterp A sl tv) Gen.raster_from_particle_seq FpSt.init) := rfl
example (files : List (LadimFile α)) :
    ladimFileToSqliteSeq files =
      match Loops.run (sqInterp files) Gen.sqlite_file_seq ⟨Db.empty, [], 0, none⟩ with
      | none => none
      | some none => some none
      | some (some s) => some (some s.db) := by
  -- `rfl` would run the interpreter to compare the two `match`es
  rw [ladimFileToSqliteSeq]
  generalize Loops.run _ _ _ = r
  rcases r with _ | _ | _ <;> rfl
end entry

/-! ## vocabulary of the statements -/

/-- all multi-indices of an array of the given shape (`np.ndindex(*shape)`) -/
def allCells : List Nat → List (List Nat)
  | [] => [[]]
  | n :: ns => (List.range n).flatMap (fun k => (allCells ns).map (k :: ·))

/-- `c` is a multi-index of an array of shape `shape` -/
def ValidCell (shape c : List Nat) : Prop :=
  c.length = shape.length ∧ ∀ i (h1 : i < c.length) (h2 : i < shape.length), c[i] < shape[i]

theorem validCell_cons (n k : Nat) (ns c : List Nat) : ValidCell (n :: ns) (k :: c) ↔ k < n ∧ ValidCell ns c := by
  constructor
  · rintro ⟨hl, h⟩
    exact ⟨h 0 (Nat.succ_pos _) (Nat.succ_pos _), Nat.succ.inj hl,
      fun i h1 h2 => h (i + 1) (Nat.succ_lt_succ h1) (Nat.succ_lt_succ h2)⟩
  · rintro ⟨hk, hl, h⟩
    refine ⟨congrArg Nat.succ hl, fun i h1 h2 => ?_⟩
    cases i with
    | zero => exact hk
    | succ i => exact h i (Nat.lt_of_succ_lt_succ h1) (Nat.lt_of_succ_lt_succ h2)

theorem mem_allCells : ∀ (shape c : List Nat), c ∈ allCells shape ↔ ValidCell shape c
  | [], c => by simp [allCells, ValidCell]
  | n :: ns, [] => by simp [allCells, ValidCell]
  | n :: ns, k :: c => by
    rw [validCell_cons, ← mem_allCells ns c]
    simp [allCells]

theorem allCells_nodup : ∀ shape : List Nat, (allCells shape).Nodup
  | [] => by simp [allCells]
  | n :: ns => by
    simp only [allCells]
    rw [List.nodup_flatMap]
    refine ⟨?_, ?_⟩
    · intro k _
      exact (allCells_nodup ns).map (fun a b h => by simpa using h)
    · apply List.Pairwise.imp_of_mem (R := fun a b => a ≠ b)
      · intro a b _ _ hab
        simp only [Function.onFun, List.Disjoint, List.mem_map]
        rintro c ⟨c1, _, rfl⟩ ⟨c2, _, h⟩
        exact hab (by simpa using (List.cons.inj h).1.symm)
      · exact List.nodup_range

/-! ## counting over cells -/
section counting
variable {β ι : Type} [BEq ι] [LawfulBEq ι]

theorem sum_ite_eq_count_smul {M : Type} [AddCommMonoid M] (L : List ι) (g : ι → ι) (c0 : ι) (w : M) :
    (L.map (fun c => if c0 == g c then w else 0)).sum = (L.map g).count c0 • w := by
  induction L with
  | nil => simp
  | cons x xs ih =>
    simp only [List.map_cons, List.sum_cons, ih, List.count_cons, BEq.comm (a := g x)]
    split_ifs
    · rw [add_comm, succ_nsmul]
    · rw [zero_add, add_zero]

/-- every point that has a cell falls in exactly one cell of the list: the sums of `w` over the cells add up to the
sum of `w` over the points that have a cell -/
theorem sum_weight_cells {M : Type} [AddCommMonoid M] (L : List ι) (f : β → Option ι) (g : ι → ι)
    (hg : ∀ p c, f p = some c → (L.map g).count c = 1) (w : β → M) (pts : List β) :
    (L.map (fun c => ((pts.filter (fun p => f p == some (g c))).map w).sum)).sum =
      ((pts.filter (fun p => (f p).isSome)).map w).sum := by
  induction pts with
  | nil => simp
  | cons p ps ih =>
    have step : ∀ c, (((p :: ps).filter (fun p => f p == some (g c))).map w).sum =
        (if f p == some (g c) then w p else 0) + ((ps.filter (fun p => f p == some (g c))).map w).sum := by
      intro c
      cases h : (f p == some (g c)) <;> simp [h]
    simp only [step, List.sum_map_add, ih]
    cases hp : f p with
    | none =>
      have : ∀ c, ((none : Option ι) == some (g c)) = false := fun c => rfl
      simp [hp, this]
    | some c0 =>
      have h1 : ∀ c, (some c0 == some (g c)) = (c0 == g c) := fun c => rfl
      simp only [h1, sum_ite_eq_count_smul L g c0 (w p), hg p c0 hp, one_nsmul, List.filter_cons, hp,
        Option.isSome_some, if_true, List.map_cons, List.sum_cons]

/-- … with `w = 1`: the counts add up to the number of points that have a cell -/
theorem sum_count_cells (L : List ι) (f : β → Option ι) (g : ι → ι)
    (hg : ∀ p c, f p = some c → (L.map g).count c = 1) (pts : List β) :
    (L.map (fun c => (pts.filter (fun p => f p == some (g c))).length)).sum =
      (pts.filter (fun p => (f p).isSome)).length := by
  simpa only [List.map_const', List.sum_replicate, nsmul_eq_mul, Nat.cast_id, mul_one]
    using sum_weight_cells L f g hg (fun _ => (1 : ℕ)) pts

end counting

/-! ## `np.flip`: reflection of the multi-index -/
section reflect
open Bridge

theorem reflect_length (shape axes idx : List Nat) : (reflectIdx shape axes idx).length = idx.length := by
  simp [reflectIdx]

theorem reflect_getElem (shape axes idx : List Nat) (i : Nat) (h : i < idx.length) (hs : i < shape.length) :
    (reflectIdx shape axes idx)[i]'(by rw [reflect_length]; exact h) =
      if axes.contains i then shape[i] - 1 - idx[i] else idx[i] := by
  simp [reflectIdx, hs]

theorem reflect_valid (shape axes c : List Nat) (h : ValidCell shape c) : ValidCell shape (reflectIdx shape axes c) := by
  obtain ⟨hl, hall⟩ := h
  refine ⟨by rw [reflect_length, hl], ?_⟩
  intro i h1 h2
  have h1' : i < c.length := by rwa [reflect_length] at h1
  rw [reflect_getElem _ _ _ _ h1' h2]
  have := hall i h1' h2
  split_ifs
  · omega
  · exact this

theorem reflect_reflect (shape axes c : List Nat) (h : ValidCell shape c) :
    reflectIdx shape axes (reflectIdx shape axes c) = c := by
  obtain ⟨hl, hall⟩ := h
  apply List.ext_getElem
  · rw [reflect_length, reflect_length]
  · intro i h1 h2
    have h1' : i < (reflectIdx shape axes c).length := by rw [reflect_length]; exact h2
    have h3 : i < shape.length := by omega
    rw [reflect_getElem _ _ _ _ h1' h3, reflect_getElem _ _ _ _ h2 h3]
    have := hall i h2 h3
    split_ifs
    · omega
    · rfl

/-- flipping permutes the cells: every cell is the mirror image of exactly one cell -/
theorem reflect_count (shape axes c : List Nat) (h : ValidCell shape c) :
    ((allCells shape).map (reflectIdx shape axes)).count c = 1 := by
  apply List.count_eq_one_of_mem
  · apply (allCells_nodup shape).map_on
    intro x hx y hy hxy
    rw [← reflect_reflect shape axes x ((mem_allCells _ _).1 hx), hxy,
      reflect_reflect shape axes y ((mem_allCells _ _).1 hy)]
  · rw [List.mem_map]
    exact ⟨reflectIdx shape axes c, (mem_allCells _ _).2 (reflect_valid _ _ _ h), reflect_reflect _ _ _ h⟩

theorem reflect_nil (shape idx : List Nat) : reflectIdx shape [] idx = idx := by
  simp [reflectIdx]

end reflect

/-! ## bin axes: monotone in either direction -/
section axes
open Bridge
variable {α : Type} [Field α] [LinearOrder α] [IsStrictOrderedRing α]

/-- a bin axis as the property quantifies it: at least two edges, strictly monotone (in either direction) -/
def MonoAxis (e : List α) : Prop := 2 ≤ e.length ∧ (e.Pairwise (· < ·) ∨ e.Pairwise (· > ·))

/-- `x` lies within the outer edges of the axis (its first and last edge, in either order) -/
def insideOuter (e : List α) (x : α) : Bool :=
  match e.head?, e.getLast? with
  | some a, some b => (decide (a ≤ x) && decide (x ≤ b)) || (decide (b ≤ x) && decide (x ≤ a))
  | _, _ => false

/-- the point `p` lies within the outer edges of every axis of the grid -/
def insideGrid (ess : List (List α)) (p : List α) : Bool := (ess.zip p).all (fun ep => insideOuter ep.1 ep.2)

/-- the edges handed to `np.histogramdd` for one axis -/
def incAxis (e : List α) : List α := if decreasingAxis e then e.reverse else e

theorem histEdgesOf_eq (ess : List (List α)) : histEdgesOf ess = ess.map incAxis := rfl

theorem head_rel_last (R : α → α → Prop) (e : List α) (a b : α) (hlen : 2 ≤ e.length) (hp : e.Pairwise R)
    (ha : e.head? = some a) (hb : e.getLast? = some b) : R a b := by
  match e, hlen with
  | x :: y :: rest, _ =>
    simp only [List.head?_cons, Option.some.injEq] at ha
    subst ha
    rw [List.getLast?_cons_cons] at hb
    rw [List.pairwise_cons] at hp
    exact hp.1 b (List.mem_of_getLast? hb)

theorem head_last_exist (e : List α) (hlen : 2 ≤ e.length) : ∃ a b, e.head? = some a ∧ e.getLast? = some b := by
  match e, hlen with
  | x :: y :: rest, _ =>
    refine ⟨x, (y :: rest).getLast (by simp), rfl, ?_⟩
    rw [List.getLast?_cons_cons, List.getLast?_eq_getLast_of_ne_nil]

theorem decreasingAxis_inc (e : List α) (hlen : 2 ≤ e.length) (hp : e.Pairwise (· < ·)) : decreasingAxis e = false := by
  obtain ⟨a, b, ha, hb⟩ := head_last_exist e hlen
  have := head_rel_last (· < ·) e a b hlen hp ha hb
  simp only [decreasingAxis, ha, hb]
  simp [not_lt.2 this.le]

theorem decreasingAxis_dec (e : List α) (hlen : 2 ≤ e.length) (hp : e.Pairwise (· > ·)) : decreasingAxis e = true := by
  obtain ⟨a, b, ha, hb⟩ := head_last_exist e hlen
  have := head_rel_last (· > ·) e a b hlen hp ha hb
  simp only [decreasingAxis, ha, hb]
  have h1 : 1 < e.length := by omega
  simp [h1]
  exact this

theorem incAxis_length (e : List α) : (incAxis e).length = e.length := by
  unfold incAxis; split_ifs <;> simp

theorem incAxis_sorted (e : List α) (h : MonoAxis e) : (incAxis e).Pairwise (· < ·) := by
  obtain ⟨hlen, hp | hp⟩ := h
  · rw [incAxis, decreasingAxis_inc e hlen hp]; exact hp
  · rw [incAxis, decreasingAxis_dec e hlen hp, if_pos rfl, List.pairwise_reverse]; exact hp

theorem insideOuter_reverse (e : List α) (x : α) : insideOuter e.reverse x = insideOuter e x := by
  unfold insideOuter
  rw [List.head?_reverse, List.getLast?_reverse]
  cases e.head? with
  | none => cases e.getLast? <;> rfl
  | some a =>
    cases e.getLast? with
    | none => rfl
    | some b => exact Bool.or_comm _ _

/-- a coordinate is binned on the (increasing) `hist_edges` axis iff it lies within the outer edges of the caller's axis -/
theorem incAxis_isSome_iff (e : List α) (h : MonoAxis e) (x : α) :
    (binIndex (incAxis e) x).isSome ↔ insideOuter e x = true := by
  have hio : insideOuter (incAxis e) x = insideOuter e x := by
    unfold incAxis
    split_ifs
    exacts [insideOuter_reverse e x, rfl]
  have hlen : 2 ≤ (incAxis e).length := by rw [incAxis_length]; exact h.1
  obtain ⟨a, b, ha, hb⟩ := head_last_exist _ hlen
  have hab := head_rel_last (· < ·) _ a b hlen (incAxis_sorted e h) ha hb
  rw [← hio, C19.in_grid_iff _ x a b hlen ha hb (incAxis_sorted e h)]
  simp only [insideOuter, ha, hb, Bool.or_eq_true, Bool.and_eq_true, decide_eq_true_eq]
  exact ⟨Or.inl, fun h => h.elim id fun h => absurd (h.1.trans h.2) (not_le.2 hab)⟩

/-- a point has a cell of `hist_edges` iff it lies within the outer edges of every axis of the caller's grid -/
theorem cell_isSome_iff (ess : List (List α)) (hm : ∀ e ∈ ess, MonoAxis e) (p : List α) :
    (cellOf (histEdgesOf ess) p).isSome ↔ insideGrid ess p = true := by
  rw [C19.cellOf_isSome_iff, histEdgesOf_eq, List.zip_map_left, insideGrid, List.all_eq_true, List.forall_mem_map]
  exact forall₂_congr fun ep hep => incAxis_isSome_iff ep.1 (hm ep.1 (List.of_mem_zip hep).1) ep.2

end axes

/-! ## the cell whose edges contain the particle -/
section contain
open Bridge
variable {α : Type} [Field α] [LinearOrder α] [IsStrictOrderedRing α]

/-- bin `k` of the caller's axis `e` (edges `e[k]`, `e[k+1]`) contains `x`.  numpy convention on the increasing order of
the edges: closed at the lower edge, open at the upper edge, except that the last bin is closed at both; on an axis
given in decreasing order that last bin is bin `0` -/
def inBin (e : List α) (k : Nat) (x : α) : Prop :=
  ∃ h : k + 1 < e.length,
    if decreasingAxis e then e[k + 1] ≤ x ∧ (x < e[k] ∨ (k = 0 ∧ x ≤ e[k]))
    else e[k] ≤ x ∧ (x < e[k + 1] ∨ (k + 2 = e.length ∧ x ≤ e[k + 1]))

/-- one axis: a coordinate binned at position `k` of the caller's axis (position `n_bins - 1 - k` of the reversed edges
when the axis is decreasing) lies between the edges `k` and `k + 1` of the caller's axis -/
theorem axis_contains (e : List α) (x : α) (k : Nat) (hk : k + 1 < e.length)
    (h : binIndex (incAxis e) x = some (if decreasingAxis e then e.length - 1 - 1 - k else k)) : inBin e k x := by
  refine ⟨hk, ?_⟩
  cases hd : decreasingAxis e with
  | false =>
    simp only [incAxis, hd, Bool.false_eq_true, if_false] at h ⊢
    obtain ⟨j, hj, hlt, h1, h2⟩ := C19.binGo_sound x e 0 k h
    have : j = k := by omega
    subst this
    exact ⟨h1, h2⟩
  | true =>
    simp only [incAxis, hd, if_true] at h ⊢
    obtain ⟨j, hj, hlt, h1, h2⟩ := C19.binGo_sound x e.reverse 0 _ h
    have hjk : j = e.length - 1 - 1 - k := by omega
    subst hjk
    simp only [List.getElem_reverse, List.length_reverse] at h1 h2
    have e1 : e.length - 1 - (e.length - 1 - 1 - k) = k + 1 := by omega
    have e2 : e.length - 1 - (e.length - 1 - 1 - k + 1) = k := by omega
    simp only [e1, e2] at h1 h2
    refine ⟨h1, ?_⟩
    rcases h2 with h2 | ⟨h2, h3⟩
    · exact Or.inl h2
    · exact Or.inr ⟨by omega, h3⟩

theorem flipAxes_contains (ess : List (List α)) (i : Nat) (hi : i < ess.length) :
    (flipAxes ess).contains i = decreasingAxis ess[i] :=
  mem_flipAxes ess ess[i] i (List.mem_zipIdx_iff_getElem?.2 (by simp [hi]))

/-- a particle counted in cell `idx` of the caller's grid (after the flip) lies, on every axis, between the edges
`idx[i]` and `idx[i] + 1` of that axis -/
theorem cell_contains (ess : List (List α)) (p : List α) (idx : List Nat) (hp : p.length = ess.length)
    (hv : ValidCell ((histEdgesOf ess).map (fun e => e.length - 1)) idx)
    (h : cellOf (histEdgesOf ess) p =
      some (reflectIdx ((histEdgesOf ess).map (fun e => e.length - 1)) (flipAxes ess) idx)) :
    ∀ i (h1 : i < ess.length) (h2 : i < idx.length) (h3 : i < p.length), inBin ess[i] idx[i] p[i] := by
  obtain ⟨hlen, hall⟩ := C19.cellOf_components _ _ _ h
  intro i h1 h2 h3
  have hsh : i < ((histEdgesOf ess).map (fun e => e.length - 1)).length := by
    simpa [histEdgesOf_eq] using h1
  have hb := hall i (by rw [reflect_length]; exact h2) (by simp [histEdgesOf_eq]; omega)
  have hlt := hv.2 i h2 hsh
  rw [List.getElem_zip, reflect_getElem _ _ _ _ h2 hsh, flipAxes_contains ess i h1] at hb
  simp only [histEdgesOf_eq, List.getElem_map, incAxis_length] at hb hlt
  exact axis_contains ess[i] p[i] idx[i] (by omega) hb

end contain

/-! ## one histogram of `_from_particle`: totals over all cells -/
section totals
open Bridge
variable {α β : Type} [Field α] [LinearOrder α] [IsStrictOrderedRing α]

/-- the particle count held by a histogram cell (a cell of a weighted histogram holds no count) -/
def hcount : HVal α → Nat
  | .count n => n
  | .weight _ => 0

/-- the weighted sum held by a histogram cell -/
def hweight : HVal α → α
  | .weight x => x
  | .count _ => 0

/-- the sum of the particle counts over all cells of the raster -/
def countTotal (h : ModelHist α) : Nat := ((allCells h.shape).map (fun idx => hcount (h.val idx))).sum

/-- the sum of the weighted sums over all cells of the raster -/
def weightTotal (h : ModelHist α) : α := ((allCells h.shape).map (fun idx => hweight (h.val idx))).sum

theorem cellOf_valid (ess : List (List α)) (p : List α) (c : List Nat) (hp : p.length = ess.length)
    (h : cellOf ess p = some c) : ValidCell (ess.map (fun e => e.length - 1)) c := by
  obtain ⟨hlen, hall⟩ := C19.cellOf_index_lt ess p c h
  have hz : (ess.zip p).length = ess.length := by simp [hp]
  refine ⟨by rw [hlen, hz, List.length_map], ?_⟩
  intro i h1 h2
  have := hall i h1
  rw [List.getElem_zip] at this
  simp only [List.getElem_map]
  simp only [] at this
  omega

theorem zip_filter_snd (d : List β) (f : β → List α) (w : β → α) (Q : List α × α → Bool) :
    (((d.map f).zip (d.map w)).filter Q).map (·.2) = (d.filter (fun r => Q (f r, w r))).map w := by
  induction d with
  | nil => rfl
  | cons r d ih =>
    simp only [List.map_cons, List.zip_cons_cons, List.filter_cons]
    cases Q (f r, w r) <;> simp [ih]

/-- the row `r` is counted in cell `idx` of the raster: its cell of `hist_edges` is the one that `np.flip` along the
decreasing axes reads for `idx` -/
def counted (A : HistArgs α β (ModelHist α)) (idx : List Nat) (r : β) : Bool :=
  cellOf (histEdgesOf A.binEdges) (A.coord r) ==
    some (reflectIdx ((histEdgesOf A.binEdges).map (fun e => e.length - 1)) (flipAxes A.binEdges) idx)

theorem hist1_count_val (A : HistArgs α β (ModelHist α)) (hh : A.histdd = modelHistdd) (hf : A.npFlip = modelFlip)
    (d : List β) (idx : List Nat) :
    (hist1 A (flipAxes A.binEdges) (histEdgesOf A.binEdges) d none).val idx = .count (d.filter (counted A idx)).length := by
  rw [hist1_model_val A hh hf]
  simp only [modelHistdd, Option.map_none, List.filter_map, List.length_map]
  rfl

theorem hist1_weight_val (A : HistArgs α β (ModelHist α)) (hh : A.histdd = modelHistdd) (hf : A.npFlip = modelFlip)
    (d : List β) (name : String) (idx : List Nat) :
    (hist1 A (flipAxes A.binEdges) (histEdgesOf A.binEdges) d (some name)).val idx =
      .weight (((d.filter (counted A idx)).map (A.wval name)).sum) := by
  rw [hist1_model_val A hh hf]
  simp only [modelHistdd, Option.map_some]
  rw [C19.foldl_add_lit_eq_sum, zip_filter_snd]
  rfl

theorem cell_count_one (A : HistArgs α β (ModelHist α)) (hdim : ∀ r, (A.coord r).length = A.binEdges.length) :
    ∀ (r : β) (c : List Nat), cellOf (histEdgesOf A.binEdges) (A.coord r) = some c →
      ((allCells ((histEdgesOf A.binEdges).map (fun e => e.length - 1))).map
        (reflectIdx ((histEdgesOf A.binEdges).map (fun e => e.length - 1)) (flipAxes A.binEdges))).count c = 1 := by
  intro r c hc
  apply reflect_count
  exact cellOf_valid _ _ _ (by rw [hdim, histEdgesOf_eq, List.length_map]) hc

/-- the rows that have a cell of `hist_edges` are the rows within the outer edges of the caller's grid -/
theorem filter_inside (A : HistArgs α β (ModelHist α)) (hm : ∀ e ∈ A.binEdges, MonoAxis e) (d : List β) :
    d.filter (fun r => (cellOf (histEdgesOf A.binEdges) (A.coord r)).isSome) =
      d.filter (fun r => insideGrid A.binEdges (A.coord r)) :=
  List.filter_congr fun r _ => Bool.eq_iff_iff.2 (cell_isSome_iff A.binEdges hm (A.coord r))

/-- the cell counts of one slice add up to the number of its rows within the outer edges -/
theorem hist1_count_total (A : HistArgs α β (ModelHist α)) (hh : A.histdd = modelHistdd) (hf : A.npFlip = modelFlip)
    (hdim : ∀ r, (A.coord r).length = A.binEdges.length) (hm : ∀ e ∈ A.binEdges, MonoAxis e) (d : List β) :
    countTotal (hist1 A (flipAxes A.binEdges) (histEdgesOf A.binEdges) d none) =
      (d.filter (fun r => insideGrid A.binEdges (A.coord r))).length := by
  unfold countTotal
  rw [hist1_model_shape A hh hf, ← filter_inside A hm]
  simp only [hist1_count_val A hh hf, hcount, counted]
  exact sum_count_cells _ (fun r => cellOf (histEdgesOf A.binEdges) (A.coord r)) _ (cell_count_one A hdim) d

/-- the weighted sums of one slice add up to the total weight of its rows within the outer edges -/
theorem hist1_weight_total (A : HistArgs α β (ModelHist α)) (hh : A.histdd = modelHistdd) (hf : A.npFlip = modelFlip)
    (hdim : ∀ r, (A.coord r).length = A.binEdges.length) (hm : ∀ e ∈ A.binEdges, MonoAxis e) (d : List β)
    (name : String) :
    weightTotal (hist1 A (flipAxes A.binEdges) (histEdgesOf A.binEdges) d (some name)) =
      ((d.filter (fun r => insideGrid A.binEdges (A.coord r))).map (A.wval name)).sum := by
  unfold weightTotal
  rw [hist1_model_shape A hh hf, ← filter_inside A hm]
  simp only [hist1_weight_val A hh hf, hweight, counted]
  exact sum_weight_cells _ (fun r => cellOf (histEdgesOf A.binEdges) (A.coord r)) _ (cell_count_one A hdim)
    (A.wval name) d

end totals

/-! ## Python dicts, time slots -/
section dicts
variable {κ ν : Type} [BEq κ] [LawfulBEq κ]

theorem mem_dictSet (d : List (κ × ν)) (k : κ) (v : ν) (e : κ × ν) (h : e ∈ dictSet d k v) : e ∈ d ∨ e = (k, v) := by
  unfold dictSet at h
  split_ifs at h
  · rw [List.mem_map] at h
    obtain ⟨e', he', rfl⟩ := h
    split_ifs
    · exact Or.inr rfl
    · exact Or.inl he'
  · rw [List.mem_append, List.mem_singleton] at h
    exact h

theorem key_dictSet (d : List (κ × ν)) (k : κ) (v : ν) (k' : κ) (h : (∃ e ∈ d, e.1 = k') ∨ k' = k) :
    ∃ e ∈ dictSet d k v, e.1 = k' := by
  unfold dictSet
  split_ifs with hany
  · rcases h with ⟨e, he, rfl⟩ | rfl
    · refine ⟨if e.1 == k then (k, v) else e, List.mem_map.2 ⟨e, he, rfl⟩, ?_⟩
      split_ifs with hk
      · exact (eq_of_beq hk).symm
      · rfl
    · rw [List.any_eq_true] at hany
      obtain ⟨e, he, hk⟩ := hany
      exact ⟨(k', v), List.mem_map.2 ⟨e, he, by simp [hk]⟩, rfl⟩
  · rcases h with ⟨e, he, rfl⟩ | rfl
    · exact ⟨e, List.mem_append_left _ he, rfl⟩
    · exact ⟨(k', v), by simp, rfl⟩

theorem mem_foldl_dictSet (l : List (κ × ν)) : ∀ (d : List (κ × ν)) (e : κ × ν),
    e ∈ l.foldl (fun d e => dictSet d e.1 e.2) d → e ∈ d ∨ e ∈ l := by
  induction l with
  | nil => intro d e h; exact Or.inl h
  | cons x xs ih =>
    intro d e h
    rcases ih _ e h with h | h
    · rcases mem_dictSet d x.1 x.2 e h with h | h
      · exact Or.inl h
      · exact Or.inr (by rw [h]; simp)
    · exact Or.inr (List.mem_cons_of_mem _ h)

theorem key_foldl_dictSet (l : List (κ × ν)) : ∀ (d : List (κ × ν)) (k' : κ),
    ((∃ e ∈ d, e.1 = k') ∨ ∃ e ∈ l, e.1 = k') → ∃ e ∈ l.foldl (fun d e => dictSet d e.1 e.2) d, e.1 = k' := by
  induction l with
  | nil =>
    intro d k' h
    rcases h with h | ⟨e, he, _⟩
    · exact h
    · simp at he
  | cons x xs ih =>
    intro d k' h
    apply ih
    rcases h with h | ⟨e, he, hk⟩
    · exact Or.inl (key_dictSet d x.1 x.2 k' (Or.inl h))
    · rw [List.mem_cons] at he
      rcases he with rfl | he
      · exact Or.inl (key_dictSet d e.1 e.2 k' (Or.inr hk.symm))
      · exact Or.inr ⟨e, he, hk⟩

/-- every entry of `{k: v for k, v in l}` is an entry of `l` -/
theorem mem_dictOf (l : List (κ × ν)) (e : κ × ν) (h : e ∈ dictOf l) : e ∈ l := by
  rcases mem_foldl_dictSet l [] e h with h | h
  · simp at h
  · exact h

/-- … and every key of `l` is a key of the dict -/
theorem key_dictOf (l : List (κ × ν)) (e : κ × ν) (h : e ∈ l) : ∃ e' ∈ dictOf l, e'.1 = e.1 :=
  key_foldl_dictSet l [] e.1 (Or.inr ⟨e, h, rfl⟩)

theorem dictSet_map {ν' : Type} (φ : ν → ν') (d : List (κ × ν)) (k : κ) (v : ν) :
    dictSet (d.map (fun e => (e.1, φ e.2))) k (φ v) = (dictSet d k v).map (fun e => (e.1, φ e.2)) := by
  unfold dictSet
  simp only [List.any_map, Function.comp_def]
  split_ifs
  · simp only [List.map_map]
    apply List.map_congr_left
    intro e _
    simp only [Function.comp]
    split_ifs <;> rfl
  · simp

theorem foldl_dictSet_map {ν' : Type} (φ : ν → ν') (l : List (κ × ν)) : ∀ d : List (κ × ν),
    (l.map (fun e => (e.1, φ e.2))).foldl (fun d e => dictSet d e.1 e.2) (d.map (fun e => (e.1, φ e.2))) =
      (l.foldl (fun d e => dictSet d e.1 e.2) d).map (fun e => (e.1, φ e.2)) := by
  induction l with
  | nil => intro d; rfl
  | cons x xs ih =>
    intro d
    simp only [List.map_cons, List.foldl_cons]
    rw [dictSet_map, ih]

/-- mapping the values commutes with building the dict -/
theorem dictOf_map {ν' : Type} (φ : ν → ν') (l : List (κ × ν)) :
    dictOf (l.map (fun e => (e.1, φ e.2))) = (dictOf l).map (fun e => (e.1, φ e.2)) :=
  foldl_dictSet_map φ l []

end dicts

theorem slotSlices_get {β : Type} : ∀ (counts : List Nat) (data : List β) (t : Nat) (ht : t < counts.length),
    (slotSlices counts data)[t]? = some ((data.drop (counts.take t).sum).take counts[t])
  | [], _, _, ht => by simp at ht
  | c :: cs, data, 0, _ => by simp [slotSlices]
  | c :: cs, data, t + 1, ht => by
    simp only [slotSlices, List.getElem?_cons_succ, List.take_succ_cons, List.sum_cons, List.getElem_cons_succ]
    rw [slotSlices_get cs (data.drop c) t (by simpa using ht), List.drop_drop]

/-! ## C19, rasterising: `from_particles` / `_from_particle` as interpreted from the generated sequences -/
section raster
open Bridge
variable {α β τ : Type} [Field α] [LinearOrder α] [IsStrictOrderedRing α]

/-- The side conditions of the rasterising clauses.
* `histdd`, `npFlip` — forced by the bridge: `np.histogramdd` and `np.flip` are library calls, parameters of the
  interpretation; they are instantiated with the binning of numpy (`Bridge.modelHistdd`: half-open bins on increasing
  edges, the last bin closed; `Bridge.modelFlip`: index reflection).
* `sparse` — the dataset is a sparse LADiM dataset (it has the variable `particle_count`).
* `times` — `time` and `particle_count` are variables on the same dimension (well-formed file; the bridge
  `from_particles_sparse_all` needs it to know that every slot exists).
* `slots` — at least one time slot (with none the code raises, `c19_raster_no_slot`).
* `dim` — one coordinate per bin key for every row (`coords = [dset[k].values for k in bin_keys]`, as many keys as axes).
* `mono` — every axis has at least two edges and is strictly monotone, increasing or decreasing. -/
structure RasterSetting (A : HistArgs α β (ModelHist α)) (P : Particles β τ) : Prop where
  histdd : A.histdd = modelHistdd
  npFlip : A.npFlip = modelFlip
  sparse : P.hasCount = true
  times : P.times.length = P.count.length
  slots : P.times ≠ []
  dim : ∀ r, (A.coord r).length = A.binEdges.length
  mono : ∀ e ∈ A.binEdges, MonoAxis e

/-- the rows of time slot `t` of a sparse dataset: the `particle_count[t]` rows that follow the first
`sum(particle_count[:t])` rows -/
def slotRows (P : Particles β τ) (t : Nat) : List β := (P.rows.drop (P.count.take t).sum).take (P.count.getD t 0)

/-- the shape of the raster: one less than the number of edges along every axis -/
def gridShape (ess : List (List α)) : List Nat := ess.map (fun e => e.length - 1)

theorem gridShape_hist (ess : List (List α)) : (histEdgesOf ess).map (fun e => e.length - 1) = gridShape ess := by
  simp only [histEdgesOf_eq, gridShape, List.map_map]
  apply List.map_congr_left
  intro e _
  simp [incAxis_length]

theorem raster_var_form (A : HistArgs α β (ModelHist α)) (P : Particles β τ) (hlen : P.times.length = P.count.length)
    (v : String × List String × List (ModelHist α))
    (hv : v ∈ fpVars A (flipAxes A.binEdges) (histEdgesOf A.binEdges) (slotSlices P.count P.rows)) :
    ∃ w ∈ A.vdims, v.1 = w.getD "bincount" ∧ v.2.1 = "time" :: A.binKeys ∧ v.2.2.length = P.times.length ∧
      ∀ t (ht : t < v.2.2.length),
        v.2.2[t] = hist1 A (flipAxes A.binEdges) (histEdgesOf A.binEdges) (slotRows P t) w := by
  have hv' := mem_dictOf _ _ hv
  rw [List.mem_map] at hv'
  obtain ⟨w, hw, rfl⟩ := hv'
  refine ⟨w, hw, rfl, rfl, by simp [slotSlices_length, hlen], ?_⟩
  intro t ht
  simp only [List.length_map, slotSlices_length] at ht
  simp only [List.getElem_map]
  congr 1
  have h1 := slotSlices_get P.count P.rows t ht
  rw [List.getElem?_eq_getElem (by rw [slotSlices_length]; exact ht)] at h1
  rw [Option.some.inj h1, slotRows]
  simp [ht]

theorem raster_run (A : HistArgs α β (ModelHist α)) (P : Particles β τ) (S : RasterSetting A P) :
    fromParticlesSeq A P none = some (some (.series
      (fpVars A (flipAxes A.binEdges) (histEdgesOf A.binEdges) (slotSlices P.count P.rows)) (fpCoords A) P.times)) :=
  from_particles_sparse_all A P S.sparse S.times S.slots

/-- the parts of whatever the interpreted `from_particles` returns -/
theorem raster_vars (A : HistArgs α β (ModelHist α)) (P : Particles β τ) (S : RasterSetting A P)
    {vars : List (String × List String × List (ModelHist α))} {coords : List (String × List α)} {times : List τ}
    (hrun : fromParticlesSeq A P none = some (some (.series vars coords times))) :
    vars = fpVars A (flipAxes A.binEdges) (histEdgesOf A.binEdges) (slotSlices P.count P.rows) ∧
      coords = fpCoords A ∧ times = P.times := by
  rw [raster_run A P S] at hrun
  injection hrun with hrun; injection hrun with hrun; injection hrun with h1 h2 h3
  exact ⟨h1.symm, h2.symm, h3.symm⟩

/-- **The rasteriser returns a time series** (interpreted `from_particles`, `Gen.raster_from_particles_seq`, calling the
interpreted `_from_particle`, `Gen.raster_from_particle_seq`).  For a sparse dataset the code returns a dataset whose
time coordinate is the `time` variable of the file; for every entry `w` of `vdims` there is a data variable named `w`
(`bincount` for `None`), and every data variable has the dimensions `('time',) + bin_keys` and holds exactly one
raster per time slot — empty slots included. -/
theorem _root_.OnCode.c19_raster_returns (A : HistArgs α β (ModelHist α)) (P : Particles β τ) (S : RasterSetting A P) :
    ∃ vars coords, fromParticlesSeq A P none = some (some (.series vars coords P.times)) ∧
      (∀ w ∈ A.vdims, ∃ v ∈ vars, v.1 = w.getD "bincount") ∧
      ∀ v ∈ vars, (∃ w ∈ A.vdims, v.1 = w.getD "bincount") ∧ v.2.1 = "time" :: A.binKeys ∧
        v.2.2.length = P.times.length ∧ ∀ h ∈ v.2.2, h.shape = gridShape A.binEdges := by
  refine ⟨_, _, raster_run A P S, ?_, ?_⟩
  · intro w hw
    unfold fpVars
    exact key_dictOf _ _ (List.mem_map_of_mem hw)
  · intro v hv
    obtain ⟨w, hw, h1, h2, h3, h4⟩ := raster_var_form A P S.times v hv
    refine ⟨⟨w, hw, h1⟩, h2, h3, ?_⟩
    intro h hh
    obtain ⟨t, ht, rfl⟩ := List.getElem_of_mem hh
    rw [h4 t ht, hist1_model_shape A S.histdd S.npFlip, gridShape_hist]

/-- **Counts are conserved** (clause "for every time slot the cell counts sum to the number of particles located within
the grid's outer bin edges").  In whatever the interpreted `from_particles` returns, every data variable belongs to an
entry `w` of `vdims`; if `w` is `None` (the variable `bincount`), then for every time slot `t` the sum of the raster over
all its cells is the number of rows of slot `t` whose coordinates lie within the outer edges of every axis. -/
theorem _root_.OnCode.c19_raster_count_conserved (A : HistArgs α β (ModelHist α)) (P : Particles β τ) (S : RasterSetting A P)
    (vars : List (String × List String × List (ModelHist α))) (coords : List (String × List α)) (times : List τ)
    (hrun : fromParticlesSeq A P none = some (some (.series vars coords times))) :
    ∀ v ∈ vars, ∃ w ∈ A.vdims, v.1 = w.getD "bincount" ∧
      (w = none → ∀ t (ht : t < v.2.2.length),
        countTotal v.2.2[t] = ((slotRows P t).filter (fun r => insideGrid A.binEdges (A.coord r))).length) := by
  obtain ⟨rfl, -, -⟩ := raster_vars A P S hrun
  intro v hv
  obtain ⟨w, hw, h1, _, _, h4⟩ := raster_var_form A P S.times v hv
  refine ⟨w, hw, h1, ?_⟩
  rintro rfl t ht
  rw [h4 t ht, hist1_count_total A S.histdd S.npFlip S.dim S.mono]

/-- **Weights are conserved** (clause "each weighted sum equals the total weight of those particles").  If the entry of
`vdims` is the variable `name`, then for every time slot `t` the sum of the weighted raster over all its cells is the
sum of `name` over the rows of slot `t` that lie within the outer edges of every axis (weights of either sign). -/
theorem _root_.OnCode.c19_raster_weight_conserved (A : HistArgs α β (ModelHist α)) (P : Particles β τ) (S : RasterSetting A P)
    (vars : List (String × List String × List (ModelHist α))) (coords : List (String × List α)) (times : List τ)
    (hrun : fromParticlesSeq A P none = some (some (.series vars coords times))) :
    ∀ v ∈ vars, ∃ w ∈ A.vdims, v.1 = w.getD "bincount" ∧
      ∀ name, w = some name → ∀ t (ht : t < v.2.2.length),
        weightTotal v.2.2[t] =
          (((slotRows P t).filter (fun r => insideGrid A.binEdges (A.coord r))).map (A.wval name)).sum := by
  obtain ⟨rfl, -, -⟩ := raster_vars A P S hrun
  intro v hv
  obtain ⟨w, hw, h1, _, _, h4⟩ := raster_var_form A P S.times v hv
  refine ⟨w, hw, h1, ?_⟩
  rintro name rfl t ht
  rw [h4 t ht, hist1_weight_total A S.histdd S.npFlip S.dim S.mono]

/-- **Each particle is counted in exactly one cell, the one whose edges contain it; no particle of another slot is
counted.**  There is an assignment `counted idx r` of rows to cells — the same for the counts and for every weighted
sum — such that in whatever the interpreted `from_particles` returns, cell `idx` of the raster of time slot `t` holds
the number (the total weight) of the rows *of slot `t`* assigned to `idx`; a row within the outer edges is assigned to
exactly one cell of the grid; the cell a row is assigned to contains it on every axis (`inBin`: between the edges
`idx[i]` and `idx[i] + 1` of the caller's axis `i`, whether the axis is increasing or decreasing); a row outside the
outer edges is assigned to no cell. -/
theorem _root_.OnCode.c19_raster_cells (A : HistArgs α β (ModelHist α)) (P : Particles β τ) (S : RasterSetting A P)
    (vars : List (String × List String × List (ModelHist α))) (coords : List (String × List α)) (times : List τ)
    (hrun : fromParticlesSeq A P none = some (some (.series vars coords times))) :
    ∃ counted : List Nat → β → Bool,
      (∀ v ∈ vars, ∃ w ∈ A.vdims, v.1 = w.getD "bincount" ∧ ∀ t (ht : t < v.2.2.length), ∀ idx,
        v.2.2[t].val idx =
          match w with
          | none => .count ((slotRows P t).filter (counted idx)).length
          | some name => .weight (((slotRows P t).filter (counted idx)).map (A.wval name)).sum) ∧
      (∀ r, insideGrid A.binEdges (A.coord r) = true →
        ∃! idx, ValidCell (gridShape A.binEdges) idx ∧ counted idx r = true) ∧
      (∀ r idx, ValidCell (gridShape A.binEdges) idx → counted idx r = true →
        ∀ i (h1 : i < A.binEdges.length) (h2 : i < idx.length) (h3 : i < (A.coord r).length),
          inBin A.binEdges[i] idx[i] (A.coord r)[i]) ∧
      (∀ r, insideGrid A.binEdges (A.coord r) = false → ∀ idx, counted idx r = false) := by
  obtain ⟨rfl, -, -⟩ := raster_vars A P S hrun
  refine ⟨counted A, ?_, ?_, ?_, ?_⟩
  · intro v hv
    obtain ⟨w, hw, h1, h2, h3, h4⟩ := raster_var_form A P S.times v hv
    refine ⟨w, hw, h1, ?_⟩
    intro t ht idx
    rw [h4 t ht]
    cases w with
    | none => exact hist1_count_val A S.histdd S.npFlip _ idx
    | some name => exact hist1_weight_val A S.histdd S.npFlip _ name idx
  · intro r hr
    have hs := (cell_isSome_iff A.binEdges S.mono (A.coord r)).2 hr
    obtain ⟨c, hc⟩ := Option.isSome_iff_exists.1 hs
    have hvalid := cellOf_valid _ _ _ (by rw [S.dim, histEdgesOf_eq, List.length_map]) hc
    rw [← gridShape_hist]
    refine ⟨reflectIdx _ (flipAxes A.binEdges) c, ⟨reflect_valid _ _ _ hvalid, ?_⟩, ?_⟩
    · simp only [counted, hc, reflect_reflect _ _ _ hvalid, beq_self_eq_true]
    · rintro idx ⟨hv, hcnt⟩
      simp only [counted, hc, beq_iff_eq, Option.some.injEq] at hcnt
      rw [hcnt, reflect_reflect _ _ _ hv]
  · intro r idx hv hcnt i h1 h2 h3
    rw [← gridShape_hist] at hv
    exact cell_contains A.binEdges (A.coord r) idx (S.dim r) hv (by simpa [counted] using hcnt) i h1 h2 h3
  · intro r hr idx
    have hs : ¬ (cellOf (histEdgesOf A.binEdges) (A.coord r)).isSome := by
      rw [cell_isSome_iff A.binEdges S.mono]; simp [hr]
    cases hc : cellOf (histEdgesOf A.binEdges) (A.coord r) with
    | none => simp only [counted, hc]; rfl
    | some c => rw [hc] at hs; simp at hs

/-! ### decreasing axes, no time slot, bin centres -/

theorem decreasingAxis_incAxis (e : List α) : decreasingAxis (incAxis e) = false := by
  unfold incAxis
  cases hd : decreasingAxis e with
  | false => simpa using hd
  | true =>
    simp only [if_true]
    unfold decreasingAxis at hd ⊢
    rw [List.head?_reverse, List.getLast?_reverse]
    cases ha : e.head? <;> cases hb : e.getLast? <;> simp_all
    exact hd.2.le

theorem incAxis_incAxis (e : List α) : incAxis (incAxis e) = incAxis e := by
  show (if decreasingAxis (incAxis e) then (incAxis e).reverse else incAxis e) = incAxis e
  rw [decreasingAxis_incAxis]; rfl

theorem histEdgesOf_idem (ess : List (List α)) : histEdgesOf (histEdgesOf ess) = histEdgesOf ess := by
  simp only [histEdgesOf_eq, List.map_map]
  apply List.map_congr_left
  intro e _
  exact incAxis_incAxis e

theorem flipAxes_histEdgesOf (ess : List (List α)) : flipAxes (histEdgesOf ess) = [] := by
  unfold flipAxes
  rw [List.filterMap_eq_nil_iff]
  intro ei hei
  have := (List.mem_zipIdx' (x := ei.1) (i := ei.2) hei)
  obtain ⟨hi, he⟩ := this
  have : ei.1 = incAxis (ess[ei.2]'(by simpa [histEdgesOf_eq] using hi)) := by
    rw [he]; simp only [histEdgesOf_eq, List.getElem_map]
  rw [this, decreasingAxis_incAxis]
  rfl

theorem modelFlip_nil (h : ModelHist α) : modelFlip [] h = h := by
  cases h with
  | mk shape val =>
    simp only [modelFlip, reflect_nil]

/-- **Decreasing axes give the same raster, flipped.**  Let `A'` be the same call with every decreasing axis of
`bin_edges` listed in increasing order.  Then the interpreted `from_particles` returns for `A` what it returns for `A'`
with every raster flipped (`np.flip`, i.e. `Bridge.modelFlip`: cell `idx` reads the cell reflected along the listed
axes) along exactly the decreasing axes of `A`.  (Hypotheses: the library calls as in `RasterSetting`, a sparse
well-formed dataset with at least one slot; monotonicity of the axes is not needed.) -/
theorem _root_.OnCode.c19_raster_decreasing_flipped (A : HistArgs α β (ModelHist α)) (P : Particles β τ)
    (hh : A.histdd = modelHistdd) (hf : A.npFlip = modelFlip) (hc : P.hasCount = true)
    (hlen : P.times.length = P.count.length) (hne : P.times ≠ []) :
    ∃ vars' coords' coords,
      fromParticlesSeq { A with binEdges := histEdgesOf A.binEdges } P none =
        some (some (.series vars' coords' P.times)) ∧
      fromParticlesSeq A P none = some (some (.series
        (vars'.map (fun v => (v.1, v.2.1, v.2.2.map (A.npFlip (flipAxes A.binEdges))))) coords P.times)) := by
  refine ⟨_, _, fpCoords A, from_particles_sparse_all _ P hc hlen hne, ?_⟩
  rw [from_particles_sparse_all A P hc hlen hne]
  congr 3
  simp only [fpVars, histEdgesOf_idem, flipAxes_histEdgesOf]
  rw [← dictOf_map (fun dh : List String × List (ModelHist α) => (dh.1, dh.2.map (A.npFlip (flipAxes A.binEdges))))]
  congr 1
  rw [List.map_map]
  apply List.map_congr_left
  intro w _
  simp only [Function.comp, List.map_map, hist1, hf, modelFlip_nil]
  rfl

/-- **No time slot: the code raises.**  The quantifier of the property includes datasets without any time slot; for
those (and at least one entry in `vdims`) the interpreted `from_particles` raises (`field[:, i]` on a one-dimensional
`np.array([])`), it does not return an empty raster. -/
theorem _root_.OnCode.c19_raster_no_slot (A : HistArgs α β (ModelHist α)) (P : Particles β τ) (hc : P.hasCount = true)
    (ht : P.times = []) (hv : A.vdims ≠ []) : fromParticlesSeq A P none = some none := by
  rw [from_particles]
  have : tvalsOf P none = some ([] : List τ) := by simp [tvalsOf, hc, ht]
  rw [this]
  exact from_particle_no_slot A _ hv

/-- **Bin centres are midway between bin edges** (the returned coordinates; for the converse direction — edges
computed from centres by `_edges` — see `c19_edges_midway`).  Every coordinate variable of the dataset returned by the
interpreted `from_particles` belongs to a bin key and its axis, has one entry per bin, and entry `i` is the mean of the
edges `i` and `i + 1` of that axis as the caller gave it. -/
theorem _root_.OnCode.c19_raster_centres_midway (A : HistArgs α β (ModelHist α)) (P : Particles β τ) (S : RasterSetting A P)
    (vars : List (String × List String × List (ModelHist α))) (coords : List (String × List α)) (times : List τ)
    (hrun : fromParticlesSeq A P none = some (some (.series vars coords times))) :
    times = P.times ∧ ∀ c ∈ coords, ∃ ke ∈ A.binKeys.zip A.binEdges, c.1 = ke.1 ∧
      ∃ hl : c.2.length = ke.2.length - 1, ∀ i (hi : i + 1 < ke.2.length),
        c.2[i]'(by omega) = (ke.2[i] + ke.2[i + 1]) / 2 := by
  obtain ⟨-, rfl, rfl⟩ := raster_vars A P S hrun
  refine ⟨rfl, fun c hc => ?_⟩
  have hc' := mem_dictOf _ _ hc
  rw [List.mem_map] at hc'
  obtain ⟨ke, hke, rfl⟩ := hc'
  refine ⟨ke, hke, rfl, C19.mids_length ke.2, ?_⟩
  intro i hi
  exact C19.mids_get ke.2 i hi

end raster

/-! ## C19, SQLite conversion: `ladim_file_to_sqlite`, `add_particle_values`, `add_instance_values` as interpreted -/
section sqlite
open Bridge
variable {α : Type}

theorem instanceRows_length {τ β : Type} (counts : List Nat) (times : List τ) (data : List β)
    (hl : times.length = counts.length) (hs : counts.sum ≤ data.length) :
    (instanceRows times counts data).length = counts.sum := by
  rw [← List.length_map (f := (·.2)), C19.sqlite_rows_once times counts data hl, List.length_take, min_eq_left hs]

/-- the rows of time slot `t`: the slot's instances, in file order, each with the time stamp of slot `t` -/
theorem instanceRows_slot {τ β : Type} : ∀ (counts : List Nat) (times : List τ) (data : List β) (t : Nat)
    (ht : t < counts.length) (ht' : t < times.length), counts.sum ≤ data.length →
    ((instanceRows times counts data).drop (counts.take t).sum).take counts[t] =
      ((data.drop (counts.take t).sum).take counts[t]).map (fun d => (times[t], d))
  | [], _, _, _, ht, _, _ => by simp at ht
  | c :: cs, [], _, _, _, ht', _ => by simp at ht'
  | c :: cs, tm :: ts, data, 0, _, _, hs => by
    simp only [List.sum_cons] at hs
    rw [instanceRows_cons]
    simp only [List.take_zero, List.sum_nil, List.drop_zero, List.getElem_cons_zero]
    rw [List.take_append_of_le_length (by simp; omega), List.take_of_length_le (by simp)]
  | c :: cs, tm :: ts, data, t + 1, ht, ht', hs => by
    simp only [List.sum_cons] at hs
    rw [instanceRows_cons]
    simp only [List.take_succ_cons, List.sum_cons, List.getElem_cons_succ]
    have hl : ((data.take c).map (fun x => (tm, x))).length = c := by simp; omega
    have hd := List.drop_left (l₁ := (data.take c).map (fun x => (tm, x))) (l₂ := instanceRows ts cs (data.drop c))
    rw [hl] at hd
    rw [← List.drop_drop, hd,
      instanceRows_slot cs ts (data.drop c) t (by simpa using ht) (by simpa using ht') (by simp; omega),
      List.drop_drop]

theorem row_entries (cols : List (String × List α)) (n j : Nat) (h : ∀ c ∈ cols, c.2.length = n) (hj : j < n) :
    (rowAt (cols.map (·.2)) j).map some = cols.map (fun c => c.2[j]?) := by
  induction cols with
  | nil => rfl
  | cons c cs ih =>
    have hj' : j < c.2.length := by rw [h c (by simp)]; exact hj
    rw [List.map_cons, rowAt_cons_some c.2 _ j c.2[j] (by simp [hj'])]
    simp only [List.map_cons, ih (fun c' hc' => h c' (by simp [hc']))]
    simp [hj']

/-- A well-formed LADiM output file whose `particle_instance` dimension has length `n`: every variable on that
dimension has `n` entries, the per-slot counts add up to `n`, and `time` has one entry per slot.
(The bridge `Bridge.add_instance_values` needs `cols`, `sum(particle_count) ≤ n` and a time stamp for every slot:
otherwise `np.array` / the time lookup raise.) -/
structure WellFormedFile (f : LadimFile α) (n : Nat) : Prop where
  cols : ∀ c ∈ f.icols, c.2.length = n
  sum : f.count.sum = n
  time : f.time.length = f.count.length

theorem WellFormedFile.ok {f : LadimFile α} {n : Nat} (h : WellFormedFile f n) : FileOk f n :=
  ⟨h.cols, Nat.le_of_eq h.sum, Nat.le_of_eq h.time.symm⟩

theorem instData_length (f : LadimFile α) (n : Nat) : (instData f n).length = n := by simp [instData]

/-- The side conditions of the SQLite clauses: the files that the pattern matches, in sorted order, are `f0 :: rest`;
the first file has at least one variable on the `particle` dimension (otherwise `np.array([])` has no rows — the bridge
`Bridge.add_particle_values` needs it), all of the length `np` of that dimension; every file is well formed. -/
structure SqliteSetting (f0 : LadimFile α) (rest : List (LadimFile α)) (np : Nat) (nInst : LadimFile α → Nat) : Prop where
  pvars : f0.pcols ≠ []
  plen : ∀ c ∈ f0.pcols, c.2.length = np
  files : ∀ f ∈ f0 :: rest, WellFormedFile f (nInst f)

theorem sqlite_run (f0 : LadimFile α) (rest : List (LadimFile α)) (np : Nat) (nInst : LadimFile α → Nat)
    (S : SqliteSetting f0 rest np nInst) :
    ladimFileToSqliteSeq (f0 :: rest) = some (some
      ⟨[("particle", f0.pcols.map (·.1)), ("particle_instance", "time" :: f0.icols.map (·.1))],
        particleData f0 np, (f0 :: rest).flatMap (fun f => instRowsModel f (nInst f))⟩) :=
  ladim_file_to_sqlite f0 rest np nInst S.pvars S.plen (fun f hf => (S.files f hf).ok)

/-- **The conversion finishes and creates the two tables** (interpreted `ladim_file_to_sqlite`,
`Gen.sqlite_file_seq`, with the interpreted `add_particle_values` / `add_instance_values`,
`Gen.sqlite_particles_seq` / `Gen.sqlite_instances_seq`): on a fresh database the code returns, and the tables are
`particle` (one column per `particle` variable of the first file) and `particle_instance` (`time`, then one column
per `particle_instance` variable of the first file). -/
theorem _root_.OnCode.c19_sqlite_returns (f0 : LadimFile α) (rest : List (LadimFile α)) (np : Nat) (nInst : LadimFile α → Nat)
    (S : SqliteSetting f0 rest np nInst) :
    ∃ db, ladimFileToSqliteSeq (f0 :: rest) = some (some db) ∧
      db.tables = [("particle", f0.pcols.map (·.1)), ("particle_instance", "time" :: f0.icols.map (·.1))] :=
  ⟨_, sqlite_run f0 rest np nInst S, rfl⟩

/-- **Every particle is stored exactly once** (clause "stores every particle … exactly once"): in the database the
interpreted `ladim_file_to_sqlite` returns, the `particle` table has exactly one row per index `j` of the `particle`
dimension of the first file, in order, and row `j` holds entry `j` of every `particle` variable. -/
theorem _root_.OnCode.c19_sqlite_particle_table (f0 : LadimFile α) (rest : List (LadimFile α)) (np : Nat) (nInst : LadimFile α → Nat)
    (S : SqliteSetting f0 rest np nInst) (db : Db α) (hrun : ladimFileToSqliteSeq (f0 :: rest) = some (some db)) :
    db.particle.length = np ∧
      ∀ j (hj : j < db.particle.length), (db.particle[j]).map some = f0.pcols.map (fun c => c.2[j]?) := by
  rw [sqlite_run f0 rest np nInst S] at hrun
  injection hrun with hrun; injection hrun with hrun
  subst hrun
  refine ⟨particleData_length f0 np, fun j hj => ?_⟩
  simp only [particleData_length] at hj
  simp only [particleData, List.getElem_map, List.getElem_range]
  exact row_entries _ np j S.plen hj

/-- **Every particle instance is stored exactly once, with its time stamp; split runs concatenate** (clauses "stores
… every particle instance exactly once with its time stamp").  In the database the interpreted `ladim_file_to_sqlite`
returns, the `particle_instance` table is the concatenation, in file order, of one segment `seg f` per file, the
segment of file `k` starting at the row number = the number of rows of the files before it; for every file
* the segment has exactly `sum(particle_count)` rows;
* without the `time` column it is the list of the rows of the `particle_instance` variables, every instance once, in
  file order (`Bridge.instData f n`: row `j` holds entry `j` of every variable, `c19_instance_row`);
* the rows of time slot `t` (row numbers `sum(particle_count[:t])` … `+ particle_count[t]`) are the instances of that
  slot, each with `time[t]` in the first column. -/
theorem _root_.OnCode.c19_sqlite_instance_table (f0 : LadimFile α) (rest : List (LadimFile α)) (np : Nat) (nInst : LadimFile α → Nat)
    (S : SqliteSetting f0 rest np nInst) (db : Db α) (hrun : ladimFileToSqliteSeq (f0 :: rest) = some (some db)) :
    ∃ seg : LadimFile α → List (List α),
      db.inst = (f0 :: rest).flatMap seg ∧
      db.inst.length = ((f0 :: rest).map (fun f => f.count.sum)).sum ∧
      (∀ k (hk : k < (f0 :: rest).length),
        (db.inst.drop (((f0 :: rest).take k).map (fun f => f.count.sum)).sum).take ((f0 :: rest)[k]).count.sum =
          seg (f0 :: rest)[k]) ∧
      ∀ f ∈ f0 :: rest,
        (seg f).length = f.count.sum ∧
        (seg f).map List.tail = instData f (nInst f) ∧
        ∀ t (ht : t < f.count.length) (ht' : t < f.time.length),
          ((seg f).drop (f.count.take t).sum).take f.count[t] =
            (((instData f (nInst f)).drop (f.count.take t).sum).take f.count[t]).map (fun r => f.time[t] :: r) := by
  rw [sqlite_run f0 rest np nInst S] at hrun
  injection hrun with hrun; injection hrun with hrun
  subst hrun
  have hlenf : ∀ f ∈ f0 :: rest, (instRowsModel f (nInst f)).length = f.count.sum := by
    intro f hf
    have hw := S.files f hf
    rw [instRowsModel, List.length_map,
      instanceRows_length _ _ _ hw.time (by rw [instData_length]; exact Nat.le_of_eq hw.sum)]
  refine ⟨fun f => instRowsModel f (nInst f), rfl, ?_, ?_, ?_⟩ <;> dsimp only
  · simp only [List.length_flatMap]
    congr 1
    exact List.map_congr_left hlenf
  · intro k hk
    have h := instance_rows_of_file (f0 :: rest) nInst k hk
    rw [hlenf _ (List.getElem_mem hk)] at h
    rw [← h]
    congr 3
    apply List.map_congr_left
    intro f hf
    exact (hlenf f (List.mem_of_mem_take hf)).symm
  · intro f hf
    have hw := S.files f hf
    refine ⟨hlenf f hf, ?_, ?_⟩
    · unfold instRowsModel
      rw [List.map_map]
      have := C19.sqlite_rows_once f.time f.count (instData f (nInst f)) hw.time
      rw [hw.sum, List.take_of_length_le (Nat.le_of_eq (instData_length f (nInst f)))] at this
      exact this
    · intro t ht ht'
      unfold instRowsModel
      rw [← List.map_drop, ← List.map_take,
        instanceRows_slot f.count f.time (instData f (nInst f)) t ht ht'
          (by rw [instData_length]; exact Nat.le_of_eq hw.sum), List.map_map]
      rfl

/-- what a row of `Bridge.instData` is: row `j` holds entry `j` of every `particle_instance` variable, in the order of
the variables -/
theorem _root_.OnCode.c19_instance_row (f : LadimFile α) (n : Nat) (h : WellFormedFile f n) (j : Nat) (hj : j < (instData f n).length) :
    ((instData f n)[j]).map some = f.icols.map (fun c => c.2[j]?) := by
  simp only [instData_length] at hj
  simp only [instData, List.getElem_map, List.getElem_range]
  exact row_entries _ n j h.cols hj

end sqlite

/-! ## C19, settled particles: `get_settled_particles` as interpreted -/
section settled
open Bridge Ladim.Table

/-- **Exactly one row per particle id, its last recorded instance** (clause "selecting settled particles returns, for
each particle, its last recorded instance"; all pid sequences, repeats included).  The interpreted
`get_settled_particles` (`Gen.settled_particles_seq`) selects the pairs `(pid, pinst)` = `sel` with: the pids strictly
ascending — so no pid twice —, a pid is selected iff it occurs in the file (each occurring pid exactly once, no other),
and `(p, i)` is selected iff `i` is the largest index with `pid[i] = p`.  No hypotheses. -/
theorem _root_.OnCode.c19_settled_last_instance (pids : List Nat) :
    ∃ sel, runSettledIndex pids Gen.settled_particles_seq = some (some sel) ∧
      (sel.map (·.1)).Pairwise (· < ·) ∧
      (∀ p, p ∈ pids → (sel.map (·.1)).count p = 1) ∧
      (∀ p, p ∉ pids → (sel.map (·.1)).count p = 0) ∧
      ∀ p i, (p, i) ∈ sel ↔
        ∃ hi : i < pids.length, pids[i] = p ∧ ∀ j (hj : j < pids.length), i < j → pids[j] ≠ p :=
  ⟨settled pids, settled_particles_index pids, settled_ascending pids, settled_once pids, settled_no_other pids,
    fun p i => mem_settled_iff pids p i⟩

theorem mapM_some_mem {γ δ : Type} (f : γ → Option δ) (l : List γ) (g : List δ) (h : l.mapM f = some g) :
    ∀ x ∈ l, ∃ y ∈ g, f x = some y := by
  obtain ⟨hlen, hall⟩ := C19.mapM_option_some_spec f l g h
  intro x hx
  obtain ⟨i, hi, rfl⟩ := List.getElem_of_mem hx
  exact ⟨g[i]'(hlen ▸ hi), List.getElem_mem _, hall i (hlen ▸ hi) hi⟩

theorem gatherVars_mem {β : Type} (vars : List (String × VDim × List β)) (d : VDim) (idx : List Nat)
    (g : List (String × List β)) (h : gatherVars vars d idx = some g) :
    ∀ kv ∈ vars, kv.2.1 = d → ∃ w, (kv.1, w) ∈ g ∧ w.map some = idx.map (fun i => kv.2.2[i]?) := by
  intro kv hkv hd
  obtain ⟨y, hy, hf⟩ := mapM_some_mem _ _ g h kv (List.mem_filter.2 ⟨hkv, by simpa using hd⟩)
  cases hg : gather kv.2.2 idx with
  | none => simp [hg] at hf
  | some w =>
    simp only [hg, Option.map_some, Option.some.injEq] at hf
    subst hf
    exact ⟨w, hy, ((gather_eq_some_iff _ _ _).1 hg).symm⟩

/-- **The returned data set holds, for each particle, the values of its last instance.**  For a file whose
`particle` variables cover every pid and whose `particle_instance` variables are as long as `pid` (well-formed file:
otherwise a gather raises `IndexError`, `Bridge.settled_particles_returns_iff`), the interpreted
`get_settled_particles` returns a data set `d`; its coordinate `pid` and the local variable `pinst` are the selection of
`c19_settled_last_instance`; for every `particle_instance` variable the local dict `pinst_vars` holds its values at the
selected (last) instances, for every `particle` variable `pid_vars` holds its values at the pids; and the variables of
`d` are `{**dict(pid=pid), **pid_vars, **pinst_vars}` with `pid` set to the coordinate. -/
theorem _root_.OnCode.c19_settled_dataset {β : Type} (ofPid : Nat → β) (pids : List Nat) (vars : List (String × VDim × List β))
    (hp : ∀ kv ∈ vars, kv.2.1 = .particle → ∀ p ∈ pids, p < kv.2.2.length)
    (hi : ∀ kv ∈ vars, kv.2.1 = .particleInstance → kv.2.2.length = pids.length) :
    ∃ s d, runSettledSt ofPid pids vars Gen.settled_particles_seq = some (some s) ∧
      runSettled ofPid pids vars Gen.settled_particles_seq = some (some d) ∧
      runSettledIndex pids Gen.settled_particles_seq = some (some (s.pid.zip s.pinst)) ∧
      s.pid.length = s.pinst.length ∧ d.pid = s.pid ∧
      d.vars = dictMerge (dictMerge (dictMerge [("pid", s.pid.map ofPid)] s.pidVars) s.pinstVars)
        [("pid", s.pid.map ofPid)] ∧
      (∀ kv ∈ vars, kv.2.1 = .particleInstance →
        ∃ w, (kv.1, w) ∈ s.pinstVars ∧ w.map some = s.pinst.map (fun i => kv.2.2[i]?)) ∧
      (∀ kv ∈ vars, kv.2.1 = .particle →
        ∃ w, (kv.1, w) ∈ s.pidVars ∧ w.map some = s.pid.map (fun p => kv.2.2[p]?)) := by
  have h1 : (gatherVars vars .particle ((settled pids).map (·.1))).isSome := by
    rw [gatherVars_isSome_iff]
    intro kv hkv hd p hpm
    exact hp kv hkv hd p ((settled_mem_pid pids p).1 hpm)
  have h2 : (gatherVars vars .particleInstance ((settled pids).map (·.2))).isSome := by
    rw [gatherVars_isSome_iff]
    intro kv hkv hd i him
    rw [List.mem_map] at him
    obtain ⟨pi, hpi, rfl⟩ := him
    rw [hi kv hkv hd]
    exact settled_instance_in_range pids pi hpi
  obtain ⟨f, hf⟩ := Option.isSome_iff_exists.1 h1
  obtain ⟨g, hg⟩ := Option.isSome_iff_exists.1 h2
  -- the state and the data set are what the two runs return
  refine ⟨?_, ?_, ?hs, ?hd, ?_, ?_, ?_, ?_, ?_, ?_⟩
  case hs => rw [settled_particles_run, settledOutcome, outcomeOf, hf, hg]
  case hd => rw [settled_particles, hf, hg]
  · rw [settled_particles_index, List.zip_map', List.map_id']
  · simp
  · rfl
  · rfl
  · exact gatherVars_mem vars .particleInstance _ g hg
  · exact gatherVars_mem vars .particle _ f hf

end settled

/-! ## C19, bin edges from bin centres: `_edges`

`LadimModel` has no interpreter for `Gen.raster_edges_seq` (the two statements of `utils/rasterize.py :: _edges`) and
`LadimProofs/Bridge` no bridge.  The interpretation below is LOCAL to this file (numpy on one-dimensional arrays:
slices, element-wise arithmetic, `np.concatenate`; an index out of range raises); like the interpreters of
`LadimModel` it knows the statements by their exact text, so the theorem breaks when the source of `_edges` changes. -/
section edges
open Bridge.Run
variable {α : Type} [Field α] [LinearOrder α] [IsStrictOrderedRing α]

structure EdgeSt (α : Type) where
  mid : List α
  ret : Option (List α)

def edgesStep (a : List α) (s : EdgeSt α) : String → String → Option (Option (EdgeSt α))
  | "assign", "mid = 0.5 * (a[:-1] + a[1:])" =>
    some (some { s with mid := List.zipWith (fun x y => 0.5 * (x + y)) a.dropLast (a.drop 1) })
  | "return", "np.concatenate([mid[:1] - (a[1] - a[0]), mid, mid[-1:] + a[-1] - a[-2]])" =>
    some (match a[0]?, a[1]?, a[a.length - 1]?, a[a.length - 2]? with
      | some a0, some a1, some an, some an1 =>
        some { s with ret := some ((s.mid.take 1).map (fun m => m - (a1 - a0)) ++ s.mid ++
          (s.mid.drop (s.mid.length - 1)).map (fun m => m + an - an1)) }
      | _, _, _, _ => none)                                                      -- `IndexError`
  | _, _ => none

/-- `_edges(a)` as the generated sequence says (local interpretation) -/
def edgesSeq (a : List α) : Option (Option (List α)) :=
  returned EdgeSt.ret (runStrictRet (fun _ _ => none) (edgesStep a) Gen.raster_edges_seq ⟨[], none⟩)

theorem zipWith_mids : ∀ a : List α, List.zipWith (fun x y => 0.5 * (x + y)) a.dropLast (a.drop 1) = mids a
  | [] => rfl
  | [_] => rfl
  | _ :: y :: r => congrArg (_ :: ·) (zipWith_mids (y :: r))

/-- `concatenate([f(m[:1]), m, g(m[-1:])])` for a non-empty `m` -/
theorem concat_ends {γ : Type} (f g : γ → γ) : ∀ (m : List γ) (hm : 0 < m.length),
    (m.take 1).map f ++ m ++ (m.drop (m.length - 1)).map g = f m[0] :: m ++ [g m[m.length - 1]]
  | x :: xs, _ => by
    rw [List.drop_eq_getElem_cons (by simp), List.drop_of_length_le (by simp)]; rfl

theorem edgesSeq_eq (a : List α) (h : 2 ≤ a.length) :
    edgesSeq a = some (some (((mids a).take 1).map (fun m => m - (a[1] - a[0])) ++ mids a ++
      ((mids a).drop ((mids a).length - 1)).map (fun m => m + a[a.length - 1] - a[a.length - 2]))) := by
  unfold edgesSeq Gen.raster_edges_seq
  rw [runStrictRet_step rfl (by decide) rfl, zipWith_mids, runStrictRet_exec rfl]
  simp only [edgesStep.eq_def, String.reduceEq,
    List.getElem?_eq_getElem (show 0 < a.length by omega), List.getElem?_eq_getElem (show 1 < a.length by omega),
    List.getElem?_eq_getElem (show a.length - 1 < a.length by omega),
    List.getElem?_eq_getElem (show a.length - 2 < a.length by omega)]
  rfl

/-- **Bin edges are midway between bin centres** (clause "with bin edges midway between bin centres"; the function
`add_edge_info` applies `_edges` to every coordinate without a `bounds` attribute).  For at least two bin centres `a`
the interpreted `_edges` returns one edge more than there are centres; every interior edge `i + 1` is the mean of the
centres `i` and `i + 1`; the first edge lies half the first spacing before the first centre and the last edge half the
last spacing behind the last centre.  (Centres in either order; no monotonicity is used.) -/
theorem _root_.OnCode.c19_edges_midway (a : List α) (h : 2 ≤ a.length) :
    ∃ es, edgesSeq a = some (some es) ∧ ∃ hl : es.length = a.length + 1,
      (∀ i (hi : i + 1 < a.length), es[i + 1] = (a[i] + a[i + 1]) / 2) ∧
      es[0] = a[0] - (a[1] - a[0]) / 2 ∧
      es[a.length] = a[a.length - 1] + (a[a.length - 1] - a[a.length - 2]) / 2 := by
  have hm := C19.mids_length a
  rw [edgesSeq_eq a h, concat_ends _ _ _ (by omega)]
  refine ⟨_, rfl, ?_, ?_, ?_, ?_⟩
  · simp only [List.length_cons, List.length_append, List.length_nil, hm]; omega
  · intro i hi
    rw [List.getElem_append_left (by simp only [List.length_cons, hm]; omega), List.getElem_cons_succ]
    exact C19.mids_get a i hi
  · show (mids a)[0] - _ = _
    rw [C19.mids_get a 0 (by omega)]; ring
  · rw [List.getElem_concat_length (l := _ :: mids a) (by simp only [List.length_cons, hm]; omega)]
    have e : a.length - 2 + 1 = a.length - 1 := by omega
    simp only [hm, Nat.sub_sub, C19.mids_get a (a.length - 2) (by omega), e]
    ring

end edges

/-! ## the hypotheses are satisfiable: concrete instances over `ℚ` -/
section examples
open Bridge

/-- two axes, `X` increasing and `Z` given in decreasing order; counts and one weight variable -/
def exA : HistArgs ℚ (ℚ × ℚ × ℚ) (ModelHist ℚ) :=
  ⟨["X", "Z"], [[0, 1, 2], [20, 10, 0]], [none, some "w"], fun r => [r.1, r.2.1], fun _ r => r.2.2,
    modelHistdd, modelFlip⟩

/-- three time slots, the second empty; the last row lies outside the grid; a negative weight; `instance_offset = 7` -/
def exP : Particles (ℚ × ℚ × ℚ) ℚ :=
  ⟨true, true, [2, 0, 2], [(1/2, 15, 10), (3/2, 5, 20), (3/2, 15, -4), (3, 5, 40)], [100, 200, 300], fun _ => none, 7⟩

/-- the side conditions of the rasterising theorems hold for `exA`, `exP` -/
example : RasterSetting exA exP := by
  refine ⟨rfl, rfl, rfl, rfl, by decide, fun _ => rfl, ?_⟩
  intro e he
  simp only [exA, List.mem_cons, List.not_mem_nil, or_false] at he
  rcases he with rfl | rfl
  · exact ⟨by decide, Or.inl (by norm_num [List.pairwise_cons])⟩
  · exact ⟨by decide, Or.inr (by norm_num [List.pairwise_cons])⟩

/-- … and on this instance the interpreted code returns: per variable and slot, the total count and the total weight
(slot 3 holds two rows, one of them outside the grid) -/
example : (match fromParticlesSeq exA exP none with
    | some (some (.series vars _ t)) => (vars.map (fun v => (v.1, v.2.2.map countTotal, v.2.2.map weightTotal)), t)
    | _ => ([], [])) =
    ([("bincount", [2, 0, 1], [0, 0, 0]), ("w", [0, 0, 0], [30, 0, -4])], [100, 200, 300]) := by
  rw [from_particles_sparse_all exA exP rfl rfl (by decide)]
  decide +kernel

/-- the cell of the row `(X, Z) = (1/2, 15)`: `X`-bin 0, and `Z`-bin 0 of the decreasing axis `[20, 10, 0]` -/
example : (match fromParticlesSeq exA exP none with
    | some (some (.series vars _ _)) =>
      vars.map (fun v => v.2.2.map (fun h => [[0, 0], [1, 1], [1, 0]].map (fun idx => hcount (h.val idx))))
    | _ => []) = [[[1, 1, 0], [0, 0, 0], [0, 0, 1]], [[0, 0, 0], [0, 0, 0], [0, 0, 0]]] := by
  rw [from_particles_sparse_all exA exP rfl rfl (by decide)]
  decide +kernel

/-- the side conditions of the SQLite theorems hold for the two files of a split run of `Bridge/RasterSeq.lean` -/
theorem exSqlite : SqliteSetting exFile0 [exFile1] 3 (fun f => f.count.sum) := by
  refine ⟨by decide, by decide, ?_⟩
  intro f hf
  simp only [List.mem_cons, List.not_mem_nil, or_false] at hf
  rcases hf with rfl | rfl
  all_goals exact ⟨by decide, by decide, by decide⟩

example : SqliteSetting exFile0 [exFile1] 3 (fun f => f.count.sum) := exSqlite

/-- … the conversion itself on these files is evaluated in `Bridge/RasterSeq.lean` (`exDb`): 3 particle rows,
`4 + 2` instance rows -/
example : (match ladimFileToSqliteSeq [exFile0, exFile1] with
    | some (some d) => (d.particle.length, d.inst.length)
    | _ => (0, 0)) = (3, 6) := by
  rw [sqlite_run _ _ _ _ exSqlite]
  decide +kernel

/-- settled particles: a pid sequence with repeats, two instance variables, one particle variable -/
def exVars : List (String × VDim × List Nat) :=
  [("pid", .particleInstance, [3, 1, 3, 2, 1]), ("X", .particleInstance, [10, 20, 30, 40, 50]),
    ("release_time", .particle, [0, 100, 200, 300])]

example : (∀ kv ∈ exVars, kv.2.1 = .particle → ∀ p ∈ [3, 1, 3, 2, 1], p < kv.2.2.length) ∧
    (∀ kv ∈ exVars, kv.2.1 = .particleInstance → kv.2.2.length = [3, 1, 3, 2, 1].length) := by
  decide

example : (match runSettled id [3, 1, 3, 2, 1] exVars Gen.settled_particles_seq with
    | some (some d) => some (d.pid, d.vars)
    | _ => none) =
    some ([1, 2, 3], [("pid", [1, 2, 3]), ("release_time", [100, 200, 300]), ("X", [50, 40, 30])]) := by
  rw [settled_particles]
  decide +kernel

/-- bin edges of the centres `0, 1, 3` -/
example : edgesSeq [(0 : ℚ), 1, 3] = some (some [-1/2, 1/2, 2, 4]) := by
  decide +kernel

end examples

end OnCode.E2E_C19
