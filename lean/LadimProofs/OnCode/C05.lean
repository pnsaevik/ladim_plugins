import LadimProofs.C05
import LadimProofs.Bridge.Mixing
import LadimProofs.Bridge.Band
import LadimProofs.Bridge.SinkBury
/-!
# C05 — property theorems stated for the generated code

Each statement below is a property theorem of C05 / C07 / C08 / C16 with the hand-written model function replaced by
the window translated from /repo's current source (`Ladim.Gen.*`), obtained by rewriting with the bridge equalities.
Nothing hand-written stands between these statements and the source except the translator.
-/
open Ladim

set_option linter.unusedSectionVars false
set_option linter.unusedVariables false
namespace OnCode
variable {α : Type} [Field α] [LinearOrder α] [IsStrictOrderedRing α]
  [HasSqrt α] [HasExp α] [HasLog α] [HasSin α] [HasCos α] [HasAsin α] [HasRpow α] [HasPi α] [HasRound α] [HasFloor α]

/-! ## C05 — depth bands, for every displacement (every draw, every forcing value) -/

/-- salmon lice: `Z += W*dt ; Z[Z<0] *= -1 ; Z[Z>=20] = 19` ends in `[0, 20)` -/
theorem lice_band (z W dt : α) : 0 ≤ Gen.lice_Z z W dt ∧ Gen.lice_Z z W dt < 20 := by
  have h20 : (20.0 : α) = 20 := by norm_num
  rw [← Bridge.lice_Z, ← h20]
  exact C05.mirrorCap_band (20.0 : α) 19.0 (z + W * dt) (by norm_num) (by norm_num)

/-- egg: ends in `[0, 200)` -/
theorem egg_band (z W dt : α) : 0 ≤ Gen.egg_Z z W dt ∧ Gen.egg_Z z W dt < 200 := by
  have h200 : (200.0 : α) = 200 := by norm_num
  rw [← Bridge.egg_Z, ← h200]
  exact C05.mirrorCap_band (200.0 : α) 199.0 (z + W * dt) (by norm_num) (by norm_num)

/-- larvae: ends in `[min_depth, max_depth]` -/
theorem larvae_band (z W dt lo hi : α) (h : lo ≤ hi) :
    lo ≤ Gen.larvae_Z z W dt lo hi ∧ Gen.larvae_Z z W dt lo hi ≤ hi := by
  rw [← Bridge.larvae_Z]
  exact C05.clipDepth_band lo hi _ h

/-- saithe: larvae end in `[min_depth, max_depth]`, eggs at or below the surface -/
theorem saithe_band (z W dt lo hi : α) (h : lo ≤ hi) :
    (lo ≤ Gen.saithe_Z z W dt lo hi false ∧ Gen.saithe_Z z W dt lo hi false ≤ hi) ∧ 0 ≤ Gen.saithe_Z z W dt lo hi true := by
  rw [← Bridge.saithe_Z, ← Bridge.saithe_Z]
  refine ⟨C05.npClip_band lo hi _ h, ?_⟩
  rw [if_pos rfl, fmax_eq_max, lit_0]
  exact le_max_right _ _

/-- without the switch for clipping eggs: eggs only stop at the surface, larvae are clipped to the band -/
theorem larvaFinalZ_of_not_clipEggs {β : Type} [Field β] [LinearOrder β] (c : Bio.LarvaCfg β)
    (hc : c.clipEggs = false) (P : Prop) [Decidable P] (z : β) :
    Bio.larvaFinalZ c (decide P) z = if P then fmax z 0.0 else Bio.clipDepth c.minDepth c.maxDepth z := by
  unfold Bio.larvaFinalZ
  by_cases h : P <;> simp [h, hc]

/-- chemicals `reflect`: one reflection brings every depth within one water depth of the band into the band -/
theorem chem_reflect_band (H z : α) (h1 : -H ≤ z) (h2 : z ≤ 2 * H) :
    0 ≤ Gen.chem_reflect z H ∧ Gen.chem_reflect z H ≤ H := by
  rw [← Bridge.chem_reflect]
  exact C05.reflect_band H z h1 h2

/-- chemicals `clamp_to_seabed`: never below the bed, never moved upwards past the surface -/
theorem chem_clamp_band (H z : α) (hH : 0 ≤ H) (hz : 0 ≤ z) : 0 ≤ Gen.chem_clamp z H ∧ Gen.chem_clamp z H ≤ H := by
  rw [← Bridge.chem_clamp]
  exact C05.collision_clamp_band H z hH hz

/-- sedimentation / mine `bury`: an active particle ends at or above the bed -/
theorem sed_bury_le (H z : α) : (Gen.sed_bury z H).1 ≤ H ∧ (Gen.mine_bury z H).1 ≤ H := by
  have h1 := C05.bury_le_H H z 1 (by norm_num)
  have h2 := h1
  rw [Bridge.sed_bury] at h1
  rw [Bridge.mine_bury] at h2
  simpa using And.intro h1 h2

/-- mine and shrimp mixing, sedimentation bounded-linear mixing: never above the surface -/
theorem mix_nonneg (vdiff vertmix maxDiff h us dt xi z : α) (hh : 0 ≤ h) :
    0 ≤ Gen.mine_mix z vdiff dt xi ∧ 0 ≤ Gen.shrimp_mix z vertmix dt xi ∧
    0 ≤ Gen.sed_mix_bounded_linear z h dt (Gen.sed_turbulence us (fmax (h - z) 0.0) maxDiff).1
          (Gen.sed_turbulence us (fmax (h - z) 0.0) maxDiff).2 xi := by
  refine ⟨?_, ?_, ?_⟩
  · rw [← Bridge.mine_mix]; exact C05.mixMine_nonneg _ _ _ _
  · rw [← Bridge.shrimp_mix]; exact C05.shrimpMix_nonneg _ _ _ _
  · rw [← Bridge.sed_mix_bounded_linear]; exact C05.mixBoundedLinear_nonneg _ _ _ _ _ _ hh

/-- sand eel / eel `reflexive`: inside `[rmin, rmax]` whatever the displacement -/
theorem reflexive_band (lo hi r : α) (h : lo ≤ hi) :
    (lo ≤ Gen.sandeel_reflexive r lo hi ∧ Gen.sandeel_reflexive r lo hi ≤ hi) ∧
    (lo ≤ Gen.eel_reflexive r lo hi ∧ Gen.eel_reflexive r lo hi ≤ hi) := by
  rw [← Bridge.sandeel_reflexive, ← Bridge.eel_reflexive]
  exact ⟨C05.reflexive_band lo hi r h, C05.reflexive_band lo hi r h⟩

/-! ## interpreted runs and histories of them -/

/-- a bridge equation on a view `(f s, g s)` of the final state `s` of a run: the run finishes, in a state of which
everything holds that follows from the value of `f s` -/
theorem run_view {σ β γ : Type} {r : Option (Option σ)} {f : σ → β} {g : σ → γ} {v : β} {w : γ} {P : σ → Prop}
    (h : r.map (Option.map fun s => (f s, g s)) = some (some (v, w))) (hP : ∀ s, f s = v → P s) :
    ∃ s, r = some (some s) ∧ P s := by
  obtain ⟨o, rfl, ho⟩ := Option.map_eq_some_iff.mp h
  obtain ⟨s, rfl, hs⟩ := Option.map_eq_some_iff.mp ho
  exact ⟨s, rfl, hP s (Prod.mk.inj hs).1⟩


/-- every sequence of consecutive updates, each of which may fail to finish (`none`): if from a state satisfying `Inv`
every update of the list finishes in such a state, the whole list does -/
theorem history_invariant {σ ι : Type} (Inv : σ → Prop) (upd : σ → ι → Option σ) (is : List ι)
    (hstep : ∀ i ∈ is, ∀ s, Inv s → ∃ s', upd s i = some s' ∧ Inv s') (s₀ : σ) (h₀ : Inv s₀) :
    ∃ s', is.foldlM upd s₀ = some s' ∧ Inv s' := by
  induction is generalizing s₀ with
  | nil => exact ⟨s₀, rfl, h₀⟩
  | cons i is ih =>
    obtain ⟨s₁, h1, hI⟩ := hstep i List.mem_cons_self s₀ h₀
    rw [List.foldlM_cons, h1]
    exact ih (fun j hj => hstep j (List.mem_cons_of_mem i hj)) s₁ hI

end OnCode
