import LadimProofs.C01
import LadimProofs.C02
import LadimProofs.C02Iso
import LadimProofs.C04
import LadimProofs.Bridge.DatesSeq
import LadimProofs.Bridge.AttrSeq
import LadimProofs.Bridge.ReleaseSeq
/-!
# C02 / C04 — end to end: the property's clauses about the INTERPRETATION OF THE CURRENT SOURCE

Property C02 — Release dates are ordered, inside their span and evenly spaced
STATEMENT: The rows of the release table are in non-decreasing date order, as LADiM requires. For each group the release times begin at the first given date, end at the second and are evenly spaced in between (to the whole second), and a single date or a single particle yields that date itself; every emitted date is a valid timestamp that LADiM can parse.
QUANTIFIER: all groups with num >= 1 (including exactly 1), dates given as one value or a [start, stop] pair in any accepted type (ISO strings with ' ' or 'T', date/datetime objects, numpy datetime64 of any unit), spans that are zero, not divisible by num-1, or reversed; any number of interleaved groups

Property C04 — Release attribute values honour their specification
STATEMENT: Constant attributes are repeated, explicit lists are reproduced verbatim in particle order, callables or dotted function names receive the particle count, two-element ranges yield values inside the range, and the statistical forms yield values that respect the documented bounds: gaussian values stay within min and max, exponential values are non-negative and do not exceed max, piecewise values stay within the knot range and follow the given cumulative probabilities. Every documented form, including each distribution with only its required keys, is accepted for every particle count.
QUANTIFIER: all attribute specifications allowed by release.yaml and the makrel help text (scalar; list of length num; [low, high]; gaussian with/without min/max; exponential with/without max; piecewise; callable; dotted name), all parameter values, all particle counts >= 1, all seeds

Every theorem below is a statement about `Seq.dateRangeSeq` (= `runDateRange … Gen.date_range_seq`), `Seq.getAttrSeq`
(= `runRet … Gen.get_attr_seq`, which runs `Gen.get_distribution_seq` at `v = get_distribution(v, num)`) or
`Seq.runMakeRelease … Gen.make_release_seq`: what the statement sequences generated from the current source do.
The bridges (`LadimProofs/Bridge/{DatesSeq,AttrSeq,ReleaseSeq}.lean`) and the model theorems (`LadimProofs/C01`, `C02`,
`C02Iso`, `C04`) are the lemmas.

## Vocabulary of the C02 statements (inputs only)
* a date is a numpy `datetime64` scalar `(unit, ticks)` (`Seq.Stamp`), already parsed by `np.datetime64(d)`;
* `Bridge.fine toSec d` is the date as numpy holds it after the cast of the units `Y M W D h m` to seconds (`toSec` is the
  parameter of the interpretation that stands for that cast; `Dates.coarseToSec` is numpy's); `Bridge.perSecOf u` = ticks
  per second of the unit `u`;
* `c02_tps`, `c02_startFine`, `c02_stopFine`: ticks per second of the finer of the two units and the two dates counted in that
  unit (numpy promotes `stop - start` to it); for dates of one unit these are `perSecOf u` and the ticks themselves
  (`c02_same_unit`);
* the renderer is a parameter of the interpretation; with `Prod.mk` the interpretation returns the stamps themselves,
  `c02_render_natural` says that every other renderer is applied element by element to those stamps.

## Hypotheses that the bridges force
None.  `Bridge.run_pair` / `Bridge.date_range_single` ask for `divSeen Gen.date_range_seq = some .maxOne` (the `drange`
statement divides by `max(num - 1, 1)`), `Bridge.get_attr_seq_of` for the `np.clip` argument order that
`Gen.get_distribution_seq` shows: both are read off the generated text here (`c02_divisor_text`, `Bridge.clip_seen`) and
are not hypotheses of the theorems.  `int64` overflow and float rounding are outside the interpretation (integers are
`Int`, attribute values live in an arbitrary linear ordered field).

## Not covered
* C02: the parser `np.datetime64(d)` (ISO strings with ' ' or 'T', `date` / `datetime` objects) is not part of the
  interpretation — the dates arrive parsed, in any unit; LADiM's own parser is not modelled
  (`c02_valid_timestamp_partial`); that the `date` cells of the table are the strings `date_range` returned is the
  composition `make_single_release` → `make_release` (`Bridge.make_single_release_seq`), not restated here.
* C04: the gaussian LOWER bound on the current text (known finding F-C04a; it fails, `c04_gaussian_lower_fails_when_swapped`);
  the distribution of the draws themselves (numpy's generator) — "follow the given cumulative probabilities" is stated as
  the event inclusion that gives `P(value ≤ knot_j) = cdf_j` for a uniform draw; `get_attrs` (the loop over the keys,
  `Bridge.get_attrs`) is not restated.
-/
open Ladim Ladim.Seq Ladim.Dates Ladim.Attr Ladim.Table

set_option linter.unusedSectionVars false
set_option linter.unusedVariables false
set_option linter.unusedSimpArgs false
namespace OnCode

/-! # C02 — `date_range` -/
section C02
variable (toSec : TUnit → Int → Int)

/-- the `drange` statement of the current source divides by `max(num - 1, 1)` -/
theorem c02_divisor_text : divSeen Gen.date_range_seq = some .maxOne := by
  simp [divSeen, Gen.date_range_seq, divOfText]

/-- ticks per second of the finer of the units of the two dates (after the cast of the coarse units) -/
def c02_tps (a b : Stamp) : Int :=
  max (Bridge.perSecOf (Bridge.fine toSec a).1) (Bridge.perSecOf (Bridge.fine toSec b).1)
/-- a number of ticks in the unit of `start` (= `a`), counted in the finer unit -/
def c02_toFine (a b : Stamp) (t : Int) : Int := t * (c02_tps toSec a b / Bridge.perSecOf (Bridge.fine toSec a).1)
/-- the first date in ticks of the finer unit -/
def c02_startFine (a b : Stamp) : Int := c02_toFine toSec a b (Bridge.fine toSec a).2
/-- the second date in ticks of the finer unit -/
def c02_stopFine (a b : Stamp) : Int :=
  (Bridge.fine toSec b).2 * (c02_tps toSec a b / Bridge.perSecOf (Bridge.fine toSec b).1)

/-- both dates in one unit `u` (the usual case): the finer unit is `u`, the ticks are the ticks -/
theorem c02_same_unit (a b : Stamp) (u : TUnit) (ha : (Bridge.fine toSec a).1 = u) (hb : (Bridge.fine toSec b).1 = u) :
    c02_tps toSec a b = Bridge.perSecOf u ∧ (∀ t, c02_toFine toSec a b t = t) ∧
      c02_startFine toSec a b = (Bridge.fine toSec a).2 ∧ c02_stopFine toSec a b = (Bridge.fine toSec b).2 := by
  have hp := Bridge.perSecOf_pos u
  have h1 : Bridge.perSecOf u / Bridge.perSecOf u = 1 := Int.ediv_self (by omega)
  simp [c02_tps, c02_toFine, c02_startFine, c02_stopFine, ha, hb, h1]

/-- the whole seconds from the first to the second date: the value of `dt = (stop - start).astype('timedelta64[s]')` -/
def c02_spanSec (a b : Stamp) : Int :=
  diffSeconds (Bridge.perSecOf (Bridge.fine toSec a).1) (Bridge.fine toSec a).2
    (Bridge.perSecOf (Bridge.fine toSec b).1) (Bridge.fine toSec b).2

theorem c02_tps_pos (a b : Stamp) : 0 < c02_tps toSec a b := by
  have := Bridge.perSecOf_pos (Bridge.fine toSec a).1
  unfold c02_tps; omega

theorem c02_spanSec_eq (a b : Stamp) :
    c02_spanSec toSec a b = (c02_stopFine toSec a b - c02_startFine toSec a b) / c02_tps toSec a b := by
  have hp := c02_tps_pos toSec a b
  unfold c02_spanSec diffSeconds
  rw [Int.fdiv_eq_ediv_of_nonneg _ (by unfold c02_tps at hp; exact hp.le)]
  rfl

/-- `c02_spanSec` is the floor of the span in seconds -/
theorem c02_spanSec_spec (a b : Stamp) :
    c02_spanSec toSec a b * c02_tps toSec a b ≤ c02_stopFine toSec a b - c02_startFine toSec a b ∧
    c02_stopFine toSec a b - c02_startFine toSec a b < (c02_spanSec toSec a b + 1) * c02_tps toSec a b := by
  have hp := c02_tps_pos toSec a b
  rw [c02_spanSec_eq]
  exact ⟨Int.ediv_mul_le _ hp.ne', Int.lt_ediv_add_one_mul_self _ hp⟩

/-- a tick of `start`'s unit times the conversion factor is a tick of the finer unit: `p₁ · k₁ = c02_tps` -/
theorem c02_toFine_mul (a b : Stamp) (q : Int) :
    c02_toFine toSec a b (q * Bridge.perSecOf (Bridge.fine toSec a).1) = q * c02_tps toSec a b := by
  obtain ⟨hd, _⟩ := Bridge.perSec_dvd (Bridge.fine toSec a).1 (Bridge.fine toSec b).1
  unfold c02_toFine c02_tps
  rw [Int.mul_assoc, hd]

theorem c02_toFine_add (a b : Stamp) (x y : Int) : c02_toFine toSec a b (x + y) = c02_toFine toSec a b x + c02_toFine toSec a b y := by
  unfold c02_toFine; rw [Int.add_mul]

theorem c02_toFine_factor_pos (a b : Stamp) : 0 < c02_tps toSec a b / Bridge.perSecOf (Bridge.fine toSec a).1 :=
  (Bridge.perSec_dvd (Bridge.fine toSec a).1 (Bridge.fine toSec b).1).2

/-- **closed form.**  `date_range([a, b], num)`, as the generated statement sequence says, never raises and returns, for
particle `i < num`, the date `start + trunc(i · dt / max(num - 1, 1))` seconds, in the unit of `start` (never `NaT`),
rendered — for every pair of dates, every `num`, every cast of the coarse units and every renderer -/
theorem c02_closed_form {ρ : Type} (render : TUnit → Option Int → ρ) (a b : Stamp) (num : Nat) :
    dateRangeSeq toSec render (.seq [a, b]) num =
      some (some ((List.range num).map (fun i : Nat => render (Bridge.fine toSec a).1
        (some ((Bridge.fine toSec a).2 +
          ((i : Int) * c02_spanSec toSec a b).tdiv (max ((num : Int) - 1) 1) * Bridge.perSecOf (Bridge.fine toSec a).1))))) := by
  have hne : max ((num : Int) - 1) 1 ≠ 0 := by omega
  rw [Bridge.run_pair .maxOne c02_divisor_text]
  simp [drangeTicks, tdivNaT, DivVariant.div, divisor, hne, c02_spanSec, List.map_map, Function.comp_def]
/-- non-vacuity: four particles over ten seconds, a span that `num - 1` does not divide (truncation: 0, 3, 6, 10 s) -/
example : dateRangeSeq coarseToSec renderStamp (.seq [(.s, 100), (.s, 110)]) 4 =
    some (some ["1970-01-01T00:01:40", "1970-01-01T00:01:43", "1970-01-01T00:01:46", "1970-01-01T00:01:50"]) := by
  rw [c02_closed_form]; decide +kernel

/-- the ticks of the closed form (proof-internal witness of the `∃ ts` below) -/
private def ticks (a b : Stamp) (num : Nat) : List Int :=
  (List.range num).map (fun i : Nat => (Bridge.fine toSec a).2 +
    ((i : Int) * c02_spanSec toSec a b).tdiv (max ((num : Int) - 1) 1) * Bridge.perSecOf (Bridge.fine toSec a).1)

private theorem run_ticks {ρ : Type} (render : TUnit → Option Int → ρ) (a b : Stamp) (num : Nat) :
    dateRangeSeq toSec render (.seq [a, b]) num =
      some (some ((ticks toSec a b num).map (fun t => render (Bridge.fine toSec a).1 (some t)))) := by
  rw [c02_closed_form, ticks, List.map_map]; rfl

/-- **naturality in the renderer**: for every form of `date_span` the strings that `date_range` returns are the
renderings, element by element, of the stamps that the interpretation returns with the renderer `Prod.mk`; the clauses
below are stated for those stamps -/
theorem c02_render_natural {ρ : Type} (render : TUnit → Option Int → ρ) (span : DateArg) (num : Nat) :
    dateRangeSeq toSec render span num =
      (dateRangeSeq toSec Prod.mk span num).map (Option.map (List.map (fun p => render p.1 p.2))) := by
  have pair : ∀ a b : Stamp, dateRangeSeq toSec render (.seq [a, b]) num =
      (dateRangeSeq toSec Prod.mk (.seq [a, b]) num).map (Option.map (List.map (fun p => render p.1 p.2))) := by
    intro a b
    rw [run_ticks toSec render, run_ticks toSec Prod.mk]
    simp [List.map_map, Function.comp_def]
  cases span with
  | str d => rw [Bridge.run_str, Bridge.run_str, pair]
  | scalar d => rw [Bridge.run_scalar, Bridge.run_scalar, pair]
  | seq ds =>
    by_cases h2 : ds.length = 2
    · match ds, h2 with
      | [a, b], _ => exact pair a b
    · rw [Bridge.run_not_two toSec render ds num h2, Bridge.run_not_two toSec Prod.mk ds num h2]; rfl

/-- **num dates, every one a valid time stamp**: for every pair of dates and every `num` the interpretation returns
(it does not raise) exactly `num` dates, none of them `NaT`, in the unit of `start` -/
theorem c02_num_dates_valid (a b : Stamp) (num : Nat) :
    ∃ ts : List Int, ts.length = num ∧
      dateRangeSeq toSec Prod.mk (.seq [a, b]) num = some (some (ts.map (fun t => ((Bridge.fine toSec a).1, some t)))) :=
  ⟨ticks toSec a b num, by simp [ticks], run_ticks toSec Prod.mk a b num⟩

/-- **the release times begin at the first given date** (every `num ≥ 1`, every span) -/
theorem c02_first_is_start (a b : Stamp) (num : Nat) (hn : 1 ≤ num) :
    ∃ ts : List Int,
      dateRangeSeq toSec Prod.mk (.seq [a, b]) num = some (some (ts.map (fun t => ((Bridge.fine toSec a).1, some t)))) ∧
      ts.head? = some (Bridge.fine toSec a).2 := by
  refine ⟨ticks toSec a b num, run_ticks toSec Prod.mk a b num, ?_⟩
  have h0 : num ≠ 0 := by omega
  simp [ticks, List.head?_map, List.head?_range, h0]
/-- the hypothesis holds: a `date` and a millisecond `datetime64`, four particles -/
example := c02_first_is_start coarseToSec (.D, 10957) (.ms, 1500) 4 (by decide)

private theorem last_tick (a b : Stamp) (num : Nat) (hn : 2 ≤ num) :
    (ticks toSec a b num).getLast? = some ((Bridge.fine toSec a).2 +
      c02_spanSec toSec a b * Bridge.perSecOf (Bridge.fine toSec a).1) := by
  obtain ⟨m, rfl⟩ : ∃ m, num = m + 2 := ⟨num - 2, by omega⟩
  have hd : max (((m + 2 : Nat) : Int) - 1) 1 = (m : Int) + 1 := by omega
  have hc : ((m + 2 - 1 : Nat) : Int) = (m : Int) + 1 := by omega
  simp only [ticks, List.getLast?_map, List.getLast?_range]
  simp only [Nat.add_eq_zero_iff, OfNat.ofNat_ne_zero, and_false, if_false, Option.map_some]
  rw [hd, hc, Int.mul_tdiv_cancel_left _ (by omega)]

/-- **the release times end at the second date, to the whole second** (every `num ≥ 2`): the last date is
`start + ⌊stop - start⌋ seconds`; counted in the finer of the two units it is at most `stop` and less than one second
before it — also for reversed spans and spans that `num - 1` does not divide -/
theorem c02_last_is_stop (a b : Stamp) (num : Nat) (hn : 2 ≤ num) :
    ∃ ts : List Int,
      dateRangeSeq toSec Prod.mk (.seq [a, b]) num = some (some (ts.map (fun t => ((Bridge.fine toSec a).1, some t)))) ∧
      ∃ t, ts.getLast? = some t ∧ c02_toFine toSec a b t ≤ c02_stopFine toSec a b ∧
        c02_stopFine toSec a b - c02_toFine toSec a b t < c02_tps toSec a b := by
  refine ⟨ticks toSec a b num, run_ticks toSec Prod.mk a b num, _, last_tick toSec a b num hn, ?_⟩
  obtain ⟨h1, h2⟩ := c02_spanSec_spec toSec a b
  rw [c02_toFine_add, c02_toFine_mul]
  change c02_startFine toSec a b + _ ≤ _ ∧ _ - (c02_startFine toSec a b + _) < _
  constructor <;> linarith
/-- the hypothesis holds: a reversed span of 1.5 s in milliseconds, three particles -/
example := c02_last_is_stop coarseToSec (.ms, 1500) (.ms, 0) 3 (by decide)

/-- **… and exactly at the second date** when the span is a whole number of seconds -/
theorem c02_last_is_stop_exact (a b : Stamp) (num : Nat) (hn : 2 ≤ num)
    (hdiv : c02_tps toSec a b ∣ c02_stopFine toSec a b - c02_startFine toSec a b) :
    ∃ ts : List Int,
      dateRangeSeq toSec Prod.mk (.seq [a, b]) num = some (some (ts.map (fun t => ((Bridge.fine toSec a).1, some t)))) ∧
      ∃ t, ts.getLast? = some t ∧ c02_toFine toSec a b t = c02_stopFine toSec a b := by
  refine ⟨ticks toSec a b num, run_ticks toSec Prod.mk a b num, _, last_tick toSec a b num hn, ?_⟩
  rw [c02_toFine_add, c02_toFine_mul, c02_spanSec_eq, Int.ediv_mul_cancel hdiv]
  exact add_sub_cancel _ _
/-- the hypotheses hold: 2000-01-01 (a `date`) to 2000-01-02T00:00:00 (seconds), three particles -/
example := c02_last_is_stop_exact coarseToSec (.D, 10957) (.s, 946771200) 3 (by decide) (by decide)

/-- a date in seconds or coarser is held in seconds after the cast -/
private theorem fine_seconds (d : Stamp) (hd : Bridge.isCoarse d.1 = true ∨ d.1 = .s) : (Bridge.fine toSec d).1 = .s := by
  obtain ⟨u, t⟩ := d
  cases u <;> simp [Bridge.fine, Bridge.isCoarse] at hd ⊢

/-- **dates given in seconds or coarser** (ISO strings without fraction, `date` objects, `datetime64[Y … s]`): the
result is in seconds and the last date *is* the second date -/
theorem c02_last_is_stop_seconds (a b : Stamp) (num : Nat) (hn : 2 ≤ num)
    (ha : Bridge.isCoarse a.1 = true ∨ a.1 = .s) (hb : Bridge.isCoarse b.1 = true ∨ b.1 = .s) :
    ∃ ts : List Int,
      dateRangeSeq toSec Prod.mk (.seq [a, b]) num = some (some (ts.map (fun t => (TUnit.s, some t)))) ∧
      ts.getLast? = some (Bridge.fine toSec b).2 := by
  have fs := fine_seconds toSec a ha
  obtain ⟨hp, hf, hs, he⟩ := c02_same_unit toSec a b .s fs (fine_seconds toSec b hb)
  obtain ⟨ts, hrun, t, hl, hx⟩ := c02_last_is_stop_exact toSec a b num hn (by
    rw [hp]; exact ⟨_, (Int.one_mul _).symm⟩)
  rw [fs] at hrun
  refine ⟨ts, hrun, ?_⟩
  rw [hl, ← he, ← hx, hf]
/-- the hypotheses hold for the same pair -/
example := c02_last_is_stop_seconds coarseToSec (.D, 10957) (.s, 946771200) 3 (by decide) (Or.inl rfl) (Or.inr rfl)

/-- a later offset in seconds gives a later tick -/
private theorem tick_le (a : Stamp) (num : Nat) {x y : Int} (h : x ≤ y) :
    (Bridge.fine toSec a).2 + x.tdiv (max ((num : Int) - 1) 1) * Bridge.perSecOf (Bridge.fine toSec a).1 ≤
      (Bridge.fine toSec a).2 + y.tdiv (max ((num : Int) - 1) 1) * Bridge.perSecOf (Bridge.fine toSec a).1 :=
  Int.add_le_add_left (Int.mul_le_mul_of_nonneg_right (C02.tdiv_mono _ _ _ (by omega) h)
    (Bridge.perSecOf_pos _).le) _

/-- **non-decreasing**: when the first date is not after the second, the dates of a group are in non-decreasing order
of the particle index -/
theorem c02_nondecreasing (a b : Stamp) (num : Nat) (hab : c02_startFine toSec a b ≤ c02_stopFine toSec a b) :
    ∃ ts : List Int,
      dateRangeSeq toSec Prod.mk (.seq [a, b]) num = some (some (ts.map (fun t => ((Bridge.fine toSec a).1, some t)))) ∧
      ts.Pairwise (· ≤ ·) := by
  have hs : 0 ≤ c02_spanSec toSec a b := by
    rw [c02_spanSec_eq]; exact Int.ediv_nonneg (by omega) (c02_tps_pos toSec a b).le
  refine ⟨ticks toSec a b num, run_ticks toSec Prod.mk a b num, ?_⟩
  rw [ticks, List.pairwise_map]
  exact List.Pairwise.imp (fun hij => tick_le toSec a num
    (Int.mul_le_mul_of_nonneg_right (by exact_mod_cast hij.le) hs)) List.pairwise_lt_range
/-- the hypothesis holds: a `date` and a later millisecond stamp, seven particles -/
example := c02_nondecreasing coarseToSec (.D, 10957) (.ms, 946771200500) 7 (by decide)

/-- **reversed span**: when the first date is after the second, the dates are in non-increasing order (the sort of
`make_release` puts the rows in order, `c02_rows_sorted`) -/
theorem c02_reversed_nonincreasing (a b : Stamp) (num : Nat) (hab : c02_stopFine toSec a b ≤ c02_startFine toSec a b) :
    ∃ ts : List Int,
      dateRangeSeq toSec Prod.mk (.seq [a, b]) num = some (some (ts.map (fun t => ((Bridge.fine toSec a).1, some t)))) ∧
      ts.Pairwise (· ≥ ·) := by
  have hs : c02_spanSec toSec a b ≤ 0 := by
    rw [c02_spanSec_eq]; exact Int.ediv_nonpos_of_nonpos_of_neg (by omega) (c02_tps_pos toSec a b)
  refine ⟨ticks toSec a b num, run_ticks toSec Prod.mk a b num, ?_⟩
  rw [ticks, List.pairwise_map]
  exact List.Pairwise.imp (fun hij => tick_le toSec a num
    (Int.mul_le_mul_of_nonpos_right (by exact_mod_cast hij.le) hs)) List.pairwise_lt_range
/-- the hypothesis holds: a reversed span -/
example := c02_reversed_nonincreasing coarseToSec (.ms, 1500) (.ms, 0) 3 (by decide)

/-- **evenly spaced, to the whole second**: with `dt` the whole seconds of the span (`dt ≤ stop - start < dt + 1` s),
particle `i` is released `q` whole seconds after `start`, where `q` differs from the exact `i · dt / max(num - 1, 1)` by
less than one second (truncation toward zero) — for spans that `num - 1` does not divide, zero and reversed spans -/
theorem c02_evenly_spaced (a b : Stamp) (num : Nat) :
    ∃ dt : Int, dt * c02_tps toSec a b ≤ c02_stopFine toSec a b - c02_startFine toSec a b ∧
        c02_stopFine toSec a b - c02_startFine toSec a b < (dt + 1) * c02_tps toSec a b ∧
      ∃ ts : List Int,
        dateRangeSeq toSec Prod.mk (.seq [a, b]) num = some (some (ts.map (fun t => ((Bridge.fine toSec a).1, some t)))) ∧
        ∀ i : Nat, i < num → ∃ q : Int,
          ts[i]? = some ((Bridge.fine toSec a).2 + q * Bridge.perSecOf (Bridge.fine toSec a).1) ∧
          (q : ℚ) - ((i : ℚ) * dt) / (max ((num : Int) - 1) 1 : Int) < 1 ∧
          ((i : ℚ) * dt) / (max ((num : Int) - 1) 1 : Int) - q < 1 := by
  obtain ⟨h1, h2⟩ := c02_spanSec_spec toSec a b
  refine ⟨c02_spanSec toSec a b, h1, h2, ticks toSec a b num, run_ticks toSec Prod.mk a b num, ?_⟩
  intro i hi
  refine ⟨((i : Int) * c02_spanSec toSec a b).tdiv (max ((num : Int) - 1) 1), ?_, ?_⟩
  · simp [ticks, hi]
  · have hd : (0 : Int) < max ((num : Int) - 1) 1 := by omega
    have := C02.even_spacing ((i : Int) * c02_spanSec toSec a b) _ hd
    push_cast at this ⊢
    exact this

/-- **exactly evenly spaced** when `num - 1` divides the whole seconds of the span: the step is `dt / (num - 1)` -/
theorem c02_evenly_spaced_exact (a b : Stamp) (num : Nat) (hn : 2 ≤ num) (step : Int)
    (hstep : c02_spanSec toSec a b = ((num : Int) - 1) * step) :
    dateRangeSeq toSec Prod.mk (.seq [a, b]) num = some (some ((List.range num).map (fun i : Nat =>
      ((Bridge.fine toSec a).1, some ((Bridge.fine toSec a).2 + (i : Int) * step * Bridge.perSecOf (Bridge.fine toSec a).1))))) := by
  rw [c02_closed_form, hstep]
  have hd : max ((num : Int) - 1) 1 = (num : Int) - 1 := by omega
  congr 2
  apply List.map_congr_left
  intro i _
  rw [hd, show (i : Int) * (((num : Int) - 1) * step) = ((num : Int) - 1) * ((i : Int) * step) by ring,
    Int.mul_tdiv_cancel_left _ (by omega)]
/-- the hypotheses hold: ten seconds, three particles, step 5 s -/
example := c02_evenly_spaced_exact coarseToSec (.s, 100) (.s, 110) 3 (by decide) 5 (by decide)

/-- **zero span**: two equal dates yield that date for every particle -/
theorem c02_zero_span {ρ : Type} (render : TUnit → Option Int → ρ) (a b : Stamp) (num : Nat)
    (hab : Bridge.fine toSec a = Bridge.fine toSec b) :
    dateRangeSeq toSec render (.seq [a, b]) num =
      some (some (List.replicate num (render (Bridge.fine toSec a).1 (some (Bridge.fine toSec a).2)))) := by
  have hz : c02_spanSec toSec a b = 0 := by
    unfold c02_spanSec diffSeconds
    rw [← hab]; simp
  rw [c02_closed_form, hz]
  simp [List.map_const']
/-- the hypothesis holds: 1970-01-02 as a `date` and as a second stamp -/
example := c02_zero_span coarseToSec renderStamp (.D, 1) (.s, 86400) 5 (by decide)

/-- **a single date yields that date itself**, for every particle: given as a string … -/
theorem c02_single_date_str {ρ : Type} (render : TUnit → Option Int → ρ) (d : Stamp) (num : Nat) :
    dateRangeSeq toSec render (.str d) num =
      some (some (List.replicate num (render (Bridge.fine toSec d).1 (some (Bridge.fine toSec d).2)))) := by
  rw [Bridge.run_str, c02_zero_span toSec render d d num rfl]

/-- … or as a `date` / `datetime` / `datetime64` object -/
theorem c02_single_date_scalar {ρ : Type} (render : TUnit → Option Int → ρ) (d : Stamp) (num : Nat) :
    dateRangeSeq toSec render (.scalar d) num =
      some (some (List.replicate num (render (Bridge.fine toSec d).1 (some (Bridge.fine toSec d).2)))) :=
  Bridge.date_range_single c02_divisor_text toSec render d num

/-- **a single particle yields the (first) date itself**, whatever the second date -/
theorem c02_single_particle {ρ : Type} (render : TUnit → Option Int → ρ) (a b : Stamp) :
    dateRangeSeq toSec render (.seq [a, b]) 1 = some (some [render (Bridge.fine toSec a).1 (some (Bridge.fine toSec a).2)]) := by
  rw [c02_closed_form]; simp

/-- **every emitted date is a valid time stamp** (PARTIAL: what is shown is that no date is `NaT` — `c02_num_dates_valid` —
and that, for dates given in seconds or coarser and numpy's renderer `Dates.renderStamp`, every emitted string is the
19-character `YYYY-MM-DDTHH:MM:SS` rendering `Dates.renderISO t` of a whole second `t`.  Missing: LADiM's parser is not
modelled, and that numpy's `astype(str)` is `renderStamp` is checked by the harness, not proved; units finer than seconds
add a fraction, `renderStamp`.) -/
theorem c02_valid_timestamp_partial (a b : Stamp) (num : Nat)
    (ha : Bridge.isCoarse a.1 = true ∨ a.1 = .s) (hb : Bridge.isCoarse b.1 = true ∨ b.1 = .s) :
    ∃ ts : List Int, ts.length = num ∧
      dateRangeSeq toSec renderStamp (.seq [a, b]) num = some (some (ts.map renderISO)) ∧
      ∀ s ∈ ts.map renderISO, s.length = 19 := by
  refine ⟨ticks toSec a b num, by simp [ticks], ?_, ?_⟩
  · rw [run_ticks toSec renderStamp, fine_seconds toSec a ha]; rfl
  · intro s hs
    obtain ⟨t, _, rfl⟩ := List.mem_map.mp hs
    exact C02.renderISO_length t
/-- the hypotheses hold: a `date` and a second stamp -/
example := c02_valid_timestamp_partial coarseToSec (.D, 10957) (.s, 946771200) 3 (Or.inl rfl) (Or.inr rfl)

end C02

/-! # C02 — the rows of the table: `make_release` -/
section C02Rows
variable {α : Type}

/-- `mapM` into `Option` succeeds on `x :: xs` exactly when it does on `x` and on `xs` -/
private theorem mapM_cons_some {β γ : Type} {f : β → Option γ} {x : β} {xs : List β} {o : List γ}
    (h : (x :: xs).mapM f = some o) : ∃ x' o', f x = some x' ∧ xs.mapM f = some o' ∧ o = x' :: o' := by
  simp only [List.mapM_cons, Option.pure_def, Option.bind_eq_bind, Option.bind_eq_some_iff, Option.some.injEq] at h
  obtain ⟨x', h1, o', h2, rfl⟩ := h
  exact ⟨x', o', h1, h2, rfl⟩

/-- a successful `mapM g` over names: the cell at the first position of `c` is `g c` -/
private theorem mapM_idxOf {γ : Type} (g : String → Option γ) (c : String) :
    ∀ (w : List String) (o : List γ), w.mapM g = some o → c ∈ w → (w.idxOf? c).bind (fun j => o[j]?) = g c := by
  intro w
  induction w with
  | nil => intro o _ hm; simp at hm
  | cons x xs ih =>
    intro o ho hm
    obtain ⟨x', o', h1, h2, rfl⟩ := mapM_cons_some ho
    rw [List.idxOf?_cons]
    by_cases hx : x == c
    · simp [← eq_of_beq hx, h1]
    · have hm' : c ∈ xs := (List.mem_cons.1 hm).resolve_left fun e => hx (by simp [e])
      rw [← ih o' h2 hm']
      cases xs.idxOf? c <;> simp [hx]

/-- the sort key is read off the cell under the first `date` column -/
private theorem dateKey_eq (cols : List String) (row : List (Cell α)) :
    dateKey cols row = match (cols.idxOf? "date").bind (fun j => row[j]?) with
      | some (.str s) => s
      | _ => "" := by
  unfold dateKey
  cases cols.idxOf? "date" <;> rfl

/-- `frame[columns]` keeps the sort key of a row when `date` is among the wanted columns -/
private theorem selectCols_dateKey (cols want : List String) (row row' : List (Cell α))
    (h : selectCols cols want row = some row') (hd : "date" ∈ want) :
    dateKey want row' = dateKey cols row := by
  rw [dateKey_eq, dateKey_eq, mapM_idxOf _ _ want row' h hd]

/-- without `date` among the wanted columns every key is empty -/
private theorem dateKey_no_date (want : List String) (row : List (Cell α)) (hd : "date" ∉ want) :
    dateKey want row = "" := by
  rw [dateKey_eq, List.idxOf?_eq_none_iff.2 hd]; rfl

/-- an order carries over from the inputs to the outputs of a successful `mapM`: every output comes from an input -/
private theorem mapM_pairwise {β γ : Type} (f : β → Option γ) (R : β → β → Prop) (S : γ → γ → Prop)
    (hRS : ∀ x y x' y', f x = some x' → f y = some y' → R x y → S x' y') :
    ∀ (l : List β) (o : List γ), l.mapM f = some o → l.Pairwise R → o.Pairwise S := by
  suffices h : ∀ (l : List β) (o : List γ), l.mapM f = some o →
      (∀ y' ∈ o, ∃ y ∈ l, f y = some y') ∧ (l.Pairwise R → o.Pairwise S) from fun l o h1 => (h l o h1).2
  intro l
  induction l with
  | nil => intro o h; cases h; exact ⟨by simp, fun _ => .nil⟩
  | cons x xs ih =>
    intro o h
    obtain ⟨x', o', h1, h2, rfl⟩ := mapM_cons_some h
    obtain ⟨hmem, hpw⟩ := ih o' h2
    refine ⟨fun y' hy' => ?_, fun hp => ?_⟩
    · rcases List.mem_cons.mp hy' with rfl | hm
      · exact ⟨x, by simp, h1⟩
      · obtain ⟨y, hy, hfy⟩ := hmem y' hm
        exact ⟨y, List.mem_cons_of_mem _ hy, hfy⟩
    · rw [List.pairwise_cons] at hp ⊢
      refine ⟨fun y' hy' => ?_, hpw hp.2⟩
      obtain ⟨y, hy, hfy⟩ := hmem y' hy'
      exact hRS x y x' y' h1 hfy (hp.1 y hy)

/-- **the rows of the release table are in non-decreasing date order**: whenever `make_release`, as its generated
statement sequence says, returns a table — any number of groups, any frames, with or without `columns`, `seed`, file
name — the rows are in non-decreasing order of the string in the `date` column (`sort_values('date')`).
(`Table.dateKey cols row` = that string.) -/
theorem c02_rows_sorted (zero : α) (groups : List (Frame α × Nat)) (columns : Option (List String))
    (hasSeed fname : Bool) (cols : List String) (rows : List (List (Cell α)))
    (h : runMakeRelease zero groups columns hasSeed fname Gen.make_release_seq = some (some (cols, rows))) :
    rows.Pairwise (fun r s => dateKey cols r ≤ dateKey cols s) := by
  rw [Bridge.make_release_seq_full] at h
  simp only [Option.some.injEq] at h
  split_ifs at h with hemp
  unfold makeTable at h
  split_ifs at h with hok
  have hsorted := C01.sortRows_sorted (concatFill zero groups).1 (concatFill zero groups).2
  cases columns with
  | none =>
    simp only [Option.some.injEq, Prod.mk.injEq] at h
    obtain ⟨rfl, rfl⟩ := h
    exact hsorted
  | some want =>
    simp only [Option.map_eq_some_iff, Prod.mk.injEq] at h
    obtain ⟨rs, hrs, rfl, rfl⟩ := h
    by_cases hd : "date" ∈ want
    · refine mapM_pairwise _ _ _ ?_ _ _ hrs hsorted
      intro x y x' y' hx hy hxy
      rw [selectCols_dateKey _ _ _ _ hx hd, selectCols_dateKey _ _ _ _ hy hd]
      exact hxy
    · exact List.pairwise_of_forall fun r s => by rw [dateKey_no_date _ r hd, dateKey_no_date _ s hd]

/-- `make_release` does return a table for a non-empty list of groups whose frames are rectangular (every column of a
group has `num` cells), when no `columns` are selected -/
theorem c02_rows_sorted_returns (zero : α) (groups : List (Frame α × Nat)) (hasSeed fname : Bool)
    (hne : groups ≠ []) (hok : groups.all (fun g => frameOk g.1 g.2) = true) :
    ∃ cols rows, runMakeRelease zero groups none hasSeed fname Gen.make_release_seq = some (some (cols, rows)) ∧
      rows.Pairwise (fun r s => dateKey cols r ≤ dateKey cols s) := by
  have hrun : runMakeRelease zero groups none hasSeed fname Gen.make_release_seq =
      some (some ((concatFill zero groups).1, sortRows (concatFill zero groups).1 (concatFill zero groups).2)) := by
    rw [Bridge.make_release_seq zero groups none hasSeed fname hne]
    simp [makeTable, hok]
  exact ⟨_, _, hrun, c02_rows_sorted zero groups none hasSeed fname _ _ hrun⟩
/-- two interleaved groups (three rows; the second group has no column `x`) -/
private def exG1 : Frame Int × Nat :=
  ([("date", [.str "2000-01-03T00:00:00", .str "2000-01-01T00:00:00"]), ("x", [.num 1, .num 2])], 2)
private def exG2 : Frame Int × Nat := ([("date", [.str "2000-01-02T00:00:00"])], 1)
/-- the hypotheses hold -/
example := c02_rows_sorted_returns (0 : Int) [exG1, exG2] true false (by decide) (by decide)
/-- the hypothesis of `c02_rows_sorted` holds, also with `columns` (the interpretation evaluated) -/
example : runMakeRelease (0 : Int) [exG1, exG2] (some ["x", "date"]) false true Gen.make_release_seq =
    some (some (["x", "date"], [[.num 2, .str "2000-01-01T00:00:00"], [.num 0, .str "2000-01-02T00:00:00"],
      [.num 1, .str "2000-01-03T00:00:00"]])) := by
  rw [Bridge.make_release_seq _ _ _ _ _ (List.cons_ne_nil _ _)]; decide +kernel

/-- **… in non-decreasing *time* order**: when the `date` cells are the ISO renderings of whole seconds in the years
0000 … 9999 (what `date_range` emits for dates in seconds or coarser, `c02_valid_timestamp_partial`), the rows are in
non-decreasing order of those times — the order of the strings is the order of the times (`C02Iso`) -/
theorem c02_rows_sorted_by_time (zero : α) (groups : List (Frame α × Nat)) (columns : Option (List String))
    (hasSeed fname : Bool) (cols : List String) (rows : List (List (Cell α)))
    (h : runMakeRelease zero groups columns hasSeed fname Gen.make_release_seq = some (some (cols, rows)))
    (time : List (Cell α) → Int)
    (hiso : ∀ r ∈ rows, dateKey cols r = renderISO (time r) ∧ isoLo ≤ time r ∧ time r ≤ isoHi) :
    rows.Pairwise (fun r s => time r ≤ time s) := by
  have hs := c02_rows_sorted zero groups columns hasSeed fname cols rows h
  apply C02.sorted_by_iso_string_is_sorted_by_time time rows (fun r hr => (hiso r hr).2)
  refine List.Pairwise.imp_of_mem ?_ hs
  intro r s hr hs' hle
  rw [← (hiso r hr).1, ← (hiso s hs').1]
  exact hle
private def exG3 : Frame Int × Nat := ([("date", [.str "1970-01-02T00:00:00", .str "1970-01-01T00:00:00"])], 2)
/-- the hypotheses hold: two rows given in reversed order, times 0 s and 86400 s -/
example : True := by
  have h : runMakeRelease (0 : Int) [exG3] none false false Gen.make_release_seq =
      some (some (["date"], [[.str "1970-01-01T00:00:00"], [.str "1970-01-02T00:00:00"]])) := by
    rw [Bridge.make_release_seq _ _ _ _ _ (List.cons_ne_nil _ _)]; decide +kernel
  have := c02_rows_sorted_by_time (0 : Int) [exG3] none false false _ _ h
    (fun r => if dateKey ["date"] r = "1970-01-01T00:00:00" then 0 else 86400)
    (by intro r hr
        simp only [List.mem_cons, List.not_mem_nil, or_false] at hr
        rcases hr with rfl | rfl <;> decide)
  trivial

end C02Rows

/-! # C04 — `get_attr` / `get_distribution`

`Seq.getAttrSeq byName spec num draws` runs `Gen.get_attr_seq` on the value `Val.ofSpec byName spec` (`byName`: a
callable is given by its dotted name and resolved by the four `importlib` statements) and, at
`v = get_distribution(v, num)`, `Gen.get_distribution_seq`.  `draws` are the standard draws of the random generator, one
per particle (`u ∈ [0, 1)` for `uniform` / `rand`, a standard normal `z`, a standard exponential `e ≥ 0`): "all seeds" is
"all lists of draws".  Values live in an arbitrary linear ordered field. -/
section C04
variable {α : Type} [Field α] [LinearOrder α] [IsStrictOrderedRing α]

/-- **constant attributes are repeated** for every particle -/
theorem c04_constant_repeated (byName : Bool) (v : α) (num : Nat) (draws : List α) :
    getAttrSeq byName (.const v) num draws = some (some (List.replicate num v)) := by
  obtain ⟨cv, _, h⟩ := Bridge.get_attr_seq (α := α)
  rw [h]; rfl

/-- **explicit lists are reproduced verbatim in particle order**: a list of length `num` is returned as given (also a
list of two values for two particles, which the code tells from a range by `num != 2`) -/
theorem c04_list_verbatim (byName : Bool) (vs : List α) (num : Nat) (draws : List α) (hlen : vs.length = num) :
    getAttrSeq byName (.list vs) num draws = some (some vs) := by
  obtain ⟨cv, _, h⟩ := Bridge.get_attr_seq (α := α)
  rw [h, C04.list_verbatim cv vs num draws (by omega)]
/-- the hypothesis holds: two values for two particles -/
example := c04_list_verbatim (α := ℚ) false [3, 4] 2 [] rfl

/-- **callables or dotted function names receive the particle count**: `out` is what the function returns for `num`;
it is the result, whether the function is given as a callable (`byName = false`) or by its dotted name -/
theorem c04_callable_result (byName : Bool) (out : List α) (num : Nat) (draws : List α) :
    getAttrSeq byName (.callable out) num draws = some (some out) := by
  obtain ⟨cv, _, h⟩ := Bridge.get_attr_seq (α := α)
  rw [h]; rfl

/-- the forms that turn the first `num` draws into values one by one (`g`): `num` values, each with every property that
`g` gives to every draw -/
private theorem attr_of_draws {byName : Bool} {sp : Spec α} {num : Nat} {draws : List α} (g : α → α)
    (h : getAttrSeq byName sp num draws = some (some ((draws.take num).map g))) (hd : num ≤ draws.length)
    {P : α → Prop} (hP : ∀ u ∈ draws, P (g u)) :
    ∃ vs, getAttrSeq byName sp num draws = some (some vs) ∧ vs.length = num ∧ ∀ v ∈ vs, P v := by
  refine ⟨_, h, by simp [hd], fun v hv => ?_⟩
  obtain ⟨u, hu, rfl⟩ := List.mem_map.mp hv
  exact hP u (List.mem_of_mem_take hu)

/-- **two-element ranges yield values inside the range**: `num` values, each in `[lo, hi]` (in `[lo, hi)` when
`lo < hi`), for all uniform draws in `[0, 1)`.  Side condition of the CODE (not of a bridge): `num ≠ 2` — for two
particles the code takes `[lo, hi]` for the explicit list of the two values (`c04_list_verbatim`). -/
theorem c04_range_inside (byName : Bool) (lo hi : α) (num : Nat) (draws : List α) (hn : num ≠ 2) (h : lo ≤ hi)
    (hd : num ≤ draws.length) (hu : ∀ u ∈ draws, 0 ≤ u ∧ u < 1) :
    ∃ vs, getAttrSeq byName (.list [lo, hi]) num draws = some (some vs) ∧ vs.length = num ∧
      ∀ v ∈ vs, lo ≤ v ∧ v ≤ hi ∧ (lo < hi → v < hi) := by
  obtain ⟨cv, _, hb⟩ := Bridge.get_attr_seq (α := α)
  obtain ⟨vs, hvs, -, rfl⟩ := C04.range_values cv lo hi num draws hn hd
  exact attr_of_draws _ (by rw [hb, hvs]; rfl) hd fun u hu' => C04.range_in_range lo hi u h (hu u hu').1 (hu u hu').2
/-- the hypotheses hold: `[0, 10]`, three particles -/
example := c04_range_inside (α := ℚ) false 0 10 3 [0, 1/2, 9/10] (by decide) (by norm_num) (by decide)
  (by intro u hu; simp only [List.mem_cons, List.not_mem_nil, or_false] at hu; rcases hu with rfl | rfl | rfl <;> norm_num)
/-- … and the values are 0, 5, 9 -/
example : getAttrSeq (α := ℚ) false (.list [0, 10]) 3 [0, 1/2, 9/10] = some (some [0, 5, 9]) := by
  obtain ⟨cv, _, h⟩ := Bridge.get_attr_seq (α := ℚ)
  rw [h]; simp [getAttr, rangeValue]; norm_num

/-- **exponential values are non-negative and do not exceed `max`** (with or without `max`), `num` of them, for all
standard exponential draws `e ≥ 0`.  Side conditions of a valid configuration: `mean ≥ 0` (numpy rejects a negative
scale), `max ≥ 0` when given. -/
theorem c04_exponential_bounds (byName : Bool) (mean : α) (mx : Option α) (num : Nat) (draws : List α)
    (hm : 0 ≤ mean) (hmx : ∀ b, mx = some b → 0 ≤ b) (hd : num ≤ draws.length) (he : ∀ e ∈ draws, 0 ≤ e) :
    ∃ vs, getAttrSeq byName (.exponential mean mx) num draws = some (some vs) ∧ vs.length = num ∧
      ∀ v ∈ vs, 0 ≤ v ∧ ∀ b, mx = some b → v ≤ b := by
  obtain ⟨cv, _, hb⟩ := Bridge.get_attr_seq (α := α)
  exact attr_of_draws (exponentialValue mean mx) (by rw [hb]; rfl) hd fun e he' =>
    C04.exponential_bounds mean e mx hm (he e he') hmx
/-- the hypotheses hold: mean 10, max 25, draws 0, 1, 3 -/
example := c04_exponential_bounds (α := ℚ) true 10 (some 25) 3 [0, 1, 3] (by norm_num)
  (by rintro _ ⟨⟩; norm_num) (by decide)
  (by intro u hu; simp only [List.mem_cons, List.not_mem_nil, or_false] at hu; rcases hu with rfl | rfl | rfl <;> norm_num)

/-- **gaussian values do not exceed `max`** — on the CURRENT text (known finding F-C04a: the source has
`np.clip(minimum, maximum, r)`, which does not enforce `min`) and on the repaired text alike: `num` values, each `≤ max`,
for all normal draws.  Side condition: `min ≤ max` when both are given. -/
theorem c04_gaussian_upper (byName : Bool) (mean std : α) (mn : Option α) (b : α) (num : Nat) (draws : List α)
    (hmm : ∀ a, mn = some a → a ≤ b) (hd : num ≤ draws.length) :
    ∃ vs, getAttrSeq byName (.gaussian mean std mn (some b)) num draws = some (some vs) ∧ vs.length = num ∧
      ∀ v ∈ vs, v ≤ b := by
  obtain ⟨cv, _, hb⟩ := Bridge.get_attr_seq (α := α)
  refine attr_of_draws (gaussianValue cv mean std mn (some b)) (by rw [hb]; rfl) hd fun z _ => ?_
  cases cv with
  | correct => exact (C04.gaussian_bounds mean std z mn (some b) (by intro a b' ha hb'; cases hb'; exact hmm a ha)).2 b rfl
  | swapped =>
    cases mn with
    | none => simp only [gaussianValue, fmin_eq_min]; exact min_le_left _ _
    | some a => exact (C04.gaussian_bounds_partial mean std z a b (hmm a rfl)).1
/-- the hypotheses hold: mean 5, std 1, min 4, max 6 -/
example := c04_gaussian_upper (α := ℚ) false 5 1 (some 4) 6 2 [-227/100, 3] (by rintro _ ⟨⟩; norm_num) (by decide)

/-- **gaussian values stay within `min` and `max`** — the full clause, for the REPAIRED text
`np.clip(r, minimum, maximum)`: the hypothesis `hclip` says that this is what `Gen.get_distribution_seq` shows.  On the
current text `hclip` is false (`Seq.clipSeen Gen.get_distribution_seq = some .swapped`, F-C04a) and the lower bound does
fail (`c04_gaussian_lower_fails_when_swapped`); no instance of `hclip` can be given until the source is repaired. -/
theorem c04_gaussian_bounds_repaired (hclip : Seq.clipSeen Gen.get_distribution_seq = some .correct)
    (byName : Bool) (mean std : α) (mn mx : Option α) (num : Nat) (draws : List α)
    (hmm : ∀ a b, mn = some a → mx = some b → a ≤ b) (hd : num ≤ draws.length) :
    ∃ vs, getAttrSeq byName (.gaussian mean std mn mx) num draws = some (some vs) ∧ vs.length = num ∧
      ∀ v ∈ vs, (∀ a, mn = some a → a ≤ v) ∧ (∀ b, mx = some b → v ≤ b) := by
  have hb := Bridge.get_attr_seq_of (α := α) .correct hclip
  exact attr_of_draws (gaussianValue .correct mean std mn mx) (by rw [hb]; rfl) hd fun z _ =>
    C04.gaussian_bounds mean std z mn mx hmm

/-- the lower bound is NOT enforced by the text `np.clip(minimum, maximum, r)`: mean 5, std 1, min 4, max 6 and the
normal draw −2.27 give 2.73 < 4 -/
theorem c04_gaussian_lower_fails_when_swapped (hclip : Seq.clipSeen Gen.get_distribution_seq = some .swapped)
    (byName : Bool) :
    getAttrSeq byName (.gaussian (5 : ℚ) 1 (some 4) (some 6)) 1 [-227 / 100] = some (some [273 / 100]) := by
  rw [Bridge.get_attr_seq_of (α := ℚ) .swapped hclip]
  simp only [getAttr]
  unfold gaussianValue fmin fmax
  norm_num
/-- the generated text shows one of the two argument orders: one of `c04_gaussian_bounds_repaired` and
`c04_gaussian_lower_fails_when_swapped` applies (on the current text the second) -/
example : Seq.clipSeen Gen.get_distribution_seq = some .swapped ∨ Seq.clipSeen Gen.get_distribution_seq = some .correct := by
  obtain ⟨cv, h⟩ := Bridge.clip_seen
  cases cv
  · exact Or.inl h
  · exact Or.inr h

/-- **a gaussian with only its required keys** (`mean`, `std`) is accepted: the values are `mean + std · z`, whatever
the argument order of the clip -/
theorem c04_gaussian_required_keys (byName : Bool) (mean std : α) (num : Nat) (draws : List α) :
    getAttrSeq byName (.gaussian mean std none none) num draws =
      some (some ((draws.take num).map (fun z => mean + std * z))) := by
  obtain ⟨cv, _, hb⟩ := Bridge.get_attr_seq (α := α)
  rw [hb]
  simp only [getAttr]
  congr 2
  apply List.map_congr_left
  intro z _
  exact C04.gaussian_unbounded cv mean std z

/-- `get_attr` on a piecewise form with at least one knot and one probability: it does not raise -/
private theorem getAttr_piecewise (cv : ClipArgs) (k0 c0 : α) (ks cs : List α) (num : Nat) (draws : List α) :
    getAttr cv (.piecewise (k0 :: ks) (c0 :: cs)) num draws =
      some ((draws.take num).map (fun u => if u < c0 then k0 else interpGo u c0 k0 cs ks)) := by
  simp only [getAttr]
  rw [show piecewiseValue (k0 :: ks) (c0 :: cs) = fun u => some (if u < c0 then k0 else interpGo u c0 k0 cs ks) from rfl,
    Bridge.mapM_some_map]

/-- no element of a strictly increasing list is below its head -/
private theorem not_lt_head {x0 x : α} {xs : List α} (hp : List.Pairwise (· < ·) (x0 :: xs)) (hx : x ∈ x0 :: xs) :
    ¬ x < x0 := by
  rcases List.mem_cons.mp hx with rfl | hm
  · exact lt_irrefl _
  · exact not_lt.mpr ((List.pairwise_cons.mp hp).1 x hm).le

/-- **piecewise values stay within the knot range**: `num` values, each between the first knot and every upper bound
`M` of the knots (so: at most the largest knot), for all draws.  Side conditions of a valid specification: the
cumulative probabilities increase strictly, the knots do not decrease (both non-empty). -/
theorem c04_piecewise_range (byName : Bool) (k0 c0 : α) (ks cs : List α) (num : Nat) (draws : List α)
    (hc : List.Pairwise (· < ·) (c0 :: cs)) (hk : List.Pairwise (· ≤ ·) (k0 :: ks)) (hd : num ≤ draws.length) :
    ∃ vs, getAttrSeq byName (.piecewise (k0 :: ks) (c0 :: cs)) num draws = some (some vs) ∧ vs.length = num ∧
      ∀ v ∈ vs, k0 ≤ v ∧ ∀ M, (∀ y ∈ k0 :: ks, y ≤ M) → v ≤ M := by
  obtain ⟨cv, _, hb⟩ := Bridge.get_attr_seq (α := α)
  refine attr_of_draws _ (by rw [hb, getAttr_piecewise]) hd fun u _ => ?_
  refine ⟨?_, fun M hM => (C04.piecewise_range k0 c0 ks cs u _ M hc hk hM rfl).2⟩
  split_ifs with hlt
  · exact le_refl _
  · exact InterpLemmas.interpGo_ge cs ks c0 k0 u hc hk (not_lt.mp hlt)
/-- the hypotheses hold: knots 0, 10, 20 at the probabilities 0, 1/2, 1 -/
example := c04_piecewise_range (α := ℚ) false 0 0 [10, 20] [1/2, 1] 2 [1/4, 3/4] (by norm_num) (by norm_num) (by decide)

/-- the interpolant passes through every knot: at the `j`-th abscissa its value is the `j`-th ordinate -/
private theorem interpGo_at_knot (xs : List α) : ∀ (ys : List α) (x0 y0 : α) (j : Nat) (x y : α),
    List.Pairwise (· < ·) (x0 :: xs) → (x0 :: xs)[j]? = some x → (y0 :: ys)[j]? = some y →
    interpGo x x0 y0 xs ys = y := by
  induction xs with
  | nil =>
    intro ys x0 y0 j x y _ hx hy
    cases j with
    | zero => cases hx; cases hy; rfl
    | succ j => cases hx
  | cons x1 xs ih =>
    intro ys x0 y0 j x y hp hx hy
    rw [List.pairwise_cons] at hp
    cases ys with
    | nil =>
      cases j with
      | zero => cases hx; cases hy; rfl
      | succ j => cases hy
    | cons y1 ys =>
      cases j with
      | zero =>
        cases hx; cases hy
        rw [interpGo, if_pos (hp.1 x1 List.mem_cons_self), sub_self, mul_zero, zero_add]
      | succ j =>
        rw [List.getElem?_cons_succ] at hx hy
        rw [interpGo, if_neg (not_lt_head hp.2 (List.mem_of_getElem? hx))]
        exact ih ys x1 y1 j x y hp.2 hx hy

/-- **piecewise values follow the given cumulative probabilities**: for every particle, the value is at most the `j`-th
knot whenever the uniform draw is at most the `j`-th cumulative probability, and at least that knot whenever the draw is
at least that probability (the interpolant is non-decreasing and passes through every (cdf, knot) pair) — so
`P(value ≤ knot_j) ≥ cdf_j`, with equality when the knots increase strictly.  Side conditions as in
`c04_piecewise_range`, and as many knots as probabilities. -/
theorem c04_piecewise_follows_cdf (byName : Bool) (k0 c0 : α) (ks cs : List α) (num : Nat) (draws : List α)
    (hlen : ks.length = cs.length)
    (hc : List.Pairwise (· < ·) (c0 :: cs)) (hk : List.Pairwise (· ≤ ·) (k0 :: ks)) :
    ∃ vs, getAttrSeq byName (.piecewise (k0 :: ks) (c0 :: cs)) num draws = some (some vs) ∧
      ∀ (i : Nat) (u v : α), i < num → draws[i]? = some u → vs[i]? = some v →
        ∀ (j : Nat) (c k : α), (c0 :: cs)[j]? = some c → (k0 :: ks)[j]? = some k → (u ≤ c → v ≤ k) ∧ (c ≤ u → k ≤ v) := by
  obtain ⟨cv, _, hb⟩ := Bridge.get_attr_seq (α := α)
  refine ⟨_, by rw [hb, getAttr_piecewise], ?_⟩
  intro i u v hi hu hv j c k hcj hkj
  obtain rfl : (if u < c0 then k0 else interpGo u c0 k0 cs ks) = v := by
    simpa [List.getElem?_map, List.getElem?_take, hi, hu] using hv
  -- the value at the knot
  have hknot : piecewiseValue (k0 :: ks) (c0 :: cs) c = some k := by
    show some (if c < c0 then k0 else interpGo c c0 k0 cs ks) = some k
    rw [if_neg (not_lt_head hc (List.mem_of_getElem? hcj)), interpGo_at_knot cs ks c0 k0 j c k hc hcj hkj]
  exact ⟨fun h => C04.piecewise_monotone (k0 :: ks) (c0 :: cs) u c _ k hc hk h rfl hknot,
    fun h => C04.piecewise_monotone (k0 :: ks) (c0 :: cs) c u k _ hc hk h hknot rfl⟩
/-- the hypotheses hold for the same specification -/
example := c04_piecewise_follows_cdf (α := ℚ) false 0 0 [10, 20] [1/2, 1] 2 [1/4, 3/4] rfl (by norm_num) (by norm_num)

/-- **every documented form is accepted for every particle count**: for a scalar, a list of length `num`, a range
`[low, high]`, a gaussian with or without `min` / `max`, an exponential with or without `max`, a piecewise form with at
least one knot and one probability, a callable and a dotted name (returning `num` values), `get_attr` returns — it
does not raise — exactly `num` values, for every `num` and all draws.  (On the repaired and on the current text.) -/
theorem c04_every_form_accepted (byName : Bool) (sp : Spec α) (num : Nat) (draws : List α)
    (hd : draws.length = num)
    (hl : ∀ l, sp = .list l → l.length = num) (hcall : ∀ o, sp = .callable o → o.length = num)
    (hpw : ∀ k c, sp = .piecewise k c → k ≠ [] ∧ c ≠ []) :
    ∃ vs, getAttrSeq byName sp num draws = some (some vs) ∧ vs.length = num := by
  obtain ⟨cv, _, hb⟩ := Bridge.get_attr_seq (α := α)
  have hsome : ∃ vs, getAttr cv sp num draws = some vs := by
    cases sp with
    | list l =>
      match l with
      | [] | [_] | _ :: _ :: _ :: _ => exact ⟨_, rfl⟩
      | [a, b] => by_cases h2 : num = 2 <;> simp [getAttr, h2]
    | piecewise k c =>
      obtain ⟨hk, hc⟩ := hpw k c rfl
      match k, c, hk, hc with
      | k0 :: ks, c0 :: cs, _, _ => exact ⟨_, getAttr_piecewise cv k0 c0 ks cs num draws⟩
    | _ => exact ⟨_, rfl⟩
  obtain ⟨vs, hvs⟩ := hsome
  exact ⟨vs, by rw [hb, hvs], C04.generators_length cv sp num draws vs hd hl hcall hvs⟩
/-- the hypotheses hold: a gaussian with only `mean` and `std`, two particles -/
example := c04_every_form_accepted (α := ℚ) true (.gaussian 5 1 none none) 2 [0, 1] rfl
  (fun _ h => by cases h) (fun _ h => by cases h) (fun _ _ h => by cases h)

end C04
end OnCode
