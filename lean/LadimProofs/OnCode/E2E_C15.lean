import LadimProofs.C15
import LadimProofs.Bridge.Grid
import LadimProofs.OnCode.C15
import LadimProofs.Bridge.SampleSeq
import LadimProofs.Bridge.GridCtorSeq
import Mathlib.Data.Rat.Floor
/-!
# C15 — end to end: the clauses of the property, stated about the interpretation of the current source

Property C15 — Grid sampling: exact at nodes, bounded by neighbours, total at the domain edge

STATEMENT: Bilinear bathymetry sampling returns the grid depth at grid nodes and a value between the four surrounding depths elsewhere; the vertical level search returns a layer that brackets the particle depth with a weight in [0,1] that reproduces the depth, and sampled 3-D fields are convex combinations of the surrounding grid values. Vertical diffusivity is read at the nearest interior w-level of the particle's cell and is never negative, horizontal diffusivity is non-negative and zero on land, and grid to lon/lat conversions are mutual inverses inside the grid and clamp outside it. Every grid or forcing query that the tracker or an IBM can issue for a position inside the grid, or up to one time step of motion outside it on any side, returns the value of the nearest edge cell instead of failing or wrapping around to the opposite side, so that a particle leaving through an open boundary is retired by LADiM instead of aborting the run.

QUANTIFIER: all positions inside the (sub)grid and within one cell outside each of its four edges, all depths from above the surface to below the bed, all bathymetries and stretchings, all field values; all end-to-end runs in which particles drift out through the north, south, east or west boundary

Every main theorem below has the interpretation of a generated statement sequence in its statement
(`z2sSeq` = `runRet … Gen.chem_z2s_seq`, `sample3DSeq` = `… Gen.chem_sample3D_seq`, `clampIndexSeq`, `velocitySeq`,
`wvelSeq`, `fieldSeq`, `vertdiffSeq`, `horzdiffSeq`, `sampleDepthSeq`, `atseaSeq`, `sampleMetricSeq`, `ingridSeq`,
`xy2llSeq`, `gcLl2xySeq`, `gcLonlatSeq`, `gcOnlandSeq`, `gcVertMixSeq`, `sedSampleDepthSeq`, `sedXy2llSeq`, `gridCtor` =
`Loops.run … Gen.chem_grid_ctor_seq`; `Gen.vertdiff_value`, `Gen.horzdiff_smag` are generated formulas) — what the current
text of `chemicals/gridforce.py`, `sedimentation/gridforce.py`, `salmon_lice/gridforce.py` does —, with the bridges
(`LadimProofs/Bridge/SampleSeq.lean`, `GridCtorSeq.lean`, `Grid.lean`) and the model theorems (`LadimProofs/C15.lean`)
as lemmas.  Scalars: an arbitrary linear ordered field `α` with the three conversions `round`, `trunc`, `ofInt`
(no law assumed unless `C15Laws` is a hypothesis).

How the clauses are stated.

* "Reads inside the stored arrays (no `IndexError`, no wrap-around of a negative index)": an array is its shape and a
  *total* read function (`Arr3`, `Arr2`); what numpy does with an index outside the shape is whatever that function
  returns there.  `c15Same3 F G` says that `F` and `G` have one shape and agree inside it; the `…_reads_inside` theorems
  say that the interpreted function returns the same on `F` and on `G` — e.g. on `c15Poison F bad`, where every read
  outside the shape gives `bad`.  The `…_between` theorems bound the result by the entries *inside* the shape only, the
  `…_cell_value` theorems exhibit the one index that is read and show it is inside the shape.
* "Up to one cell outside each edge": all theorems hold for *every* position (any distance outside), which is
  stronger.  "The value of the nearest edge cell": `c15_clamp_index_total`, `c15_cellIndex_position`, `c15_sample3D_edge`,
  `c15_sample3D_nearest_cell`, `c15_ctor_queries_nearest_edge`, `c15_sed_sample_depth_edge`, `c15_xy2ll_clamps`.
* Library calls are parameters of the interpretation: `scipy.ndimage.map_coordinates(…, order=1, mode='nearest')`
  (the theorems use its reference meaning `SampleSeq.mapNearestRef`), `np.nextafter(·, 0)`, `ladim.sample.sample2D`,
  `ladim.sample.bilin_inv`, the parent's `xy2ll`, `s_stretch` / `sdepth` (`GcEnv`).

Hypotheses forced by bridges (repeated at the theorems): `2 ≤ kmax` (`Bridge.chem_z2s_level_range`, `chem_z2s_model`: for
one level the code reads `z_rho[-1]`); `3 ≤ kmax_w` (`Bridge.chem_forcing_velocity_level_range`); two rows and columns
(`Bridge.chem_sample3D_corner_range`, `chem_forcing_horzdiff_stencil_range`); `Bridge.GcValid` and equal shapes of the file
variables (`Bridge.chem_grid_ctor_arrays`); `Bridge.GcRoundLaw` (`Bridge.chem_grid_ingrid_sample_depth`; obtained from `C15Laws`).

Not covered here: the end-to-end *runs* of the quantifier (LADiM retiring a particle that `ingrid` rejects is LADiM's
code, outside this package; `c15_ingrid_total` gives the part inside it), and the inverse property of LADiM's
`bilin_inv` / `sample2D` themselves (`…_inverse_partial`).
-/
open Ladim Ladim.Seq Ladim.SampleSeq Ladim.GridSample Ladim.GridCtorSeq

set_option linter.unusedSectionVars false
set_option linter.unusedVariables false
namespace OnCode

section defs
variable {α : Type}

/-- the index triple `(k, j, i)` is inside the stored array `F` (what numpy accepts without wrap-around) -/
def c15In3 (F : Arr3 α) (k j i : Int) : Prop :=
  (0 ≤ k ∧ k < (F.kmax : Int)) ∧ (0 ≤ j ∧ j < (F.jmax : Int)) ∧ (0 ≤ i ∧ i < (F.imax : Int))

/-- the index pair `(j, i)` is inside the stored array -/
def c15In2 (H : Arr2 α) (j i : Int) : Prop := (0 ≤ j ∧ j < (H.jmax : Int)) ∧ (0 ≤ i ∧ i < (H.imax : Int))

/-- two arrays of the same shape with the same entries *inside* the shape (outside it the reads may differ at will) -/
def c15Same3 (F G : Arr3 α) : Prop :=
  F.kmax = G.kmax ∧ F.jmax = G.jmax ∧ F.imax = G.imax ∧ ∀ k j i, c15In3 F k j i → F.get k j i = G.get k j i

/-- the array with every read *outside* its shape replaced by `bad` (what a negative index that wraps around, or an
`IndexError`, would be replaced by) -/
def c15Poison (F : Arr3 α) (bad : α) : Arr3 α :=
  { F with get := fun k j i =>
      if (0 ≤ k ∧ k < (F.kmax : Int)) ∧ (0 ≤ j ∧ j < (F.jmax : Int)) ∧ (0 ≤ i ∧ i < (F.imax : Int)) then F.get k j i
      else bad }

theorem c15_same3_poison (F : Arr3 α) (bad : α) : c15Same3 F (c15Poison F bad) :=
  ⟨rfl, rfl, rfl, fun _ _ _ h => (if_pos h).symm⟩

end defs

/-- what the theorems about *positions* (not about rounded cell indices) need of `float(n)`, `np.round`,
`.astype(int)`: `float` of an integer is the integer; `round` gives an integer within one half; `.astype(int)` of an
integer value is the integer, of a non-negative value its floor, of a non-positive value not positive (truncation
toward zero).  Satisfiable: `c15_laws_rat` (ℚ with round-half-up, truncation toward zero, the cast). -/
structure C15Laws (α : Type) [Field α] [LinearOrder α] [HasRound α] [HasTrunc α] [HasOfInt α] : Prop where
  ofInt_cast : ∀ n : Int, (ofInt n : α) = (n : α)
  round_near : ∀ x : α, ∃ k : Int, round x = (k : α) ∧ (k : α) - 1 / 2 ≤ x ∧ x ≤ (k : α) + 1 / 2
  trunc_cast : ∀ k : Int, trunc ((k : Int) : α) = k
  trunc_floor : ∀ x : α, 0 ≤ x → ((trunc x : Int) : α) ≤ x ∧ x < ((trunc x : Int) : α) + 1
  trunc_neg : ∀ x : α, x ≤ 0 → trunc x ≤ 0

/-! ## the concrete instance over `ℚ` used by the `example`s (non-vacuity of the hypotheses) -/

/-- round half up, truncation toward zero, the cast -/
local instance e2eC15_HasRoundRat : HasRound ℚ := ⟨fun x => ((⌊x + 1 / 2⌋ : ℤ) : ℚ)⟩
local instance e2eC15_HasTruncRat : HasTrunc ℚ := ⟨fun x => if 0 ≤ x then ⌊x⌋ else ⌈x⌉⟩
local instance e2eC15_HasOfIntRat : HasOfInt ℚ := ⟨fun n => (n : ℚ)⟩

/-- the laws of the conversions are satisfiable -/
theorem c15_laws_rat : C15Laws ℚ where
  ofInt_cast := fun _ => rfl
  round_near := fun x => ⟨⌊x + 1 / 2⌋, rfl, by have := Int.floor_le (x + 1 / 2); linarith,
    by have := Int.lt_floor_add_one (x + 1 / 2); linarith⟩
  trunc_cast := fun k => by simp [HasTrunc.trunc]
  trunc_floor := fun x hx => by
    simp only [HasTrunc.trunc, if_pos hx]
    exact ⟨Int.floor_le x, Int.lt_floor_add_one x⟩
  trunc_neg := fun x hx => by
    simp only [HasTrunc.trunc]
    split
    · exact Int.floor_nonpos hx
    · exact Int.ceil_le.mpr (by simpa using hx)

/-- rho-levels at −25, −15, −5 m in every column of a 2 × 2 grid -/
def c15x_Zr : Arr3 ℚ := ⟨3, 2, 2, fun k _ _ => 10 * (k : ℚ) - 25⟩

/-- w-levels at −30, −20, −10, 0 m -/
def c15x_Zw : Arr3 ℚ := ⟨4, 2, 2, fun k _ _ => 10 * (k : ℚ) - 30⟩

/-- a field with three levels on the 2 × 2 grid: values 0 … 4 inside -/
def c15x_F : Arr3 ℚ := ⟨3, 2, 2, fun k j i => (k : ℚ) + (j : ℚ) + (i : ℚ)⟩

def c15x_H : Arr2 ℚ := ⟨2, 2, fun j i => 30 + (j : ℚ) + (i : ℚ)⟩

def c15x_One : Arr2 ℚ := ⟨2, 2, fun _ _ => 1⟩

def c15x_Dx : Arr2 ℚ := ⟨2, 2, fun _ _ => 800⟩

def c15x_G : GridEnv ℚ :=
  { i0 := 1, j0 := 1, z_w := c15x_Zw, z_r := c15x_Zr, H := c15x_H, M := c15x_One, dx := c15x_Dx, lon := c15x_H, lat := c15x_H, nCsw := 4,
    xmin := 1, xmax := 2, ymin := 1, ymax := 2 }

def c15x_Attr : String → Arr3 ℚ := fun _ => c15x_F

theorem c15x_Zr_mono (j i : Int) : ∀ a b : Nat, a < b → b < c15x_Zr.kmax → c15x_Zr.get (a : Int) j i < c15x_Zr.get (b : Int) j i := by
  intro a b hab _
  show 10 * (((a : Int) : ℚ)) - 25 < 10 * (((b : Int) : ℚ)) - 25
  have : (a : ℚ) < (b : ℚ) := by exact_mod_cast hab
  push_cast; linarith

/-- the entries `k + j + i` of the example fields, inside a shape `(n, 2, 2)` -/
theorem c15x_sum_bounds (n k j i : Int) (hk : 0 ≤ k ∧ k < n) (hj : 0 ≤ j ∧ j < 2) (hi : 0 ≤ i ∧ i < 2) :
    (0 : ℚ) ≤ (k : ℚ) + (j : ℚ) + (i : ℚ) ∧ (k : ℚ) + (j : ℚ) + (i : ℚ) ≤ (n : ℚ) + 1 :=
  ⟨by exact_mod_cast (by omega : 0 ≤ k + j + i), by exact_mod_cast (by omega : k + j + i ≤ n + 1)⟩

theorem c15x_F_bounds : ∀ k j i, c15In3 c15x_F k j i → (0 : ℚ) ≤ c15x_F.get k j i ∧ c15x_F.get k j i ≤ 4 := by
  intro k j i h
  have := c15x_sum_bounds 3 k j i h.1 h.2.1 h.2.2
  norm_num at this
  exact this

/-- `np.nextafter(v, 0)` as "a little less" -/
def c15x_Next : ℚ → ℚ := fun v => v - 1 / 1000

/-- a (bi)linear `sample2D` on the first cell and its inverse, for `lon[j, i] = i`, `lat[j, i] = j` -/
def c15x_Sample : Arr2 ℚ → ℚ → ℚ → ℚ := fun A x y => A.get 0 0 + (A.get 0 1 - A.get 0 0) * x + (A.get 1 0 - A.get 0 0) * y

def c15x_Inv : ℚ → ℚ → Arr2 ℚ → Arr2 ℚ → ℚ × ℚ := fun lon lat _ _ => (lat, lon)

def c15x_LL : GridEnv ℚ := { c15x_G with lon := ⟨2, 2, fun _ i => (i : ℚ)⟩, lat := ⟨2, 2, fun j _ => (j : ℚ)⟩ }

/-- a grid file with 5 × 6 cells, no `subgrid`, no `Vinfo` -/
def c15x_File : GcFile ℚ :=
  { h := ⟨5, 6, fun j i => 30 + (j : ℚ) + (i : ℚ)⟩, mask_rho := ⟨5, 6, fun _ _ => 1⟩, pm := ⟨5, 6, fun _ _ => 1 / 800⟩,
    pn := ⟨5, 6, fun _ _ => 1 / 800⟩, lon_rho := ⟨5, 6, fun _ i => (i : ℚ)⟩, lat_rho := ⟨5, 6, fun j _ => (j : ℚ)⟩,
    angle := ⟨5, 6, fun _ _ => 0⟩, hc := some 10, Cs_r := some [-8 / 10, -5 / 10, -2 / 10],
    Cs_w := some [-1, -6 / 10, -3 / 10, 0], Vtransform := some 2 }

def c15x_E : GcEnv ℚ :=
  { sStretch := fun _ _ _ _ _ => [],
    sdepth := fun H _ C _ _ => ⟨C.length, H.jmax, H.imax, fun k j i => (C.getD k.toNat 0) * H.get j i⟩ }

def c15x_Cfg : GcConfig ℚ :=
  { gridFile := some ⟨"grid.nc", false, some c15x_File⟩, inputFile := none, subgrid := none, vinfo := none }

def c15x_Lim : Int × Int × Int × Int := (1, (c15x_File.h.imax : Int) - 1, 1, (c15x_File.h.jmax : Int) - 1)

theorem c15x_Valid : Bridge.GcValid c15x_File c15x_Lim := by
  unfold Bridge.GcValid c15x_Lim c15x_File
  simp

/-- the constructor returns a grid for this configuration: the hypothesis of the two theorems about `Grid(config)` -/
theorem c15x_Ctor : ∃ g : GcGrid ℚ, gridCtor c15x_E c15x_Cfg = some (some g) := by
  obtain ⟨masks, hm⟩ := Option.isSome_iff_exists.mp
    (Bridge.chem_grid_ctor_masks_valid c15x_File c15x_Lim c15x_Valid (by unfold c15x_Lim c15x_File; simp) ⟨rfl, rfl⟩)
  exact ⟨_, (Bridge.chem_grid_ctor_some c15x_E c15x_Cfg _).mpr ⟨_, c15x_File, c15x_Lim, _, masks, rfl, rfl, rfl, rfl, hm, rfl⟩⟩

/-- a field with four levels (the w-levels) -/
def c15x_F4 : Arr3 ℚ := ⟨4, 2, 2, fun k j i => (k : ℚ) + (j : ℚ) + (i : ℚ)⟩
def c15x_AttrW : String → Arr3 ℚ := fun _ => c15x_F4

theorem c15x_F4_bounds : ∀ k j i, c15In3 c15x_F4 k j i → (0 : ℚ) ≤ c15x_F4.get k j i ∧ c15x_F4.get k j i ≤ 5 := by
  intro k j i h
  have := c15x_sum_bounds 4 k j i h.1 h.2.1 h.2.2
  norm_num at this
  exact this

section field
variable {α : Type} [Field α] [LinearOrder α] [IsStrictOrderedRing α] [HasRound α] [HasTrunc α] [HasOfInt α]

/-! ## helpers: clipping, clamping, the column of `z2s` -/

/-- `np.clip(x, lo, hi)`: inside `[lo, hi]`; the identity there, the nearer bound outside -/
theorem c15_clip (x lo hi : α) (h : lo ≤ hi) :
    (lo ≤ fmin (fmax x lo) hi ∧ fmin (fmax x lo) hi ≤ hi) ∧ (lo ≤ x → x ≤ hi → fmin (fmax x lo) hi = x) ∧
    (x ≤ lo → fmin (fmax x lo) hi = lo) ∧ (hi ≤ x → fmin (fmax x lo) hi = hi) := by
  refine ⟨clip_mem x h, ?_⟩
  rw [fmax_eq_max, fmin_eq_min]
  exact ⟨fun a b => by rw [max_eq_left a, min_eq_left b], fun a => by rw [max_eq_right a, min_eq_left h],
    fun a => min_eq_right (a.trans (le_max_left _ _))⟩

/-- `np.clip(a, 0.0, 1.0)`: `c15_clip` with the literals of the source -/
theorem c15_clip01_eq (a : α) : (0 ≤ a → a ≤ 1 → fmin (fmax a 0.0) 1.0 = a) ∧ (a ≤ 0 → fmin (fmax a 0.0) 1.0 = 0) ∧
    (1 ≤ a → fmin (fmax a 0.0) 1.0 = 1) := by
  rw [lit_0, lit_1]
  exact (c15_clip a 0 1 zero_le_one).2

/-- a level of the array and a clamped row and column are inside its shape -/
theorem c15_clamped_inside (F : Arr3 α) (k r s : Int) (hk : 0 ≤ k ∧ k < (F.kmax : Int)) (hj : 1 ≤ F.jmax)
    (hi : 1 ≤ F.imax) : c15In3 F k (clampIdx F.jmax r) (clampIdx F.imax s) :=
  ⟨hk, C15.clampIdx_range _ _ hj, C15.clampIdx_range _ _ hi⟩

theorem c15_col_getElem (zr : Arr3 α) (j i : Int) (k : Nat) (h : k < (zr.col j i).length) :
    (zr.col j i)[k] = zr.get (k : Int) j i := by
  simp [Arr3.col]

theorem c15_col_pairwise (zr : Arr3 α) (j i : Int)
    (h : ∀ a b : Nat, a < b → b < zr.kmax → zr.get (a : Int) j i < zr.get (b : Int) j i) :
    List.Pairwise (· < ·) (zr.col j i) := by
  unfold Arr3.col
  rw [List.pairwise_map]
  refine List.Pairwise.imp_of_mem ?_ (List.pairwise_lt_range (n := zr.kmax))
  intro a b ha hb hab
  exact h a b hab (List.mem_range.mp hb)

/-- for a strictly increasing column the count `c` of levels below `-Z` separates the levels -/
theorem c15_count_sep (zr : Arr3 α) (j i : Int) (Z : α)
    (h : ∀ a b : Nat, a < b → b < zr.kmax → zr.get (a : Int) j i < zr.get (b : Int) j i) :
    ∃ c : Nat, countBelow (zr.col j i) Z = c ∧ c ≤ zr.kmax ∧
      (∀ k : Int, 0 ≤ k → k < c → zr.get k j i < -Z) ∧
      (∀ k : Int, (c : Int) ≤ k → k < zr.kmax → ¬ zr.get k j i < -Z) := by
  obtain ⟨h1, h2⟩ := C15.countBelow_brackets (zr.col j i) Z (c15_col_pairwise zr j i h)
  simp only [Bridge.ss_col_length, c15_col_getElem] at h1 h2
  have hle : countBelow (zr.col j i) Z ≤ zr.kmax :=
    (List.length_filter_le _ _).trans_eq (Bridge.ss_col_length zr j i)
  refine ⟨_, rfl, hle, fun k k0 kc => ?_, fun k kc kn => ?_⟩
  · have := h1 k.toNat (by omega) (by omega)
    rwa [Int.toNat_of_nonneg k0] at this
  · have := h2 k.toNat (by omega) (by omega)
    rwa [Int.toNat_of_nonneg (by omega)] at this

/-! ## `z2s` -/

/-- the row / column of the cell whose column `z2s` searches: rounded, then clamped to the array -/
abbrev c15Z2sJ (zr : Arr3 α) (Y : Coord α) : Int := clampIdx zr.jmax Y.around

abbrev c15Z2sI (zr : Arr3 α) (X : Coord α) : Int := clampIdx zr.imax X.around

/-- **`z2s`, range** (clause "the vertical level search returns a layer … with a weight in [0,1]").  The interpretation
of `Gen.chem_z2s_seq` returns a pair `(K, A)` with `1 ≤ K ≤ kmax − 1` (both `K` and `K − 1` are levels of the array)
and `0 ≤ A ≤ 1` — for every array read, every position (float or integer coordinates), every depth.
Hypothesis `2 ≤ kmax`: forced by `Bridge.chem_z2s_level_range` (for `kmax = 1` the code reads `z_rho[-1]`, for
`kmax = 0` it raises). -/
theorem c15_z2s_level_weight (zr : Arr3 α) (X Y : Coord α) (Z : α) (hk : 2 ≤ zr.kmax) :
    ∃ K A, z2sSeq zr X Y Z = some (some (K, A)) ∧ 1 ≤ K ∧ K ≤ (zr.kmax : Int) - 1 ∧ 0 ≤ A ∧ A ≤ 1 := by
  have r := Bridge.chem_z2s_level_range zr X Y Z hk
  exact ⟨(z2sSpec zr X Y Z).1, (z2sSpec zr X Y Z).2, Bridge.chem_z2s_spec zr X Y Z, r.1, r.2, Bridge.clip01 _⟩

example := c15_z2s_level_weight c15x_Zr (.real (3 / 10)) (.real (7 / 10)) 12 (by decide)

/-- the weight of `z2sSpec` in terms of its level -/
theorem c15_z2sSpec_weight (zr : Arr3 α) (X Y : Coord α) (Z : α) (K : Int) (hK : (z2sSpec zr X Y Z).1 = K) :
    (z2sSpec zr X Y Z).2 = fmin (fmax ((zr.get K (c15Z2sJ zr Y) (c15Z2sI zr X) + Z) /
      (zr.get K (c15Z2sJ zr Y) (c15Z2sI zr X) - zr.get (K - 1) (c15Z2sJ zr Y) (c15Z2sI zr X))) 0.0) 1.0 := by
  subst hK
  rfl

/-- the level `K` that `z2sSpec` takes in a strictly increasing column `z[:, j, i]`: level `K − 1` is below `-Z` when
the deepest level is, else `K = 1`; level `K` is not below `-Z` when the highest level is not, else `K = kmax − 1` -/
theorem c15_z2s_level (zr : Arr3 α) (j i : Int) (Z : α) (hk : 2 ≤ zr.kmax)
    (hmono : ∀ a b : Nat, a < b → b < zr.kmax → zr.get (a : Int) j i < zr.get (b : Int) j i) (K : Int)
    (hK : min (max ((countBelow (zr.col j i) Z : Nat) : Int) 1) ((zr.kmax : Int) - 1) = K) :
    (zr.get 0 j i < -Z → zr.get (K - 1) j i < -Z) ∧ (-Z ≤ zr.get 0 j i → K = 1) ∧
    (-Z ≤ zr.get ((zr.kmax : Int) - 1) j i → -Z ≤ zr.get K j i) ∧
    (zr.get ((zr.kmax : Int) - 1) j i < -Z → K = (zr.kmax : Int) - 1) := by
  obtain ⟨c, hc, hle, s1, s2⟩ := c15_count_sep zr j i Z hmono
  rw [hc] at hK
  subst hK
  refine ⟨fun hbed => ?_, fun hbed => ?_, fun hsurf => ?_, fun hsurf => ?_⟩
  · have c1 : 1 ≤ c := by
      by_contra hn
      exact s2 0 (by omega) (by omega) hbed
    exact s1 _ (by omega) (by omega)
  · have c0 : c = 0 := by
      by_contra hn
      exact absurd (s1 0 le_rfl (by omega)) (not_lt.mpr hbed)
    omega
  · have c2 : c ≤ zr.kmax - 1 := by
      by_contra hn
      exact absurd (s1 _ (by omega) (by omega)) (not_lt.mpr hsurf)
    exact not_lt.mp (s2 _ (by omega) (by omega))
  · have c3 : c = zr.kmax := by
      by_contra hn
      exact s2 _ (by omega) (by omega) hsurf
    omega

/-- **`z2s` inside the column** (clause "… returns a layer that brackets the particle depth with a weight in [0,1] that
reproduces the depth").  For a column `z_rho[:, J, I]` (`J, I` = the rounded, then clamped cell `c15Z2sJ`, `c15Z2sI`) that
increases strictly with the level index and a depth inside it (`z_rho[0] < −Z ≤ z_rho[kmax − 1]`), the interpretation
of `Gen.chem_z2s_seq` returns `(K, A)` with `z_rho[K − 1] < −Z ≤ z_rho[K]`, `0 ≤ A ≤ 1` and
`A · z_rho[K − 1] + (1 − A) · z_rho[K] = −Z`.
Hypotheses: `2 ≤ kmax` (bridge, as above); `hmono` = well-formed s-levels (a valid stretching on a positive depth);
`hbed`, `hsurf` = "inside the column" of the property text. -/
theorem c15_z2s_brackets (zr : Arr3 α) (X Y : Coord α) (Z : α) (hk : 2 ≤ zr.kmax)
    (hmono : ∀ a b : Nat, a < b → b < zr.kmax →
      zr.get (a : Int) (c15Z2sJ zr Y) (c15Z2sI zr X) < zr.get (b : Int) (c15Z2sJ zr Y) (c15Z2sI zr X))
    (hbed : zr.get 0 (c15Z2sJ zr Y) (c15Z2sI zr X) < -Z)
    (hsurf : -Z ≤ zr.get ((zr.kmax : Int) - 1) (c15Z2sJ zr Y) (c15Z2sI zr X)) :
    ∃ K A, z2sSeq zr X Y Z = some (some (K, A)) ∧ 1 ≤ K ∧ K ≤ (zr.kmax : Int) - 1 ∧
      zr.get (K - 1) (c15Z2sJ zr Y) (c15Z2sI zr X) < -Z ∧ -Z ≤ zr.get K (c15Z2sJ zr Y) (c15Z2sI zr X) ∧
      0 ≤ A ∧ A ≤ 1 ∧
      A * zr.get (K - 1) (c15Z2sJ zr Y) (c15Z2sI zr X) + (1 - A) * zr.get K (c15Z2sJ zr Y) (c15Z2sI zr X) = -Z := by
  obtain ⟨l1, _, l3, _⟩ := c15_z2s_level zr _ _ Z hk hmono (z2sSpec zr X Y Z).1 rfl
  have r := Bridge.chem_z2s_level_range zr X Y Z hk
  obtain ⟨a0, a1, ar⟩ := C15.z2s_reproduces_depth _ _ Z (l1 hbed) (l3 hsurf)
  refine ⟨(z2sSpec zr X Y Z).1, (z2sSpec zr X Y Z).2, Bridge.chem_z2s_spec zr X Y Z, r.1, r.2, l1 hbed, l3 hsurf, ?_⟩
  rw [c15_z2sSpec_weight zr X Y Z _ rfl, (c15_clip01_eq _).1 a0 a1]
  exact ⟨a0, a1, ar⟩

example := c15_z2s_brackets c15x_Zr (.real (3 / 10)) (.real (7 / 10)) 12 (by decide) (c15x_Zr_mono _ _)
  (by norm_num [c15x_Zr]) (by norm_num [c15x_Zr])

/-- **`z2s` outside the column** (quantifier "all depths from above the surface to below the bed").  At or below the
deepest level the result is `(1, 1)` (all the weight on level 0), above the highest level it is `(kmax − 1, 0)` (all the
weight on level `kmax − 1`): clamped, nothing is extrapolated.  Hypotheses as in `c15_z2s_brackets`. -/
theorem c15_z2s_clamped (zr : Arr3 α) (X Y : Coord α) (Z : α) (hk : 2 ≤ zr.kmax)
    (hmono : ∀ a b : Nat, a < b → b < zr.kmax →
      zr.get (a : Int) (c15Z2sJ zr Y) (c15Z2sI zr X) < zr.get (b : Int) (c15Z2sJ zr Y) (c15Z2sI zr X)) :
    (-Z ≤ zr.get 0 (c15Z2sJ zr Y) (c15Z2sI zr X) → z2sSeq zr X Y Z = some (some (1, 1))) ∧
    (zr.get ((zr.kmax : Int) - 1) (c15Z2sJ zr Y) (c15Z2sI zr X) < -Z →
      z2sSeq zr X Y Z = some (some ((zr.kmax : Int) - 1, 0))) := by
  obtain ⟨_, l2, _, l4⟩ := c15_z2s_level zr _ _ Z hk hmono (z2sSpec zr X Y Z).1 rfl
  rw [Bridge.chem_z2s_spec]
  constructor
  · intro hbed
    have m := hmono 0 1 (by omega) (by omega)
    simp only [Nat.cast_zero, Nat.cast_one] at m
    refine congrArg (some ∘ some) (Prod.ext (l2 hbed) ?_)
    rw [c15_z2sSpec_weight zr X Y Z 1 (l2 hbed), Int.sub_self, (c15_clip01_eq _).2.2]
    rw [le_div_iff₀ (sub_pos.mpr m), one_mul, sub_eq_add_neg]
    exact add_le_add_right (neg_le.mp hbed) _
  · intro hsurf
    have m := hmono (zr.kmax - 2) (zr.kmax - 1) (by omega) (by omega)
    have e1 : ((zr.kmax - 2 : Nat) : Int) = (zr.kmax : Int) - 1 - 1 := by omega
    have e2 : ((zr.kmax - 1 : Nat) : Int) = (zr.kmax : Int) - 1 := by omega
    rw [e1, e2] at m
    refine congrArg (some ∘ some) (Prod.ext (l4 hsurf) ?_)
    rw [c15_z2sSpec_weight zr X Y Z _ (l4 hsurf), (c15_clip01_eq _).2.1]
    exact div_nonpos_of_nonpos_of_nonneg (lt_neg_iff_add_neg.mp hsurf).le (sub_pos.mpr m).le

example : z2sSeq c15x_Zr (.real (3 / 10)) (.real (7 / 10)) 40 = some (some (1, 1)) :=
  (c15_z2s_clamped c15x_Zr _ _ 40 (by decide) (c15x_Zr_mono _ _)).1 (by norm_num [c15x_Zr])
example : z2sSeq c15x_Zr (.real (3 / 10)) (.real (7 / 10)) (-1) = some (some (2, 0)) :=
  (c15_z2s_clamped c15x_Zr _ _ (-1) (by decide) (c15x_Zr_mono _ _)).2 (by norm_num [c15x_Zr])

theorem c15_z2sSpec_inside (zr zr' : Arr3 α) (h : c15Same3 zr zr') (X Y : Coord α) (Z : α)
    (hk : 2 ≤ zr.kmax) (hj : 1 ≤ zr.jmax) (hi : 1 ≤ zr.imax) : z2sSpec zr X Y Z = z2sSpec zr' X Y Z := by
  obtain ⟨ek, ej, ei, e⟩ := h
  have hcol : zr.col (c15Z2sJ zr Y) (c15Z2sI zr X) = zr'.col (c15Z2sJ zr Y) (c15Z2sI zr X) := by
    unfold Arr3.col
    rw [← ek]
    apply List.map_congr_left
    intro k hk'
    have := List.mem_range.mp hk'
    exact e _ _ _ (c15_clamped_inside zr _ _ _ ⟨by omega, by omega⟩ hj hi)
  unfold z2sSpec
  simp only
  rw [← ek, ← ej, ← ei, ← hcol]
  generalize hK : min (max ((countBelow (zr.col (clampIdx zr.jmax Y.around) (clampIdx zr.imax X.around)) Z : Nat) : Int) 1)
    ((zr.kmax : Int) - 1) = K
  have k1 : 1 ≤ K ∧ K ≤ (zr.kmax : Int) - 1 := by omega
  rw [e K _ _ (c15_clamped_inside zr _ _ _ ⟨by omega, by omega⟩ hj hi),
    e (K - 1) _ _ (c15_clamped_inside zr _ _ _ ⟨by omega, by omega⟩ hj hi)]

/-- **`z2s` reads inside the stored array only** (clause "… instead of failing or wrapping around"): the interpretation of
`Gen.chem_z2s_seq` is the same on every array that agrees with `z_rho` inside the shape — whatever a read at a negative
index or beyond the end would give, it is not used.  For every position and depth.
Hypotheses: `2 ≤ kmax` (bridge), non-empty horizontal shape (an empty array has no nearest cell). -/
theorem c15_z2s_reads_inside (zr zr' : Arr3 α) (h : c15Same3 zr zr') (X Y : Coord α) (Z : α)
    (hk : 2 ≤ zr.kmax) (hj : 1 ≤ zr.jmax) (hi : 1 ≤ zr.imax) :
    z2sSeq zr X Y Z = z2sSeq zr' X Y Z := by
  rw [Bridge.chem_z2s_spec, Bridge.chem_z2s_spec, c15_z2sSpec_inside zr zr' h X Y Z hk hj hi]

example := c15_z2s_reads_inside c15x_Zr (c15Poison c15x_Zr 999) (c15_same3_poison _ _) (.real (-1)) (.real 5) 12
  (by decide) (by decide) (by decide)

/-! ## `sample3D` -/

/-- the eight reads of the bilinear stencil (levels `K`, `K − 1`, the clamped corner and its neighbours) are inside
the shape -/
theorem c15_stencil_inside (F : Arr3 α) (X Y : α) (K : Int) (hK : 1 ≤ K ∧ K ≤ (F.kmax : Int) - 1) (hj : 2 ≤ F.jmax)
    (hi : 2 ≤ F.imax) (k j i : Int) (hk : k = K ∨ k = K - 1)
    (hj' : j = corner F.jmax Y ∨ j = corner F.jmax Y + 1) (hi' : i = corner F.imax X ∨ i = corner F.imax X + 1) :
    c15In3 F k j i := by
  have cj := Bridge.chem_sample3D_corner_range F.jmax Y hj
  have ci := Bridge.chem_sample3D_corner_range F.imax X hi
  exact ⟨⟨by omega, by omega⟩, ⟨by omega, by omega⟩, ⟨by omega, by omega⟩⟩

theorem c15_sample3DSpec_inside (F G : Arr3 α) (h : c15Same3 F G) (X Y : α) (K : Int) (A : α) (bilinear : Bool)
    (hK : 1 ≤ K ∧ K ≤ (F.kmax : Int) - 1) (hj : 2 ≤ F.jmax) (hi : 2 ≤ F.imax) :
    sample3DSpec F X Y K A bilinear = sample3DSpec G X Y K A bilinear := by
  obtain ⟨ek, ej, ei, e⟩ := h
  unfold sample3DSpec
  rw [← ej, ← ei]
  cases bilinear
  · simp only [Bool.false_eq_true, if_false]
    rw [e K _ _ (c15_clamped_inside F _ _ _ ⟨by omega, by omega⟩ (by omega) (by omega))]
  · have hin := c15_stencil_inside F X Y K hK hj hi
    simp only [if_true]
    congr 1 <;> exact e _ _ _ (hin _ _ _ (by simp) (by simp) (by simp))

/-- **`sample3D` reads inside the stored array only**, for both methods and every position: the interpretation of
`Gen.chem_sample3D_seq` is the same on every array that agrees with `F` inside the shape.
Hypotheses: `1 ≤ K ≤ kmax − 1` (what `z2s` returns, `c15_z2s_level_weight`); at least two rows and columns (the bilinear
stencil `J, J + 1`, `I, I + 1` — `Bridge.chem_sample3D_corner_range`). -/
theorem c15_sample3D_reads_inside (F G : Arr3 α) (h : c15Same3 F G) (X Y : α) (K : Int) (A : α) (bilinear : Bool)
    (hK : 1 ≤ K ∧ K ≤ (F.kmax : Int) - 1) (hj : 2 ≤ F.jmax) (hi : 2 ≤ F.imax) :
    sample3DSeq F X Y K A bilinear = sample3DSeq G X Y K A bilinear := by
  rw [Bridge.chem_sample3D, Bridge.chem_sample3D, c15_sample3DSpec_inside F G h X Y K A bilinear hK hj hi]

example := c15_sample3D_reads_inside c15x_F (c15Poison c15x_F 999) (c15_same3_poison _ _) (-1) 2 1 (1 / 2) true
  (by decide) (by decide) (by decide)

/-- **`sample3D(method='bilinear')` is a convex combination of the eight surrounding grid values** (clause "sampled 3-D
fields are convex combinations of the surrounding grid values"): the interpretation of `Gen.chem_sample3D_seq` returns
`Σ w · F[…]` over the reads `F[K or K − 1, J or J + 1, I or I + 1]` at the clamped corner `J, I`, with eight weights that
are non-negative and sum to one.  For every position (also outside the array) and every `A ∈ [0, 1]` (what `z2s` returns). -/
theorem c15_sample3D_convex (F : Arr3 α) (X Y : α) (K : Int) (A : α) (hA0 : 0 ≤ A) (hA1 : A ≤ 1) :
    ∃ w000 w010 w100 w110 w001 w011 w101 w111 : α,
      (0 ≤ w000 ∧ 0 ≤ w010 ∧ 0 ≤ w100 ∧ 0 ≤ w110 ∧ 0 ≤ w001 ∧ 0 ≤ w011 ∧ 0 ≤ w101 ∧ 0 ≤ w111) ∧
      w000 + w010 + w100 + w110 + w001 + w011 + w101 + w111 = 1 ∧
      sample3DSeq F X Y K A true = some (some (
        w000 * F.get K (corner F.jmax Y) (corner F.imax X) + w010 * F.get K (corner F.jmax Y + 1) (corner F.imax X)
        + w100 * F.get K (corner F.jmax Y) (corner F.imax X + 1)
        + w110 * F.get K (corner F.jmax Y + 1) (corner F.imax X + 1)
        + w001 * F.get (K - 1) (corner F.jmax Y) (corner F.imax X)
        + w011 * F.get (K - 1) (corner F.jmax Y + 1) (corner F.imax X)
        + w101 * F.get (K - 1) (corner F.jmax Y) (corner F.imax X + 1)
        + w111 * F.get (K - 1) (corner F.jmax Y + 1) (corner F.imax X + 1))) := by
  obtain ⟨hs, w0, w1, w2, w3, w4, w5, w6, w7⟩ :=
    C15.trilinear_weights (offset X (corner F.imax X)) (offset Y (corner F.jmax Y)) A (Bridge.clip01 _).1
      (Bridge.clip01 _).2 (Bridge.clip01 _).1 (Bridge.clip01 _).2 hA0 hA1
  refine ⟨_, _, _, _, _, _, _, _, ⟨w0, w1, w2, w3, w4, w5, w6, w7⟩, hs, ?_⟩
  rw [Bridge.chem_sample3D_bilinear]
  unfold sample3DSpec trilinear
  simp only [if_true]
  lits

example := c15_sample3D_convex c15x_F (3 / 10) (7 / 10) 1 (1 / 2) (by norm_num) (by norm_num)

theorem c15_sample3DSpec_between (F : Arr3 α) (X Y : α) (K : Int) (A : α) (bilinear : Bool) (lo hi : α)
    (hA0 : 0 ≤ A) (hA1 : A ≤ 1) (hK : 1 ≤ K ∧ K ≤ (F.kmax : Int) - 1) (hj : 2 ≤ F.jmax) (hi' : 2 ≤ F.imax)
    (hF : ∀ k j i, c15In3 F k j i → lo ≤ F.get k j i ∧ F.get k j i ≤ hi) :
    lo ≤ sample3DSpec F X Y K A bilinear ∧ sample3DSpec F X Y K A bilinear ≤ hi := by
  cases bilinear
  · exact hF K _ _ (c15_clamped_inside F _ _ _ ⟨by omega, by omega⟩ (by omega) (by omega))
  · -- the eight reads in the order `trilinear` takes them: bit 0 of the index = row, bit 1 = column, bit 2 = level
    exact C15.sample3D_convex _ _ A lo hi
      (fun n => F.get (if n.1 < 4 then K else K - 1)
        (if n.1 % 2 = 0 then corner F.jmax Y else corner F.jmax Y + 1)
        (if n.1 / 2 % 2 = 0 then corner F.imax X else corner F.imax X + 1))
      (Bridge.clip01 _).1 (Bridge.clip01 _).2 (Bridge.clip01 _).1 (Bridge.clip01 _).2 hA0 hA1
      (fun n => hF _ _ _ (c15_stencil_inside F X Y K hK hj hi' _ _ _ (ite_eq_or_eq _ _ _) (ite_eq_or_eq _ _ _)
        (ite_eq_or_eq _ _ _)))

/-- **`sample3D` (either method) never leaves the range of the values stored inside the array**, whatever the
position: if every entry *inside* the shape lies in `[lo, hi]`, so does the sample.  (Only entries inside the shape are
constrained: the statement would be false if the code read outside.)
Hypotheses: `A ∈ [0, 1]`, `1 ≤ K ≤ kmax − 1` (what `z2s` returns), at least two rows and columns (bridge, as above). -/
theorem c15_sample3D_between (F : Arr3 α) (X Y : α) (K : Int) (A : α) (bilinear : Bool) (lo hi : α)
    (hA0 : 0 ≤ A) (hA1 : A ≤ 1) (hK : 1 ≤ K ∧ K ≤ (F.kmax : Int) - 1) (hj : 2 ≤ F.jmax) (hi' : 2 ≤ F.imax)
    (hF : ∀ k j i, c15In3 F k j i → lo ≤ F.get k j i ∧ F.get k j i ≤ hi) :
    ∃ v, sample3DSeq F X Y K A bilinear = some (some v) ∧ lo ≤ v ∧ v ≤ hi :=
  ⟨_, Bridge.chem_sample3D F X Y K A bilinear, c15_sample3DSpec_between F X Y K A bilinear lo hi hA0 hA1 hK hj hi' hF⟩

example := c15_sample3D_between c15x_F (-1) 2 1 (1 / 2) true 0 4 (by norm_num) (by norm_num) (by decide) (by decide)
  (by decide) c15x_F_bounds

/-! ## positions: the nearest edge cell -/

theorem c15_round_index (L : C15Laws α) (x : α) :
    ((trunc (round x) : Int) : α) - 1 / 2 ≤ x ∧ x ≤ ((trunc (round x) : Int) : α) + 1 / 2 := by
  obtain ⟨k, hk, h1, h2⟩ := L.round_near x
  rw [hk, L.trunc_cast]
  exact ⟨h1, h2⟩

/-- integers whose casts are less than one apart, in order -/
theorem c15_int_le_of_lt {a b : Int} (h : (a : α) < (b : α) + 1) : a ≤ b :=
  Int.lt_add_one_iff.mp (Int.cast_lt (R := α).mp (by rw [Int.cast_add, Int.cast_one]; exact h))

theorem c15_int_le {a b : Int} (h : (a : α) - 1 / 2 < (b : α) + 1 / 2) : a ≤ b :=
  c15_int_le_of_lt ((sub_lt_iff_lt_add.mp h).trans_eq (by rw [add_assoc, add_halves]))

/-- an integer position between two integer nodes is within half a cell of their range -/
theorem c15_int_half {a i b : Int} (h1 : a ≤ i) (h2 : i ≤ b) :
    (a : α) - 1 / 2 < (i : α) ∧ (i : α) < (b : α) + 1 / 2 :=
  ⟨(sub_lt_self _ one_half_pos).trans_le (Int.cast_le.mpr h1),
    (Int.cast_le.mpr h2).trans_lt (lt_add_of_pos_right _ one_half_pos)⟩

theorem c15_round_int (L : C15Laws α) (i : Int) : trunc (round ((i : Int) : α)) = i := by
  obtain ⟨r1, r2⟩ := c15_round_index L ((i : Int) : α)
  have hp : (0 : α) < 1 / 2 := one_half_pos
  exact le_antisymm (c15_int_le (r1.trans_lt (lt_add_of_pos_right _ hp))) (c15_int_le ((sub_lt_self _ hp).trans_le r2))

/-- the cell of a *position* (`round`, minus the offset, clamped — `cellIndex`, what `sample_depth`, `atsea`,
`sample_metric`, `onland`, `lonlat`, `vertdiff` use): west / south of the first node it is cell 0, east / north of the
last node it is the last cell — the nearest edge cell, at any distance —, and within half a cell of node `i0 + k` it
is `k` (not clamped). -/
theorem c15_cellIndex_position (L : C15Laws α) (n : Nat) (hn : 1 ≤ n) (i0 : Int) (x : α) :
    (x ≤ (i0 : α) → cellIndex n i0 x = 0) ∧
    ((i0 : α) + (n : α) - 1 ≤ x → cellIndex n i0 x = (n : Int) - 1) ∧
    (∀ k : Int, 0 ≤ k → k < n → (i0 : α) + (k : α) - 1 / 2 < x → x < (i0 : α) + (k : α) + 1 / 2 →
      cellIndex n i0 x = k) := by
  obtain ⟨r1, r2⟩ := c15_round_index L x
  unfold cellIndex clampIdx
  generalize trunc (round x) = r at r1 r2
  have hp : (0 : α) < 1 / 2 := one_half_pos
  refine ⟨fun h => ?_, fun h => ?_, fun k k0 k1 h1 h2 => ?_⟩
  · have := c15_int_le (r1.trans_lt (h.trans_lt (lt_add_of_pos_right _ hp)))
    omega
  · have : i0 + n - 1 ≤ r := c15_int_le (((sub_lt_self _ hp).trans_le (by push_cast; exact h)).trans_le r2)
    omega
  · have : r ≤ i0 + k := c15_int_le (r1.trans_lt (by push_cast; exact h2))
    have : i0 + k ≤ r := c15_int_le (lt_of_lt_of_le (by push_cast; exact h1) r2)
    omega

example := c15_cellIndex_position c15_laws_rat 6 (by decide) 1 (13 / 10 : ℚ)

theorem c15_corner_offset_edge (L : C15Laws α) (n : Nat) (hn : 2 ≤ n) (x : α) :
    (x ≤ 0 → corner n x = 0 ∧ offset x (corner n x) = 0) ∧
    ((n : α) - 1 ≤ x → corner n x = (n : Int) - 2 ∧ offset x (corner n x) = 1) := by
  constructor
  · intro h
    have t := L.trunc_neg x h
    have c : corner n x = 0 := by unfold corner; omega
    refine ⟨c, ?_⟩
    rw [c, offset, L.ofInt_cast, Int.cast_zero, sub_zero]
    exact (c15_clip01_eq _).2.1 h
  · intro h
    have h0 : (0 : α) ≤ x := le_trans (sub_nonneg.mpr (by exact_mod_cast (show 1 ≤ n by omega))) h
    have := c15_int_le_of_lt (a := (n : Int) - 2) (lt_of_le_of_lt
      (by push_cast; exact (sub_le_sub_left one_le_two _).trans h) (L.trunc_floor x h0).2)
    have c : corner n x = (n : Int) - 2 := by unfold corner; omega
    refine ⟨c, ?_⟩
    rw [c, offset, L.ofInt_cast]
    apply (c15_clip01_eq _).2.2
    push_cast
    rw [le_sub_iff_add_le, add_comm]
    exact (by ring : (n : α) - 2 + 1 = (n : α) - 1).trans_le h

/-- **bilinear `sample3D` west / east / south / north of the array = the sample at the nearest point of the edge**
(clause "returns the value of the nearest edge cell"): for `X ≤ 0` the interpretation of `Gen.chem_sample3D_seq` at `X` is
the one at `X = 0`, for `X ≥ imax − 1` the one at `X = imax − 1`; the same for `Y`.  Any distance outside.
Hypotheses: `C15Laws` (truncation), at least two rows and columns (bridge). -/
theorem c15_sample3D_edge (L : C15Laws α) (F : Arr3 α) (X Y : α) (K : Int) (A : α) (hj : 2 ≤ F.jmax) (hi : 2 ≤ F.imax) :
    (X ≤ 0 → sample3DSeq F X Y K A true = sample3DSeq F 0 Y K A true) ∧
    ((F.imax : α) - 1 ≤ X → sample3DSeq F X Y K A true = sample3DSeq F ((F.imax : α) - 1) Y K A true) ∧
    (Y ≤ 0 → sample3DSeq F X Y K A true = sample3DSeq F X 0 K A true) ∧
    ((F.jmax : α) - 1 ≤ Y → sample3DSeq F X Y K A true = sample3DSeq F X ((F.jmax : α) - 1) K A true) := by
  have ex := c15_corner_offset_edge L F.imax hi
  have ey := c15_corner_offset_edge L F.jmax hj
  simp only [Bridge.chem_sample3D_bilinear, sample3DSpec, if_true]
  refine ⟨fun h => ?_, fun h => ?_, fun h => ?_, fun h => ?_⟩
  · rw [((ex X).1 h).2, ((ex X).1 h).1, ((ex 0).1 le_rfl).2, ((ex 0).1 le_rfl).1]
  · rw [((ex X).2 h).2, ((ex X).2 h).1, ((ex _).2 le_rfl).2, ((ex _).2 le_rfl).1]
  · rw [((ey Y).1 h).2, ((ey Y).1 h).1, ((ey 0).1 le_rfl).2, ((ey 0).1 le_rfl).1]
  · rw [((ey Y).2 h).2, ((ey Y).2 h).1, ((ey _).2 le_rfl).2, ((ey _).2 le_rfl).1]

example := c15_sample3D_edge c15_laws_rat c15x_F (-1 / 2) 3 1 (1 / 2) (by decide) (by decide)

/-- **nearest `sample3D`**: one stored value — of the own cell inside the array, of the nearest edge cell outside (at any
distance), the index always inside the shape. -/
theorem c15_sample3D_nearest_cell (L : C15Laws α) (F : Arr3 α) (X Y : α) (K : Int) (A : α)
    (hj : 1 ≤ F.jmax) (hi : 1 ≤ F.imax) :
    ∃ J I : Int, sample3DSeq F X Y K A false = some (some (F.get K J I)) ∧
      (0 ≤ J ∧ J < (F.jmax : Int)) ∧ (0 ≤ I ∧ I < (F.imax : Int)) ∧
      (X ≤ 0 → I = 0) ∧ ((F.imax : α) - 1 ≤ X → I = (F.imax : Int) - 1) ∧
      (Y ≤ 0 → J = 0) ∧ ((F.jmax : α) - 1 ≤ Y → J = (F.jmax : Int) - 1) ∧
      (∀ k : Int, 0 ≤ k → k < F.imax → (k : α) - 1 / 2 < X → X < (k : α) + 1 / 2 → I = k) ∧
      (∀ k : Int, 0 ≤ k → k < F.jmax → (k : α) - 1 / 2 < Y → Y < (k : α) + 1 / 2 → J = k) := by
  obtain ⟨x1, x2, x3⟩ := c15_cellIndex_position L F.imax hi 0 X
  obtain ⟨y1, y2, y3⟩ := c15_cellIndex_position L F.jmax hj 0 Y
  simp only [cellIndex, Int.sub_zero, Int.cast_zero, zero_add] at x1 x2 x3 y1 y2 y3
  exact ⟨_, _, Bridge.chem_sample3D_nearest F X Y K A, C15.clampIdx_range _ _ hj, C15.clampIdx_range _ _ hi,
    x1, x2, y1, y2, x3, y3⟩

example := c15_sample3D_nearest_cell c15_laws_rat c15x_F (-1 / 2) 3 1 (1 / 2) (by decide) (by decide)

/-! ## `Forcing.velocity`, `Forcing.wvel` -/

/-- the field `velocity` samples: the stored one for `tstep < 0.001`, else advanced by `tstep * d·` -/
def c15VelField (attr : String → Arr3 α) (tstep : α) (n dn : String) : Arr3 α :=
  if tstep < 0.001 then attr n else (attr n).axpy tstep (attr dn)

/-- the level `velocity` samples at -/
def c15VelK (g : GridEnv α) (X Y Z : α) : Int :=
  if decide ((g.z_w.kmax : Int) - 1 ≤ (z2sSpec g.z_w (.real (X - ofInt g.i0)) (.real (Y - ofInt g.j0)) Z).1)
  then (g.z_w.kmax : Int) - 2 else (z2sSpec g.z_w (.real (X - ofInt g.i0)) (.real (Y - ofInt g.j0)) Z).1

/-- … and the vertical weight -/
def c15VelA (g : GridEnv α) (X Y Z : α) : α :=
  if decide ((g.z_w.kmax : Int) - 1 ≤ (z2sSpec g.z_w (.real (X - ofInt g.i0)) (.real (Y - ofInt g.j0)) Z).1)
  then 0.0 else 1.0

theorem c15_velocitySpec_eq (g : GridEnv α) (attr : String → Arr3 α) (X Y Z tstep : α) (bilinear : Bool) :
    velocitySpec g attr X Y Z tstep bilinear =
      (sample3DSpec (c15VelField attr tstep "U" "dU") (X - ofInt g.i0 + 0.5) (round (Y - ofInt g.j0))
          (c15VelK g X Y Z) (c15VelA g X Y Z) bilinear,
       sample3DSpec (c15VelField attr tstep "V" "dV") (round (X - ofInt g.i0)) (Y - ofInt g.j0 + 0.5)
          (c15VelK g X Y Z) (c15VelA g X Y Z) bilinear) := by
  rfl

theorem c15_velK_range (g : GridEnv α) (X Y Z : α) (hk : 3 ≤ g.z_w.kmax) :
    1 ≤ c15VelK g X Y Z ∧ c15VelK g X Y Z ≤ (g.z_w.kmax : Int) - 2 :=
  Bridge.chem_forcing_velocity_level_range g X Y Z hk

theorem c15_velField_shape (attr : String → Arr3 α) (tstep : α) (n dn : String) :
    (c15VelField attr tstep n dn).kmax = (attr n).kmax ∧ (c15VelField attr tstep n dn).jmax = (attr n).jmax ∧
    (c15VelField attr tstep n dn).imax = (attr n).imax := by
  unfold c15VelField
  split <;> exact ⟨rfl, rfl, rfl⟩

/-- **`Forcing.velocity`** (clauses "sampled 3-D fields are convex combinations …", "every … forcing query … for a position
inside the grid, or … outside it on any side, returns the value of the nearest edge cell instead of failing").
For *every* position, depth and time step the interpretation of `Gen.chem_forcing_velocity_seq` returns a pair
`(u, v)`; `u` is the interpreted `sample3D` of the field `U` (`c15VelField`: advanced by `tstep * dU` for `tstep ≥ 0.001`)
at the staggered local position, `v` alike; the level is `1 ≤ K ≤ kmax_w − 2`, the weight 0 or 1; and `u`, `v` lie in
any interval that contains the entries of `U`, `V` *inside their shapes* (with `c15_sample3D_convex`: convex
combinations; nothing outside the arrays is read).
Hypotheses (valid configuration): `3 ≤ kmax_w` (forced by `Bridge.chem_forcing_velocity_level_range`), `U`, `V` have one
level less than `z_w` (ROMS: `N` rho-levels, `N + 1` w-levels) and at least two rows and columns (bridge
`chem_sample3D_corner_range`). -/
theorem c15_velocity_between (g : GridEnv α) (attr : String → Arr3 α) (X Y Z tstep : α) (bilinear : Bool)
    (ulo uhi vlo vhi : α) (hk : 3 ≤ g.z_w.kmax)
    (hU : (attr "U").kmax + 1 = g.z_w.kmax ∧ 2 ≤ (attr "U").jmax ∧ 2 ≤ (attr "U").imax)
    (hV : (attr "V").kmax + 1 = g.z_w.kmax ∧ 2 ≤ (attr "V").jmax ∧ 2 ≤ (attr "V").imax)
    (hUb : ∀ k j i, c15In3 (c15VelField attr tstep "U" "dU") k j i →
      ulo ≤ (c15VelField attr tstep "U" "dU").get k j i ∧ (c15VelField attr tstep "U" "dU").get k j i ≤ uhi)
    (hVb : ∀ k j i, c15In3 (c15VelField attr tstep "V" "dV") k j i →
      vlo ≤ (c15VelField attr tstep "V" "dV").get k j i ∧ (c15VelField attr tstep "V" "dV").get k j i ≤ vhi) :
    ∃ u v K A, velocitySeq g attr X Y Z tstep bilinear = some (some (u, v)) ∧
      (1 ≤ K ∧ K ≤ (g.z_w.kmax : Int) - 2) ∧ (A = 0 ∨ A = 1) ∧
      sample3DSeq (c15VelField attr tstep "U" "dU") (X - ofInt g.i0 + 0.5) (round (Y - ofInt g.j0)) K A bilinear
        = some (some u) ∧
      sample3DSeq (c15VelField attr tstep "V" "dV") (round (X - ofInt g.i0)) (Y - ofInt g.j0 + 0.5) K A bilinear
        = some (some v) ∧
      (ulo ≤ u ∧ u ≤ uhi) ∧ (vlo ≤ v ∧ v ≤ vhi) := by
  obtain ⟨k1, k2⟩ := c15_velK_range g X Y Z hk
  have hA : c15VelA g X Y Z = 0 ∨ c15VelA g X Y Z = 1 := by
    unfold c15VelA
    split
    exacts [Or.inl lit_0, Or.inr lit_1]
  obtain ⟨a0, a1⟩ : 0 ≤ c15VelA g X Y Z ∧ c15VelA g X Y Z ≤ 1 := by
    rcases hA with h | h <;> rw [h]
    exacts [⟨le_rfl, zero_le_one⟩, ⟨zero_le_one, le_rfl⟩]
  obtain ⟨su1, su2, su3⟩ := c15_velField_shape attr tstep "U" "dU"
  obtain ⟨sv1, sv2, sv3⟩ := c15_velField_shape attr tstep "V" "dV"
  refine ⟨_, _, c15VelK g X Y Z, c15VelA g X Y Z, ?_, ⟨k1, k2⟩, hA, Bridge.chem_sample3D _ _ _ _ _ _,
    Bridge.chem_sample3D _ _ _ _ _ _, ?_, ?_⟩
  · rw [Bridge.chem_forcing_velocity, c15_velocitySpec_eq]
  · exact c15_sample3DSpec_between _ _ _ _ _ bilinear ulo uhi a0 a1 ⟨k1, by omega⟩ (by omega) (by omega) hUb
  · exact c15_sample3DSpec_between _ _ _ _ _ bilinear vlo vhi a0 a1 ⟨k1, by omega⟩ (by omega) (by omega) hVb

theorem c15x_Vel (n dn : String) : c15VelField c15x_Attr (0 : ℚ) n dn = c15x_F := by
  unfold c15VelField
  rw [if_pos (by norm_num)]
  rfl

example := c15_velocity_between c15x_G c15x_Attr (13 / 10) (3) 12 0 true 0 4 0 4 (by decide) (by decide) (by decide)
  (by rw [c15x_Vel]; exact c15x_F_bounds) (by rw [c15x_Vel]; exact c15x_F_bounds)

theorem c15_same3_axpy (F G dF dG : Arr3 α) (t : α) (h : c15Same3 F G) (hd : c15Same3 dF dG)
    (hs : dF.kmax = F.kmax ∧ dF.jmax = F.jmax ∧ dF.imax = F.imax) : c15Same3 (F.axpy t dF) (G.axpy t dG) := by
  obtain ⟨e1, e2, e3, e⟩ := h
  refine ⟨e1, e2, e3, fun k j i hin => ?_⟩
  have hdin : c15In3 dF k j i := by
    unfold c15In3
    rw [hs.1, hs.2.1, hs.2.2]
    exact hin
  show F.get k j i + t * dF.get k j i = G.get k j i + t * dG.get k j i
  rw [e k j i hin, hd.2.2.2 k j i hdin]

theorem c15_velField_same (attr attr' : String → Arr3 α) (tstep : α) (n dn : String)
    (h : c15Same3 (attr n) (attr' n)) (hd : c15Same3 (attr dn) (attr' dn))
    (hs : (attr dn).kmax = (attr n).kmax ∧ (attr dn).jmax = (attr n).jmax ∧ (attr dn).imax = (attr n).imax) :
    c15Same3 (c15VelField attr tstep n dn) (c15VelField attr' tstep n dn) := by
  unfold c15VelField
  split
  · exact h
  · exact c15_same3_axpy _ _ _ _ _ h hd hs

/-- **`Forcing.velocity` reads the stored arrays inside their shapes only**: the interpretation of
`Gen.chem_forcing_velocity_seq` (with its calls of `z2s`, `sample3DUV`, `sample3D`, `_clamp_index`) is the same for every
`z_w`, `U`, `V`, `dU`, `dV` that agree with the stored ones inside the shapes — for every position, also outside the
grid on any side.  Hypotheses: the shapes of a valid configuration, as in `c15_velocity_between`; `dU`, `dV` have the
shapes of `U`, `V`. -/
theorem c15_velocity_reads_inside (g g' : GridEnv α) (attr attr' : String → Arr3 α) (X Y Z tstep : α)
    (bilinear : Bool) (hk : 3 ≤ g.z_w.kmax) (hzj : 1 ≤ g.z_w.jmax) (hzi : 1 ≤ g.z_w.imax)
    (hU : (attr "U").kmax + 1 = g.z_w.kmax ∧ 2 ≤ (attr "U").jmax ∧ 2 ≤ (attr "U").imax)
    (hV : (attr "V").kmax + 1 = g.z_w.kmax ∧ 2 ≤ (attr "V").jmax ∧ 2 ≤ (attr "V").imax)
    (hdU : (attr "dU").kmax = (attr "U").kmax ∧ (attr "dU").jmax = (attr "U").jmax ∧ (attr "dU").imax = (attr "U").imax)
    (hdV : (attr "dV").kmax = (attr "V").kmax ∧ (attr "dV").jmax = (attr "V").jmax ∧ (attr "dV").imax = (attr "V").imax)
    (hi0 : g.i0 = g'.i0) (hj0 : g.j0 = g'.j0) (hzw : c15Same3 g.z_w g'.z_w)
    (hattr : ∀ n, n ∈ ["U", "V", "dU", "dV"] → c15Same3 (attr n) (attr' n)) :
    velocitySeq g attr X Y Z tstep bilinear = velocitySeq g' attr' X Y Z tstep bilinear := by
  obtain ⟨k1, k2⟩ := c15_velK_range g X Y Z hk
  obtain ⟨su1, su2, su3⟩ := c15_velField_shape attr tstep "U" "dU"
  obtain ⟨sv1, sv2, sv3⟩ := c15_velField_shape attr tstep "V" "dV"
  have hz := c15_z2sSpec_inside g.z_w g'.z_w hzw (.real (X - ofInt g.i0)) (.real (Y - ofInt g.j0)) Z (by omega) hzj hzi
  have hUs := c15_velField_same attr attr' tstep "U" "dU" (hattr "U" (by simp)) (hattr "dU" (by simp)) hdU
  have hVs := c15_velField_same attr attr' tstep "V" "dV" (hattr "V" (by simp)) (hattr "dV" (by simp)) hdV
  rw [Bridge.chem_forcing_velocity, Bridge.chem_forcing_velocity, c15_velocitySpec_eq, c15_velocitySpec_eq,
    c15_sample3DSpec_inside _ _ hUs _ _ _ _ bilinear ⟨k1, by omega⟩ (by omega) (by omega),
    c15_sample3DSpec_inside _ _ hVs _ _ _ _ bilinear ⟨k1, by omega⟩ (by omega) (by omega)]
  unfold c15VelK c15VelA
  rw [hz, hzw.1, hi0, hj0]

example := c15_velocity_reads_inside c15x_G { c15x_G with z_w := c15Poison c15x_Zw 999 } c15x_Attr (fun n => c15Poison (c15x_Attr n) 999)
  (13 / 10) 3 12 0 true (by decide) (by decide) (by decide) (by decide) (by decide) (by decide) (by decide) rfl rfl
  (c15_same3_poison _ _) (fun _ _ => c15_same3_poison _ _)

/-- the field `wvel` samples -/
def c15WField (attr : String → Arr3 α) (tstep : α) : Arr3 α :=
  if 0.001 ≤ tstep then (attr "W").axpy tstep (attr "dW") else attr "W"

/-- **`Forcing.wvel`**: the interpreted `sample3D` of `W` (advanced by `tstep * dW` for `tstep ≥ 0.001`) at the rounded local
position with the `(K, A)` of the interpreted `z2s`; inside any interval that contains the entries of `W` inside its
shape, for every position.  Hypotheses: `2 ≤ kmax_w` (bridge), `W` has the levels of `z_w` and two rows / columns. -/
theorem c15_wvel_between (g : GridEnv α) (attr : String → Arr3 α) (X Y Z tstep : α) (bilinear : Bool) (lo hi : α)
    (hk : 2 ≤ g.z_w.kmax) (hW : (attr "W").kmax = g.z_w.kmax ∧ 2 ≤ (attr "W").jmax ∧ 2 ≤ (attr "W").imax)
    (hb : ∀ k j i, c15In3 (c15WField attr tstep) k j i →
      lo ≤ (c15WField attr tstep).get k j i ∧ (c15WField attr tstep).get k j i ≤ hi) :
    ∃ w K A, z2sSeq g.z_w (.real (X - ofInt g.i0)) (.real (Y - ofInt g.j0)) Z = some (some (K, A)) ∧
      wvelSeq g attr X Y Z tstep bilinear = some (some (w, c15WField attr tstep)) ∧
      sample3DSeq (c15WField attr tstep) (round (X - ofInt g.i0)) (round (Y - ofInt g.j0)) K A bilinear = some (some w) ∧
      lo ≤ w ∧ w ≤ hi := by
  have r := Bridge.chem_z2s_level_range g.z_w (.real (X - ofInt g.i0)) (.real (Y - ofInt g.j0)) Z hk
  have sh : (c15WField attr tstep).kmax = (attr "W").kmax ∧ (c15WField attr tstep).jmax = (attr "W").jmax ∧
      (c15WField attr tstep).imax = (attr "W").imax := by
    unfold c15WField; split <;> exact ⟨rfl, rfl, rfl⟩
  refine ⟨_, _, _, Bridge.chem_z2s_spec _ _ _ _, ?_, Bridge.chem_sample3D _ _ _ _ _ _, ?_⟩
  · rw [Bridge.chem_forcing_wvel]
    rfl
  · exact c15_sample3DSpec_between _ _ _ _ _ bilinear lo hi (Bridge.clip01 _).1 (Bridge.clip01 _).2
      ⟨r.1, by omega⟩ (by omega) (by omega) hb

theorem c15x_W : c15WField c15x_AttrW (0 : ℚ) = c15x_F4 := by
  unfold c15WField
  rw [if_neg (by norm_num)]
  rfl

example := c15_wvel_between c15x_G c15x_AttrW (13 / 10) 3 12 0 true 0 5 (by decide) (by decide)
  (by rw [c15x_W]; exact c15x_F4_bounds)

/-! ## `Forcing.field`, salmon lice `Forcing.vert_mix` -/

/-- **`Forcing.field`** (nearest sampling of a 3-D field): for every position the interpretation of
`Gen.chem_forcing_field_seq` returns the stored value `F[K, J, I]` with `K` from the interpreted `z2s` on `z_r`,
`J, I` = the rounded local position clamped to the array, and `(K, J, I)` inside the shape of `F`.
Hypotheses: `2 ≤ kmax_r` (bridge `chem_z2s_level_range`), `F` has the levels of `z_r` and is not empty. -/
theorem c15_field_cell_value (g : GridEnv α) (attr : String → Arr3 α) (name : String) (X Y Z : α)
    (hk : 2 ≤ g.z_r.kmax) (hs : (attr name).kmax = g.z_r.kmax) (hj : 1 ≤ (attr name).jmax)
    (hi : 1 ≤ (attr name).imax) :
    ∃ K A J I, z2sSeq g.z_r (.real (X - ofInt g.i0)) (.real (Y - ofInt g.j0)) Z = some (some (K, A)) ∧
      J = clampIdx (attr name).jmax (trunc (round (Y - ofInt g.j0))) ∧
      I = clampIdx (attr name).imax (trunc (round (X - ofInt g.i0))) ∧
      c15In3 (attr name) K J I ∧
      fieldSeq g attr name X Y Z = some (some ((attr name).get K J I)) := by
  have r := Bridge.chem_z2s_level_range g.z_r (.real (X - ofInt g.i0)) (.real (Y - ofInt g.j0)) Z hk
  refine ⟨_, _, _, _, Bridge.chem_z2s_spec _ _ _ _, rfl, rfl,
    c15_clamped_inside _ _ _ _ ⟨by omega, by omega⟩ hj hi, ?_⟩
  rw [Bridge.chem_forcing_field]
  rfl

example := c15_field_cell_value c15x_G c15x_Attr "temp" (13 / 10) 3 12 (by decide) (by decide) (by decide) (by decide)

/-- **salmon lice `Forcing.vert_mix`**: as `field`, with `z2s` on `z_w` and the field `AKs` (`Gen.lice_vert_mix_seq`). -/
theorem c15_lice_vert_mix_cell_value (g : GridEnv α) (attr : String → Arr3 α) (X Y Z : α)
    (hk : 2 ≤ g.z_w.kmax) (hs : (attr "AKs").kmax = g.z_w.kmax) (hj : 1 ≤ (attr "AKs").jmax)
    (hi : 1 ≤ (attr "AKs").imax) :
    ∃ K A J I, z2sSeq g.z_w (.real (X - ofInt g.i0)) (.real (Y - ofInt g.j0)) Z = some (some (K, A)) ∧
      J = clampIdx (attr "AKs").jmax (trunc (round (Y - ofInt g.j0))) ∧
      I = clampIdx (attr "AKs").imax (trunc (round (X - ofInt g.i0))) ∧
      c15In3 (attr "AKs") K J I ∧
      gcVertMixSeq g attr X Y Z = some (some ((attr "AKs").get K J I)) := by
  have r := Bridge.chem_z2s_level_range g.z_w (.real (X - ofInt g.i0)) (.real (Y - ofInt g.j0)) Z hk
  refine ⟨_, _, _, _, Bridge.chem_z2s_spec _ _ _ _, rfl, rfl,
    c15_clamped_inside _ _ _ _ ⟨by omega, by omega⟩ hj hi, ?_⟩
  rw [Bridge.lice_vert_mix]
  rfl

example := c15_lice_vert_mix_cell_value c15x_G c15x_AttrW (13 / 10) 3 12 (by decide) (by decide) (by decide) (by decide)

/-! ## `Forcing.vertdiff` -/

/-- **`Forcing.vertdiff`** (clause "vertical diffusivity is read at the nearest interior w-level of the particle's cell and is
never negative").  For every position the interpretation of `Gen.chem_forcing_vertdiff_seq` returns
`Gen.vertdiff_value F[Kn, J, I] ≥ 0` where `J, I` is the particle's own cell (`cellIndex`: inside the shape of `H`, the
nearest edge cell outside the grid), `(K, A)` is the interpreted `z2s` of that column of `z_w`, and
`Kn = clip(int(round(K − A)), 1, len(Cs_w) − 2)` is an interior w-level.
Hypotheses: `3 ≤ len(Cs_w)` (there is an interior w-level), `H` not empty. -/
theorem c15_vertdiff_interior_nonneg (g : GridEnv α) (attr : String → Arr3 α) (name : String) (X Y Z : α)
    (hn : 3 ≤ g.nCsw) (hHj : 1 ≤ g.H.jmax) (hHi : 1 ≤ g.H.imax) :
    ∃ K A Kn J I v, J = cellIndex g.H.jmax g.j0 Y ∧ I = cellIndex g.H.imax g.i0 X ∧
      ((0 ≤ J ∧ J < (g.H.jmax : Int)) ∧ (0 ≤ I ∧ I < (g.H.imax : Int))) ∧
      z2sSeq g.z_w (.int I) (.int J) Z = some (some (K, A)) ∧
      Kn = max 1 (min ((g.nCsw : Int) - 2) (trunc (round (ofInt K - A)))) ∧
      (1 ≤ Kn ∧ Kn ≤ (g.nCsw : Int) - 2) ∧
      v = Gen.vertdiff_value ((attr name).get Kn J I) ∧
      vertdiffSeq g attr name X Y Z = some (some v) ∧ 0 ≤ v := by
  have cj := C15.clampIdx_range g.H.jmax (trunc (round Y) - g.j0) hHj
  have ci := C15.clampIdx_range g.H.imax (trunc (round X) - g.i0) hHi
  refine ⟨_, _, _, _, _, _, rfl, rfl, ⟨cj, ci⟩, Bridge.chem_z2s_spec _ _ _ _, rfl, by omega, rfl, ?_, ?_⟩
  · rw [Bridge.chem_forcing_vertdiff]
    rfl
  · exact (vertdiff_and_weight _ 0 0 0).1

example := c15_vertdiff_interior_nonneg c15x_G c15x_Attr "AKs" (13 / 10) 3 12 (by decide) (by decide) (by decide)

/-- **`vertdiff` reads the w-level nearest to the particle**: `Kn` is the integer nearest to the fractional level `K − A`
(the depth is `A · z_w[K − 1] + (1 − A) · z_w[K]`, `c15_z2s_brackets`), kept inside `[1, len(Cs_w) − 2]`.
Hypothesis: `C15Laws` (`round` gives an integer within one half). -/
theorem c15_vertdiff_nearest_level (L : C15Laws α) (g : GridEnv α) (attr : String → Arr3 α) (name : String)
    (X Y Z : α) :
    ∃ (K : Int) (A : α) (kn : Int), z2sSeq g.z_w (.int (cellIndex g.H.imax g.i0 X)) (.int (cellIndex g.H.jmax g.j0 Y)) Z = some (some (K, A)) ∧
      ((kn : α) - 1 / 2 ≤ (K : α) - A ∧ (K : α) - A ≤ (kn : α) + 1 / 2) ∧
      vertdiffSeq g attr name X Y Z = some (some (Gen.vertdiff_value
        ((attr name).get (max 1 (min ((g.nCsw : Int) - 2) kn)) (cellIndex g.H.jmax g.j0 Y) (cellIndex g.H.imax g.i0 X)))) := by
  rw [Bridge.chem_z2s_spec, Bridge.chem_forcing_vertdiff]
  unfold vertdiffSpec vertdiffSpecWith
  simp only [L.ofInt_cast]
  generalize z2sSpec g.z_w _ _ Z = p
  exact ⟨p.1, p.2, _, rfl, c15_round_index L _, rfl⟩

example := c15_vertdiff_nearest_level c15_laws_rat c15x_G c15x_Attr "AKs" (13 / 10) 3 12

/-! ## `Forcing.horzdiff` -/

/-- **`Forcing.horzdiff`** (clause "horizontal diffusivity is non-negative and zero on land").  For every position the
interpretation of `Gen.chem_forcing_horzdiff_seq` returns a value `≥ 0`, and `0` whenever the interpreted `Grid.atsea`
says the particle's cell is land.
Hypotheses (valid configuration): `dx ≥ 0` inside its shape (`dx = 1 / pm`), `dx` has the shape of `H`, at least two
rows and columns (forced by `Bridge.chem_forcing_horzdiff_stencil_range`: the stencil `J, J + 1`, `I, I + 1`). -/
theorem c15_horzdiff_sign (g : GridEnv α) (attr : String → Arr3 α) (X Y Z : α)
    (hj : 2 ≤ g.H.jmax) (hi : 2 ≤ g.H.imax) (hsh : g.dx.jmax = g.H.jmax ∧ g.dx.imax = g.H.imax)
    (hdx : ∀ j i, c15In2 g.dx j i → 0 ≤ g.dx.get j i) :
    ∃ v, horzdiffSeq g attr X Y Z = some (some v) ∧ 0 ≤ v ∧ (atseaSeq g X Y = some (some false) → v = 0) := by
  refine ⟨_, Bridge.chem_forcing_horzdiff g attr X Y Z, ?_⟩
  unfold horzdiffSpec horzdiffSpecWith
  simp only
  constructor
  · apply C15.horzdiff_nonneg
    apply hdx
    have a := Bridge.chem_forcing_horzdiff_stencil_range g.H.jmax (trunc (round Y) - g.j0) hj
    have b := Bridge.chem_forcing_horzdiff_stencil_range g.H.imax (trunc (round X) - g.i0) hi
    unfold c15In2
    rw [hsh.1, hsh.2]
    omega
  · intro h
    rw [Bridge.chem_grid_atsea] at h
    simp only [Option.some.injEq] at h
    rw [h]
    exact C15.horzdiff_zero_on_land _ _ _

example := c15_horzdiff_sign c15x_G c15x_Attr (13 / 10) 3 12 (by decide) (by decide) ⟨rfl, rfl⟩
  (fun _ _ _ => by show (0 : ℚ) ≤ 800; norm_num)

/-- the stencil of `horzdiff`: the generated Smagorinsky window `Gen.horzdiff_smag` on the reads at `K, K − 1`,
`J, J + 1`, `I, I + 1` — all inside the arrays for every position (`J, I` clipped to `[0, n − 2]`). -/
theorem c15_horzdiff_stencil (g : GridEnv α) (attr : String → Arr3 α) (X Y Z : α)
    (hj : 2 ≤ g.H.jmax) (hi : 2 ≤ g.H.imax) (hk : 2 ≤ g.z_r.kmax) :
    ∃ K A J I sea, z2sSeq g.z_r (.int I) (.int J) Z = some (some (K, A)) ∧ atseaSeq g X Y = some (some sea) ∧
      (1 ≤ K ∧ K ≤ (g.z_r.kmax : Int) - 1) ∧ (0 ≤ J ∧ J + 1 ≤ (g.H.jmax : Int) - 1) ∧
      (0 ≤ I ∧ I + 1 ≤ (g.H.imax : Int) - 1) ∧
      horzdiffSeq g attr X Y Z = some (some (Gen.horzdiff_smag A
        ((attr "U").get K J I) ((attr "U").get (K - 1) J I) ((attr "U").get K (J + 1) I) ((attr "U").get (K - 1) (J + 1) I)
        ((attr "V").get K J I) ((attr "V").get (K - 1) J I) ((attr "V").get K J (I + 1)) ((attr "V").get (K - 1) J (I + 1))
        (g.dx.get J I) sea)) := by
  have a := Bridge.chem_forcing_horzdiff_stencil_range g.H.jmax (trunc (round Y) - g.j0) hj
  have b := Bridge.chem_forcing_horzdiff_stencil_range g.H.imax (trunc (round X) - g.i0) hi
  refine ⟨_, _, _, _, _, Bridge.chem_z2s_spec _ _ _ _, Bridge.chem_grid_atsea g X Y,
    Bridge.chem_z2s_level_range _ _ _ _ hk, a, b, ?_⟩
  rw [Bridge.chem_forcing_horzdiff, ← Bridge.horzdiff_smag]
  rfl

example := c15_horzdiff_stencil c15x_G c15x_Attr (13 / 10) 3 12 (by decide) (by decide) (by decide)

/-! ## `_clamp_index` and the cell queries of `Grid` -/

/-- **`_clamp_index`** (no scalar type involved): the interpretation of `Gen.chem_clamp_index_seq` returns indices inside
the shape for every input; an index inside is unchanged, a negative one becomes 0 (no wrap-around), one beyond the end
becomes the last (no `IndexError`). -/
theorem c15_clamp_index_total (I J : Int) (shape : Nat × Nat) (hj : 1 ≤ shape.1) (hi : 1 ≤ shape.2) :
    ∃ I' J', clampIndexSeq I J shape = some (some (I', J')) ∧
      (0 ≤ I' ∧ I' < (shape.2 : Int)) ∧ (0 ≤ J' ∧ J' < (shape.1 : Int)) ∧
      (0 ≤ I → I < (shape.2 : Int) → I' = I) ∧ (I < 0 → I' = 0) ∧ ((shape.2 : Int) ≤ I → I' = (shape.2 : Int) - 1) ∧
      (0 ≤ J → J < (shape.1 : Int) → J' = J) ∧ (J < 0 → J' = 0) ∧ ((shape.1 : Int) ≤ J → J' = (shape.1 : Int) - 1) := by
  refine ⟨_, _, Bridge.chem_clamp_index I J shape, ?_⟩
  unfold clampIdx
  omega

example := c15_clamp_index_total (-1) 7 (5, 6) (by decide) (by decide)

/-- **`Grid.sample_depth`, `Grid.atsea`, `Grid.sample_metric` (chemicals)**: for every position one stored value, of
the particle's own cell clamped to the array (`cellIndex`; `c15_cellIndex_inside`: inside the shape,
`c15_cellIndex_position`: the nearest edge cell outside). -/
theorem c15_grid_cell_queries (g : GridEnv α) (X Y : α) :
    sampleDepthSeq g X Y = some (some (g.H.get (cellIndex g.H.jmax g.j0 Y) (cellIndex g.H.imax g.i0 X))) ∧
    atseaSeq g X Y = some (some (decide (0 < g.M.get (cellIndex g.M.jmax g.j0 Y) (cellIndex g.M.imax g.i0 X)))) ∧
    sampleMetricSeq g X Y = some (some (g.dx.get (cellIndex g.dx.jmax g.j0 Y) (cellIndex g.dx.imax g.i0 X),
      g.dx.get (cellIndex g.dx.jmax g.j0 Y) (cellIndex g.dx.imax g.i0 X))) := by
  refine ⟨Bridge.chem_grid_sample_depth g X Y, ?_, Bridge.chem_grid_sample_metric g X Y⟩
  rw [Bridge.chem_grid_atsea]
  unfold Arr2.atCell
  lits

example := c15_grid_cell_queries c15x_G (13 / 10) 3

/-- the cell index of these queries is inside the array whatever the position -/
theorem c15_cellIndex_inside (n : Nat) (hn : 1 ≤ n) (i0 : Int) (x : α) :
    0 ≤ cellIndex n i0 x ∧ cellIndex n i0 x < (n : Int) :=
  C15.clampIdx_range n _ hn

/-- **`Grid.onland`, `Grid.lonlat`**: `onland` and `lonlat(method='nearest')` read the clamped own cell, the bilinear
`lonlat` is `xy2ll` (`c15_xy2ll_clamps`). -/
theorem c15_grid_onland_lonlat (nextafter0 : α → α) (sample2D : Arr2 α → α → α → α) (g : GridEnv α) (X Y : α) :
    gcOnlandSeq g X Y = some (some (decide (g.M.get (cellIndex g.M.jmax g.j0 Y) (cellIndex g.M.imax g.i0 X) < 1))) ∧
    gcLonlatSeq nextafter0 sample2D g X Y false = some (some
      (g.lon.get (cellIndex g.lon.jmax g.j0 Y) (cellIndex g.lon.imax g.i0 X),
       g.lat.get (cellIndex g.lon.jmax g.j0 Y) (cellIndex g.lon.imax g.i0 X))) ∧
    gcLonlatSeq nextafter0 sample2D g X Y true = xy2llSeq nextafter0 sample2D g X Y := by
  refine ⟨?_, Bridge.chem_grid_lonlat nextafter0 sample2D g X Y false, ?_⟩
  · rw [Bridge.chem_grid_onland]
    unfold Arr2.atCell
    lits
  · rw [Bridge.chem_grid_lonlat, Bridge.chem_grid_xy2ll]
    rfl

example := c15_grid_onland_lonlat c15x_Next c15x_Sample c15x_G (13 / 10) 3

/-- **`Grid.ingrid`** (clause "… so that a particle leaving through an open boundary is retired by LADiM"): total — it
returns a Boolean for every position — and true exactly within half a cell of the node range.  (What LADiM does with
`False` — it retires the particle — is LADiM's, not in this package.) -/
theorem c15_ingrid_total (g : GridEnv α) (X Y : α) :
    ∃ b, ingridSeq g X Y = some (some b) ∧
      (b = true ↔ (g.xmin - 0.5 < X ∧ X < g.xmax + 0.5 ∧ g.ymin - 0.5 < Y ∧ Y < g.ymax + 0.5)) := by
  refine ⟨_, Bridge.chem_grid_ingrid g X Y, ?_⟩
  simp only [GridSample.ingrid, Bool.and_eq_true, decide_eq_true_eq]
  tauto

example := c15_ingrid_total c15x_G (13 / 10) 3

/-! ## from the configuration to the queries: the grid that `Grid.__init__` builds -/

theorem c15_cellIndex_global (n : Nat) (a b : Int) (hn : (n : Int) = b - a) (x : α) :
    cellIndex n a x = min (max (trunc (round x)) a) (b - 1) - a := by
  unfold cellIndex clampIdx
  omega

/-- **`Grid(config)` then `sample_depth` / `atsea` / `sample_metric`, for every position** (clause "every grid … query …
returns the value of the nearest edge cell instead of failing or wrapping around to the opposite side").  If the
interpretation of `Gen.chem_grid_ctor_seq` returns a grid `g` (from the file `f` with the limits `lim = (i0, i1, j0, j1)`),
then for *every* position the three interpreted queries return the *file's* `h`, `mask_rho`, `1 / pm` at
`(jc, ic)` = the rounded position clamped to `[j0, j1 − 1] × [i0, i1 − 1]`: the own cell inside the subgrid, the nearest
edge cell of the subgrid outside it (one cell or any distance, all four sides), never a cell of the opposite side.
Hypotheses forced by `Bridge.chem_grid_ctor_arrays`: `GcValid` (`0 ≤ i0 ≤ i1 ≤ imax`, `0 ≤ j0 ≤ j1 ≤ jmax` of the file — the
constructor itself does not check this; with a negative bound the slices count from the end) and the file's 2-D
variables have the shape of `h`. -/
theorem c15_ctor_queries_nearest_edge (E : GcEnv α) (cfg : GcConfig α) (g : GcGrid α)
    (hg : gridCtor E cfg = some (some g)) :
    ∃ ref f lim, gcGridFileOf cfg = some ref ∧ ref.content = some f ∧
      gcLimits (f.h.imax : Int) (f.h.jmax : Int) cfg.subgrid = some lim ∧
      (Bridge.GcValid f lim →
       (∀ A : Arr2 α, A ∈ [f.mask_rho, f.pm, f.lon_rho, f.lat_rho] → A.jmax = f.h.jmax ∧ A.imax = f.h.imax) →
       ∀ X Y : α, ∃ jc ic : Int,
         jc = min (max (trunc (round Y)) lim.2.2.1) (lim.2.2.2 - 1) ∧
         ic = min (max (trunc (round X)) lim.1) (lim.2.1 - 1) ∧
         (lim.2.2.1 ≤ jc ∧ jc < lim.2.2.2) ∧ (lim.1 ≤ ic ∧ ic < lim.2.1) ∧
         sampleDepthSeq g.env X Y = some (some (f.h.get jc ic)) ∧
         atseaSeq g.env X Y = some (some (decide (0 < (ofInt (trunc (f.mask_rho.get jc ic)) : α)))) ∧
         sampleMetricSeq g.env X Y = some (some (1.0 / f.pm.get jc ic, 1.0 / f.pm.get jc ic))) := by
  obtain ⟨ref, f, lim, sl, masks, h1, h2, h3, h4, h5, h6⟩ := (Bridge.chem_grid_ctor_some E cfg g).mp hg
  subst h6
  refine ⟨ref, f, lim, h1, h2, h3, ?_⟩
  intro hv hshape X Y
  have hm := (Bridge.chem_grid_ctor_masks f lim).mp (by rw [h5]; rfl)
  obtain ⟨shapes, gets⟩ := Bridge.chem_grid_ctor_arrays E ref f lim sl masks hv hshape
  have sH := shapes _ (List.mem_cons_self)
  have sM := shapes (gcBuild E ref f lim sl masks).env.M (by simp)
  have sD := shapes (gcBuild E ref f lim sl masks).env.dx (by simp)
  obtain ⟨q1, q2, q3⟩ := c15_grid_cell_queries (gcBuild E ref f lim sl masks).env X Y
  obtain ⟨g1, g2, g3, _⟩ := gets (min (max (trunc (round Y)) lim.2.2.1) (lim.2.2.2 - 1))
    (min (max (trunc (round X)) lim.1) (lim.2.1 - 1))
  have ej : (gcBuild E ref f lim sl masks).env.j0 = lim.2.2.1 := rfl
  have ei : (gcBuild E ref f lim sl masks).env.i0 = lim.1 := rfl
  rw [ej, ei] at q1 q2 q3 g1 g2 g3
  refine ⟨_, _, rfl, rfl, by omega, by omega, ?_, ?_, ?_⟩
  · rw [q1, c15_cellIndex_global _ _ _ sH.1, c15_cellIndex_global _ _ _ sH.2, g1]
  · rw [q2, c15_cellIndex_global _ _ _ sM.1, c15_cellIndex_global _ _ _ sM.2, g2]
  · rw [q3, c15_cellIndex_global _ _ _ sD.1, c15_cellIndex_global _ _ _ sD.2, g3]

/-- the hypotheses of `c15_ctor_queries_nearest_edge` and `c15_ctor_sample_depth_inside` (with `c15_laws_rat`) hold for
the configuration `c15x_Cfg`: the constructor returns a grid, the subgrid is valid, the file variables have one shape -/
example : ∃ g : GcGrid ℚ, ∃ ref f lim, gcGridFileOf c15x_Cfg = some ref ∧ ref.content = some f ∧
    gcLimits (f.h.imax : Int) (f.h.jmax : Int) c15x_Cfg.subgrid = some lim ∧ Bridge.GcValid f lim ∧
    (∀ A : Arr2 ℚ, A ∈ [f.mask_rho, f.pm, f.lon_rho, f.lat_rho] → A.jmax = f.h.jmax ∧ A.imax = f.h.imax) ∧
    gridCtor c15x_E c15x_Cfg = some (some g) := by
  obtain ⟨g, hg⟩ := c15x_Ctor
  refine ⟨g, _, c15x_File, c15x_Lim, rfl, rfl, rfl, c15x_Valid, ?_, hg⟩
  intro A hA
  simp only [List.mem_cons, List.not_mem_nil, or_false] at hA
  rcases hA with h | h | h | h <;> subst h <;> exact ⟨rfl, rfl⟩

/-- **inside the grid (`Grid.ingrid` of the code is true) nothing is clamped; at a grid node the depth is the grid
depth** (clause "bathymetry sampling returns the grid depth at grid nodes", for the chemicals grid whose `sample_depth`
is nearest-cell).  Hypotheses: `GcValid` (bridge `chem_grid_ingrid_sample_depth`), `C15Laws` (gives the bridge's
`GcRoundLaw`). -/
theorem c15_ctor_sample_depth_inside (L : C15Laws α) (E : GcEnv α) (cfg : GcConfig α) (g : GcGrid α)
    (hg : gridCtor E cfg = some (some g)) :
    ∃ ref f lim, gcGridFileOf cfg = some ref ∧ ref.content = some f ∧
      gcLimits (f.h.imax : Int) (f.h.jmax : Int) cfg.subgrid = some lim ∧
      (Bridge.GcValid f lim →
        (∀ X Y : α, ingridSeq g.env X Y = some (some true) →
          sampleDepthSeq g.env X Y = some (some (f.h.get (trunc (round Y)) (trunc (round X))))) ∧
        (∀ i j : Int, lim.1 ≤ i → i < lim.2.1 → lim.2.2.1 ≤ j → j < lim.2.2.2 →
          ingridSeq g.env ((i : Int) : α) ((j : Int) : α) = some (some true) ∧
          sampleDepthSeq g.env ((i : Int) : α) ((j : Int) : α) = some (some (f.h.get j i)))) := by
  obtain ⟨ref, f, lim, sl, masks, h1, h2, h3, _, _, h6⟩ := (Bridge.chem_grid_ctor_some E cfg g).mp hg
  refine ⟨ref, f, lim, h1, h2, h3, fun hv => ?_⟩
  have first : ∀ X Y : α, ingridSeq g.env X Y = some (some true) →
      sampleDepthSeq g.env X Y = some (some (f.h.get (trunc (round Y)) (trunc (round X)))) := by
    intro X Y hin
    subst h6
    rw [Bridge.chem_grid_ingrid] at hin
    exact Bridge.chem_grid_ingrid_sample_depth (Bridge.gc_roundLaw_of_field L.ofInt_cast L.round_near L.trunc_cast)
      E ref f lim sl masks hv X Y (Option.some.inj (Option.some.inj hin))
  refine ⟨first, ?_⟩
  intro i j i0 i1 j0 j1
  have hin : ingridSeq g.env ((i : Int) : α) ((j : Int) : α) = some (some true) := by
    rw [Bridge.chem_grid_ingrid]
    subst h6
    show some (some (GridSample.ingrid (ofInt lim.1) (ofInt (lim.2.1 - 1)) (ofInt lim.2.2.1) (ofInt (lim.2.2.2 - 1))
      ((i : Int) : α) ((j : Int) : α))) = _
    simp only [GridSample.ingrid, L.ofInt_cast, Option.some.injEq, Bool.and_eq_true, decide_eq_true_eq]
    have e : (0.5 : α) = 1 / 2 := by norm_num
    rw [e]
    obtain ⟨x1, x2⟩ := c15_int_half (α := α) i0 (show i ≤ lim.2.1 - 1 by omega)
    obtain ⟨y1, y2⟩ := c15_int_half (α := α) j0 (show j ≤ lim.2.2.2 - 1 by omega)
    exact ⟨⟨⟨x1, x2⟩, y1⟩, y2⟩
  refine ⟨hin, ?_⟩
  have := first _ _ hin
  rwa [c15_round_int L, c15_round_int L] at this

example : ∃ g : GcGrid ℚ, gridCtor c15x_E c15x_Cfg = some (some g) := c15x_Ctor

/-! ## sedimentation `Grid.sample_depth` (bilinear) -/

/-- one axis of `map_coordinates(…, order=1, mode='nearest')` (reference meaning): the clamped coordinate, the lower
node of its cell, the fraction -/
theorem c15_axis (L : C15Laws α) (n : Nat) (hn : 2 ≤ n) (x : α) :
    ∃ (xc : α) (c : Int), xc = fmin (fmax x 0.0) (ofInt (n : Int) - 1.0) ∧
      c = max (min (trunc xc) ((n : Int) - 2)) 0 ∧
      (0 ≤ c ∧ c + 1 ≤ (n : Int) - 1) ∧ (0 ≤ xc - ofInt c ∧ xc - ofInt c ≤ 1) ∧
      (∀ k : Int, 0 ≤ k → k ≤ (n : Int) - 1 → x = (k : α) →
        (c = k ∧ xc - ofInt c = 0) ∨ (c + 1 = k ∧ xc - ofInt c = 1)) := by
  have etop : (ofInt (n : Int) - 1.0 : α) = (((n : Int) - 1 : Int) : α) := by
    rw [L.ofInt_cast, lit_1, Int.cast_sub, Int.cast_one]
  refine ⟨_, _, rfl, rfl, by omega, ?_⟩
  rw [etop, lit_0, L.ofInt_cast]
  obtain ⟨⟨b0, b1⟩, bid, _, _⟩ := c15_clip x 0 (((n : Int) - 1 : Int) : α) (Int.cast_nonneg (by omega))
  generalize fmin (fmax x 0) (((n : Int) - 1 : Int) : α) = xc at b0 b1 bid
  obtain ⟨t1, t2⟩ := L.trunc_floor xc b0
  have ht0 : 0 ≤ trunc xc := c15_int_le_of_lt (α := α) (by rw [Int.cast_zero]; exact b0.trans_lt t2)
  have ht1 : trunc xc ≤ (n : Int) - 1 := c15_int_le_of_lt ((t1.trans b1).trans_lt (lt_add_one _))
  -- at a node the clamped coordinate is the node, and so is its truncation
  have node : ∀ k : Int, 0 ≤ k → k ≤ (n : Int) - 1 → x = (k : α) → trunc xc = k ∧ xc = (k : α) := by
    intro k k0 k1 hx
    have : xc = (k : α) := by
      rw [← hx]
      exact bid (hx ▸ Int.cast_nonneg k0) (hx ▸ Int.cast_le.mpr k1)
    exact ⟨this ▸ L.trunc_cast k, this⟩
  by_cases hc : trunc xc ≤ (n : Int) - 2
  · rw [show max (min (trunc xc) ((n : Int) - 2)) 0 = trunc xc by omega]
    refine ⟨⟨sub_nonneg.mpr t1, sub_le_iff_le_add'.mpr t2.le⟩, fun k k0 k1 hx => Or.inl ?_⟩
    obtain ⟨e1, e2⟩ := node k k0 k1 hx
    rw [e1, e2]
    exact ⟨rfl, sub_self _⟩
  · -- the last node: the cell is the one below it, the fraction 1
    have et : trunc xc = (n : Int) - 1 := by omega
    have hxc : xc = (((n : Int) - 1 : Int) : α) := le_antisymm b1 (et ▸ t1)
    rw [show max (min (trunc xc) ((n : Int) - 2)) 0 = (n : Int) - 1 - 1 by omega, hxc,
      Int.cast_sub ((n : Int) - 1) 1, Int.cast_one, sub_sub_cancel]
    refine ⟨⟨zero_le_one, le_rfl⟩, fun k k0 k1 hx => Or.inr ⟨?_, rfl⟩⟩
    have := (node k k0 k1 hx).1
    omega

/-- **sedimentation `Grid.sample_depth`** (clauses "bilinear bathymetry sampling returns … a value between the four
surrounding depths elsewhere", "… instead of failing or wrapping around").  With the reference meaning `mapNearestRef` of
`scipy.ndimage.map_coordinates(…, order=1, mode='nearest')` (a parameter of the interpretation) the interpretation of
`Gen.sed_grid_sample_depth_seq` returns, for every position, `bilinear p q` of the four depths of a cell `j0, j0 + 1`,
`i0, i0 + 1` inside the array with `p, q ∈ [0, 1]`, hence a value between those four depths.
Hypotheses: `C15Laws` (truncation is the floor of a non-negative number), at least two rows and columns. -/
theorem c15_sed_sample_depth_between (L : C15Laws α) (g : GridEnv α) (X Y : α) (hj : 2 ≤ g.H.jmax) (hi : 2 ≤ g.H.imax) :
    ∃ (v : α) (j0 i0 : Int) (p q : α),
      sedSampleDepthSeq mapNearestRef g X Y = some (some v) ∧
      (0 ≤ j0 ∧ j0 + 1 ≤ (g.H.jmax : Int) - 1) ∧ (0 ≤ i0 ∧ i0 + 1 ≤ (g.H.imax : Int) - 1) ∧
      (0 ≤ p ∧ p ≤ 1) ∧ (0 ≤ q ∧ q ≤ 1) ∧
      v = bilinear p q (g.H.get j0 i0) (g.H.get j0 (i0 + 1)) (g.H.get (j0 + 1) i0) (g.H.get (j0 + 1) (i0 + 1)) ∧
      (∀ lo hi : α, (lo ≤ g.H.get j0 i0 ∧ g.H.get j0 i0 ≤ hi) → (lo ≤ g.H.get j0 (i0 + 1) ∧ g.H.get j0 (i0 + 1) ≤ hi) →
        (lo ≤ g.H.get (j0 + 1) i0 ∧ g.H.get (j0 + 1) i0 ≤ hi) →
        (lo ≤ g.H.get (j0 + 1) (i0 + 1) ∧ g.H.get (j0 + 1) (i0 + 1) ≤ hi) → lo ≤ v ∧ v ≤ hi) := by
  obtain ⟨xc, ci, rfl, rfl, ri, pi, _⟩ := c15_axis L g.H.imax hi (X - ofInt g.i0)
  obtain ⟨yc, cj, rfl, rfl, rj, pj, _⟩ := c15_axis L g.H.jmax hj (Y - ofInt g.j0)
  refine ⟨_, _, _, _, _, Bridge.sed_grid_sample_depth_ref g X Y, rj, ri, pi, pj, rfl, ?_⟩
  intro lo hi h1 h2 h3 h4
  exact C15.bilinear_between _ _ _ _ _ _ lo hi pi.1 pi.2 pj.1 pj.2 h1 h2 h3 h4

example := c15_sed_sample_depth_between c15_laws_rat c15x_G (13 / 10) 3 (by decide) (by decide)

/-- **… is exact at the grid nodes** (clause "returns the grid depth at grid nodes"): at the node `(i0 + i, j0 + j)` of the
subgrid the value is `H[j, i]`, the last row and column included. -/
theorem c15_sed_sample_depth_at_nodes (L : C15Laws α) (g : GridEnv α) (hj : 2 ≤ g.H.jmax) (hi : 2 ≤ g.H.imax)
    (i j : Int) (hi0 : 0 ≤ i) (hi1 : i ≤ (g.H.imax : Int) - 1) (hj0 : 0 ≤ j) (hj1 : j ≤ (g.H.jmax : Int) - 1) :
    sedSampleDepthSeq mapNearestRef g ((g.i0 + i : Int) : α) ((g.j0 + j : Int) : α) = some (some (g.H.get j i)) := by
  have ex : (((g.i0 + i : Int) : α) - ofInt g.i0) = (i : α) := by rw [L.ofInt_cast]; push_cast; ring
  have ey : (((g.j0 + j : Int) : α) - ofInt g.j0) = (j : α) := by rw [L.ofInt_cast]; push_cast; ring
  obtain ⟨xc, ci, hxc, hci, ri, pi, ni⟩ := c15_axis L g.H.imax hi (i : α)
  obtain ⟨yc, cj, hyc, hcj, rj, pj, nj⟩ := c15_axis L g.H.jmax hj (j : α)
  rw [Bridge.sed_grid_sample_depth_ref, ex, ey]
  unfold mapNearestRef
  simp only
  rw [← hxc, ← hyc, ← hci, ← hcj]
  obtain ⟨n1, n2, n3, n4⟩ := C15.bilinear_at_node (g.H.get cj ci) (g.H.get cj (ci + 1)) (g.H.get (cj + 1) ci)
    (g.H.get (cj + 1) (ci + 1))
  rcases ni i hi0 hi1 rfl with ⟨a1, a2⟩ | ⟨a1, a2⟩ <;> rcases nj j hj0 hj1 rfl with ⟨b1, b2⟩ | ⟨b1, b2⟩
  · rw [a2, b2, n1, a1, b1]
  · rw [a2, b2, n3, a1, b1]
  · rw [a2, b2, n2, a1, b1]
  · rw [a2, b2, n4, a1, b1]

example : sedSampleDepthSeq mapNearestRef c15x_G ((((1 : Int) + 1 : Int) : ℚ)) ((((1 : Int) + 0 : Int) : ℚ))
    = some (some (c15x_H.get 0 1)) :=
  c15_sed_sample_depth_at_nodes c15_laws_rat c15x_G (by decide) (by decide) 1 0 (by decide) (by decide) (by decide)
    (by decide)

/-- **… and outside the array it is the value at the nearest point of the edge**: the position `(X, Y)` and the position
`(X', Y')` whose local coordinates are those of `(X, Y)` clamped to `[0, n − 1]` give the same depth. -/
theorem c15_sed_sample_depth_edge (L : C15Laws α) (g : GridEnv α) (X Y X' Y' : α) (hj : 1 ≤ g.H.jmax) (hi : 1 ≤ g.H.imax)
    (hx : X' - ofInt g.i0 = fmin (fmax (X - ofInt g.i0) 0.0) (ofInt (g.H.imax : Int) - 1.0))
    (hy : Y' - ofInt g.j0 = fmin (fmax (Y - ofInt g.j0) 0.0) (ofInt (g.H.jmax : Int) - 1.0)) :
    sedSampleDepthSeq mapNearestRef g X Y = sedSampleDepthSeq mapNearestRef g X' Y' := by
  -- clamping a clamped coordinate changes nothing
  have idem : ∀ (x : α) (n : Nat), 1 ≤ n → fmin (fmax (fmin (fmax x 0.0) (ofInt (n : Int) - 1.0)) 0.0)
      (ofInt (n : Int) - 1.0) = fmin (fmax x 0.0) (ofInt (n : Int) - 1.0) := by
    intro x n hn
    have htop : (0.0 : α) ≤ ofInt (n : Int) - 1.0 := by
      rw [L.ofInt_cast, lit_0, lit_1]
      exact sub_nonneg.mpr (by exact_mod_cast hn)
    exact (c15_clip _ _ _ htop).2.1 (clip_mem x htop).1 (clip_mem x htop).2
  rw [Bridge.sed_grid_sample_depth_ref, Bridge.sed_grid_sample_depth_ref]
  unfold mapNearestRef
  simp only
  rw [hx, hy, idem _ _ hi, idem _ _ hj]

example := c15_sed_sample_depth_edge c15_laws_rat c15x_G (-3) 9 1 2 (by decide) (by decide)
  (by norm_num [c15x_G, c15x_H, fmin, fmax, HasOfInt.ofInt]) (by norm_num [c15x_G, c15x_H, fmin, fmax, HasOfInt.ofInt])

/-! ## grid ↔ lon/lat -/

/-- **`Grid.xy2ll` (chemicals) clamps outside the grid** (clause "grid to lon/lat conversions … clamp outside it"): the
interpretation of `Gen.chem_grid_xy2ll_seq` is `sample2D` of `lon`, `lat` at a local coordinate inside
`[0, nextafter(n − 1, 0)]` — the position's own inside, the nearest bound outside.
Hypotheses on the parameter `nextafter0` (= `np.nextafter(·, 0)`): `0 ≤ nextafter(n − 1, 0)` (true for `n ≥ 2`). -/
theorem c15_xy2ll_clamps {β : Type} (nextafter0 : α → α) (sample2D : Arr2 α → α → α → β) (g : GridEnv α) (X Y : α)
    (hx : 0 ≤ nextafter0 (ofInt (g.lon.imax : Int) - 1.0)) (hy : 0 ≤ nextafter0 (ofInt (g.lon.jmax : Int) - 1.0)) :
    ∃ x y : α, xy2llSeq nextafter0 sample2D g X Y = some (some (sample2D g.lon x y, sample2D g.lat x y)) ∧
      (0 ≤ x ∧ x ≤ nextafter0 (ofInt (g.lon.imax : Int) - 1.0)) ∧
      (0 ≤ y ∧ y ≤ nextafter0 (ofInt (g.lon.jmax : Int) - 1.0)) ∧
      (0 ≤ X - ofInt g.i0 → X - ofInt g.i0 ≤ nextafter0 (ofInt (g.lon.imax : Int) - 1.0) → x = X - ofInt g.i0) ∧
      (X - ofInt g.i0 ≤ 0 → x = 0) ∧
      (nextafter0 (ofInt (g.lon.imax : Int) - 1.0) ≤ X - ofInt g.i0 → x = nextafter0 (ofInt (g.lon.imax : Int) - 1.0)) ∧
      (0 ≤ Y - ofInt g.j0 → Y - ofInt g.j0 ≤ nextafter0 (ofInt (g.lon.jmax : Int) - 1.0) → y = Y - ofInt g.j0) ∧
      (Y - ofInt g.j0 ≤ 0 → y = 0) ∧
      (nextafter0 (ofInt (g.lon.jmax : Int) - 1.0) ≤ Y - ofInt g.j0 → y = nextafter0 (ofInt (g.lon.jmax : Int) - 1.0)) := by
  obtain ⟨a, a1, a2, a3⟩ := c15_clip (X - ofInt g.i0) 0 _ hx
  obtain ⟨b, b1, b2, b3⟩ := c15_clip (Y - ofInt g.j0) 0 _ hy
  refine ⟨_, _, ?_, a, b, a1, a2, a3, b1, b2, b3⟩
  rw [Bridge.chem_grid_xy2ll, xy2llSpec, lit_0]

example := c15_xy2ll_clamps c15x_Next c15x_Sample c15x_LL (-3) 9 (by norm_num [c15x_Next, c15x_LL, HasOfInt.ofInt])
  (by norm_num [c15x_Next, c15x_LL, HasOfInt.ofInt])

/-- **`xy2ll ∘ ll2xy` is the identity inside the grid** — as far as the parameters allow (`_partial`): `bilin_inv` and
`sample2D` are LADiM's own functions, parameters of the interpretation; *given* that `bilin_inv` returns a point of the
grid (`hx`, `hy`) at which `sample2D` reproduces `lon`, `lat` (`hinv`), the two interpreted methods compose to the identity:
the shifts by `i0`, `j0` cancel and `xy2ll` does not clamp.  What is missing: that LADiM's `bilin_inv` (20 Newton steps)
has this property is not in this package. -/
theorem c15_xy2ll_ll2xy_inverse_partial (nextafter0 : α → α) (sample2D : Arr2 α → α → α → α)
    (bilinInv : α → α → Arr2 α → Arr2 α → α × α) (g : GridEnv α) (lon lat : α)
    (hinv : sample2D g.lon (bilinInv lon lat g.lon g.lat).2 (bilinInv lon lat g.lon g.lat).1 = lon ∧
      sample2D g.lat (bilinInv lon lat g.lon g.lat).2 (bilinInv lon lat g.lon g.lat).1 = lat)
    (hx : 0 ≤ (bilinInv lon lat g.lon g.lat).2 ∧
      (bilinInv lon lat g.lon g.lat).2 ≤ nextafter0 (ofInt (g.lon.imax : Int) - 1.0))
    (hy : 0 ≤ (bilinInv lon lat g.lon g.lat).1 ∧
      (bilinInv lon lat g.lon g.lat).1 ≤ nextafter0 (ofInt (g.lon.jmax : Int) - 1.0)) :
    ∃ p : α × α, gcLl2xySeq bilinInv g lon lat = some (some p) ∧
      xy2llSeq nextafter0 sample2D g p.1 p.2 = some (some (lon, lat)) := by
  refine ⟨_, Bridge.chem_grid_ll2xy bilinInv g lon lat, ?_⟩
  rw [Bridge.chem_grid_xy2ll]
  unfold xy2llSpec gcLl2xySpec
  simp only [add_sub_cancel_right]
  rw [lit_0, (c15_clip _ 0 _ (le_trans hx.1 hx.2)).2.1 hx.1 hx.2, (c15_clip _ 0 _ (le_trans hy.1 hy.2)).2.1 hy.1 hy.2,
    hinv.1, hinv.2]

example := c15_xy2ll_ll2xy_inverse_partial c15x_Next c15x_Sample c15x_Inv c15x_LL (1 / 2) (1 / 4)
  (by norm_num [c15x_Sample, c15x_Inv, c15x_LL]) (by norm_num [c15x_Next, c15x_Inv, c15x_LL, HasOfInt.ofInt])
  (by norm_num [c15x_Next, c15x_Inv, c15x_LL, HasOfInt.ofInt])

/-- **`ll2xy ∘ xy2ll` is the identity inside the grid** — as far as the parameters allow (`_partial`, see above): for a
position with local coordinates inside `[0, nextafter(n − 1, 0)]`, given that `bilin_inv` inverts `sample2D` there. -/
theorem c15_ll2xy_xy2ll_inverse_partial (nextafter0 : α → α) (sample2D : Arr2 α → α → α → α)
    (bilinInv : α → α → Arr2 α → Arr2 α → α × α) (g : GridEnv α) (X Y : α)
    (hx : 0 ≤ X - ofInt g.i0 ∧ X - ofInt g.i0 ≤ nextafter0 (ofInt (g.lon.imax : Int) - 1.0))
    (hy : 0 ≤ Y - ofInt g.j0 ∧ Y - ofInt g.j0 ≤ nextafter0 (ofInt (g.lon.jmax : Int) - 1.0))
    (hinv : bilinInv (sample2D g.lon (X - ofInt g.i0) (Y - ofInt g.j0)) (sample2D g.lat (X - ofInt g.i0) (Y - ofInt g.j0))
      g.lon g.lat = (Y - ofInt g.j0, X - ofInt g.i0)) :
    ∃ ll : α × α, xy2llSeq nextafter0 sample2D g X Y = some (some ll) ∧
      gcLl2xySeq bilinInv g ll.1 ll.2 = some (some (X, Y)) := by
  refine ⟨_, Bridge.chem_grid_xy2ll nextafter0 sample2D g X Y, ?_⟩
  rw [Bridge.chem_grid_ll2xy]
  unfold xy2llSpec gcLl2xySpec
  simp only
  rw [lit_0, (c15_clip _ 0 _ (le_trans hx.1 hx.2)).2.1 hx.1 hx.2, (c15_clip _ 0 _ (le_trans hy.1 hy.2)).2.1 hy.1 hy.2,
    hinv]
  simp only [sub_add_cancel]

example := c15_ll2xy_xy2ll_inverse_partial c15x_Next c15x_Sample c15x_Inv c15x_LL (3 / 2) (5 / 4)
  (by norm_num [c15x_Next, c15x_LL, c15x_G, HasOfInt.ofInt]) (by norm_num [c15x_Next, c15x_LL, c15x_G, HasOfInt.ofInt])
  (by norm_num [c15x_Sample, c15x_Inv, c15x_LL, c15x_G, HasOfInt.ofInt])

/-- **sedimentation `Grid.xy2ll` clamps the global coordinate to the subgrid** before it calls the parent's `xy2ll`
(parameter `superXy2ll`): inside `[i0, nextafter(i0 + n − 1, 0)]` the position itself. -/
theorem c15_sed_xy2ll_clamps {β : Type} (nextafter0 : α → α) (superXy2ll : α → α → β) (g : GridEnv α) (X Y : α)
    (hx : ofInt g.i0 ≤ nextafter0 (ofInt (g.i0 + (g.lon.imax : Int)) - 1.0))
    (hy : ofInt g.j0 ≤ nextafter0 (ofInt (g.j0 + (g.lon.jmax : Int)) - 1.0)) :
    ∃ x y : α, sedXy2llSeq nextafter0 superXy2ll g X Y = some (some (superXy2ll x y)) ∧
      (ofInt g.i0 ≤ x ∧ x ≤ nextafter0 (ofInt (g.i0 + (g.lon.imax : Int)) - 1.0)) ∧
      (ofInt g.j0 ≤ y ∧ y ≤ nextafter0 (ofInt (g.j0 + (g.lon.jmax : Int)) - 1.0)) ∧
      (ofInt g.i0 ≤ X → X ≤ nextafter0 (ofInt (g.i0 + (g.lon.imax : Int)) - 1.0) → x = X) ∧
      (ofInt g.j0 ≤ Y → Y ≤ nextafter0 (ofInt (g.j0 + (g.lon.jmax : Int)) - 1.0) → y = Y) := by
  obtain ⟨a, a1, _, _⟩ := c15_clip X _ _ hx
  obtain ⟨b, b1, _, _⟩ := c15_clip Y _ _ hy
  exact ⟨_, _, Bridge.sed_grid_xy2ll nextafter0 superXy2ll g X Y, a, b, a1, b1⟩

example := c15_sed_xy2ll_clamps c15x_Next (fun x y : ℚ => (x, y)) c15x_LL (-3) 9
  (by norm_num [c15x_Next, c15x_LL, c15x_G, HasOfInt.ofInt]) (by norm_num [c15x_Next, c15x_LL, c15x_G, HasOfInt.ofInt])

end field
end OnCode

