import LadimProofs.C20Measure
import LadimProofs.Laws
import LadimProofs.Bridge.Mixing
/-!
# C20 — the well-mixed theorem, stated for the generated code

`Gen.chem_diffuse_const` and `Gen.chem_reflect` are the statement windows of `chemicals/ibm.py :: diffuse_const` and
`reflect`, translated from /repo's current source on every run.  With the depth uniform on `[0,H]` and the draw `u`
uniform on `[0,1]`, independent, the depth after the constant-diffusivity random walk of the *code* is again uniform
on `[0,H]`, provided the largest possible step `sqrt(2D)·sqrt(3dt)` does not exceed the water depth.
-/
open MeasureTheory Set
open Ladim

set_option linter.unusedSectionVars false
set_option linter.unusedVariables false
namespace OnCode

/-- the largest possible step of the constant-diffusivity walk -/
noncomputable def stepC (D dt : ℝ) : ℝ := Real.sqrt (2 * D) * Real.sqrt (3 * dt)

/-- the displacement as a function of the uniform draw `u` -/
noncomputable def disp (D dt u : ℝ) : ℝ := stepC D dt * (2 * u - 1)

theorem stepC_nonneg (D dt : ℝ) : 0 ≤ stepC D dt :=
  mul_nonneg (Real.sqrt_nonneg _) (Real.sqrt_nonneg _)

/-- the generated statement window of `diffuse_const` is `Z + disp u` -/
theorem chem_diffuse_const_eq (z D dt u : ℝ) :
    Gen.chem_diffuse_const z D dt u = z + disp D dt u := by
  unfold Gen.chem_diffuse_const disp stepC
  simp only [HasSqrt.sqrt]
  lits
  ring

/-- the generated update (walk, then reflection) is one step `T` of the measure-theoretic model -/
theorem chem_update_eq_T (H D dt u z : ℝ) :
    Gen.chem_reflect (Gen.chem_diffuse_const z D dt u) H = C20M.T H (disp D dt u) z := by
  rw [chem_diffuse_const_eq,
    ← Bridge.chem_reflect]
  rfl

theorem measurable_disp (D dt : ℝ) : Measurable (disp D dt) := by
  unfold disp
  fun_prop

theorem disp_neg (D dt u : ℝ) : -disp D dt u = disp D dt (1 - u) := by
  unfold disp
  ring

theorem abs_disp_le (D dt u : ℝ) (hu : u ∈ Icc (0 : ℝ) 1) : |disp D dt u| ≤ stepC D dt := by
  obtain ⟨h0, h1⟩ := hu
  unfold disp
  rw [abs_mul, abs_of_nonneg (stepC_nonneg D dt)]
  exact mul_le_of_le_one_right (stepC_nonneg D dt) (abs_le.mpr ⟨by linarith, by linarith⟩)

/-- `u ↦ 1 - u` preserves the uniform law on `[0,1]` -/
theorem map_one_sub_unit :
    (volume.restrict (Icc (0 : ℝ) 1)).map (fun u => 1 - u) = volume.restrict (Icc (0 : ℝ) 1) := by
  have hm : Measurable (fun u : ℝ => 1 - u) := by fun_prop
  ext A hA
  rw [Measure.map_apply hm hA, Measure.restrict_apply (hm hA), Measure.restrict_apply hA,
    ← C20M.volume_preimage_sub_left 1 (A ∩ Icc 0 1), preimage_inter, preimage_const_sub_Icc, sub_self, sub_zero]

/-- the law of the displacement: the image of the uniform law on `[0,1]` under `disp` -/
noncomputable def dispLaw (D dt : ℝ) : Measure ℝ :=
  (volume.restrict (Icc (0 : ℝ) 1)).map (disp D dt)

instance (D dt : ℝ) : IsProbabilityMeasure (dispLaw D dt) := by
  have : IsProbabilityMeasure (volume.restrict (Icc (0 : ℝ) 1)) :=
    ⟨by rw [Measure.restrict_apply_univ, Real.volume_Icc]; norm_num⟩
  exact Measure.isProbabilityMeasure_map (measurable_disp D dt).aemeasurable

theorem dispLaw_symm (D dt : ℝ) : (dispLaw D dt).map (fun d => -d) = dispLaw D dt := by
  unfold dispLaw
  rw [Measure.map_map measurable_neg (measurable_disp D dt)]
  have : (fun d : ℝ => -d) ∘ disp D dt = disp D dt ∘ fun u => 1 - u :=
    funext fun u => disp_neg D dt u
  rw [this, ← Measure.map_map (measurable_disp D dt) (by fun_prop), map_one_sub_unit]

theorem dispLaw_supp (D dt H : ℝ) (hstep : stepC D dt ≤ H) : ∀ᵐ d ∂(dispLaw D dt), |d| ≤ H := by
  unfold dispLaw
  have hm : MeasurableSet {d : ℝ | |d| ≤ H} := measurableSet_le (by fun_prop) measurable_const
  rw [ae_map_iff (measurable_disp D dt).aemeasurable hm]
  exact ae_restrict_of_forall_mem measurableSet_Icc
    fun u hu => (abs_disp_le D dt u hu).trans hstep

/-- C20 for the chemicals constant-diffusivity scheme, on the generated code: the uniform law on the column is
invariant under one update, for every diffusivity, time step and depth with `sqrt(2D)·sqrt(3dt) ≤ H` -/
theorem chem_const_walk_wellmixed (H D dt : ℝ) (hH : 0 ≤ H)
    (hstep : Real.sqrt (2 * D) * Real.sqrt (3 * dt) ≤ H) :
    ((volume.restrict (Icc (0 : ℝ) 1)).prod (volume.restrict (Icc 0 H))).map
        (fun p => Gen.chem_reflect (Gen.chem_diffuse_const p.2 D dt p.1) H)
      = volume.restrict (Icc 0 H) := by
  have hfun : (fun p : ℝ × ℝ => Gen.chem_reflect (Gen.chem_diffuse_const p.2 D dt p.1) H)
      = (fun p : ℝ × ℝ => C20M.T H p.1 p.2) ∘ Prod.map (disp D dt) id :=
    funext fun p => chem_update_eq_T H D dt p.1 p.2
  have hinv := C20M.wellmixed_invariant H hH (dispLaw D dt) (dispLaw_symm D dt)
    (dispLaw_supp D dt H hstep)
  have hprod : (dispLaw D dt).prod (volume.restrict (Icc 0 H))
      = ((volume.restrict (Icc (0 : ℝ) 1)).prod (volume.restrict (Icc 0 H))).map
          (Prod.map (disp D dt) id) := by
    have := Measure.map_prod_map (volume.restrict (Icc (0 : ℝ) 1)) (volume.restrict (Icc 0 H))
      (measurable_disp D dt) measurable_id
    rw [Measure.map_id] at this
    exact this
  rw [hfun, ← Measure.map_map (C20M.measurable_T_uncurry H hH)
    ((measurable_disp D dt).prodMap measurable_id), ← hprod]
  exact hinv

end OnCode
