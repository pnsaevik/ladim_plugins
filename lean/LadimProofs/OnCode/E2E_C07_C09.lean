import LadimProofs.C07
import LadimProofs.C09
import LadimProofs.Bridge.Seq
import LadimProofs.Bridge.BioSeq
import LadimProofs.Bridge.SedimentSeq
import LadimProofs.Bridge.ChemSeq
import LadimProofs.Bridge.DevelopSeq
import LadimProofs.Bridge.BioCtorSeq
import LadimProofs.OnCode.C05

/-!
# C07, C09 — end to end: the clauses of the properties, stated about the interpretation of the current source

Property C07 — Ageing, mortality and death are monotone, exact and step-size independent
STATEMENT: Each update advances a particle's age by exactly one time step in the unit the module documents (seconds, days, or degree-days = temperature x days); a particle once marked dead is never alive again, and particles are marked dead exactly when they pass the configured lifespan or biological age limit (or, for vps, reach the ocean). Salmon-lice abundance decays by exp(-0.17 per day) so that survival after a given time is the same however that time is divided into steps.
QUANTIFIER: all particle ages and temperatures, all time-step lengths, all lifespans, all update sequences and all ways of partitioning a time span into steps

Property C09 — Development never runs backwards and switches behaviour at its thresholds
STATEMENT: Sand-eel and shrimp stage values and fish-larva age are non-decreasing from step to step and advance by the published temperature-dependent rate times the time step. Sand-eel eggs start drifting exactly when their stage reaches 1 and stop exactly when it reaches 2; shrimp stay within stages 1-6, drift only below stage 6 and have the tabulated length for their stage; cod and saithe eggs change from buoyancy-driven to swimming behaviour, and start growing from the initial larval weight, when their degree-day age passes the hatch threshold.
QUANTIFIER: all stages, hatch rates in [0,1], temperatures in and outside the tabulated range (non-negative for the degree-day clocks), time steps from seconds to days, and all update sequences up to completion of development

Every theorem below speaks about `run… Gen.…_seq …`: the interpretation (`LadimModel/**/*Seq.lean`) of the statement
sequences that are generated from /repo's source on every run.  The bridges (`LadimProofs/Bridge/*.lean`) and the model
theorems (`LadimProofs/C07.lean`, `C09.lean`) are used as lemmas only.  An interpreted run has three outcomes: `none`
(a statement text the interpreter does not know — the tie with the source is broken), `some none` (the code raises),
`some (some s)` (the code finishes in state `s`); every theorem asserts the third outcome.  (The older runner `Seq.run`
of the whole `update_ibm` of chemicals / sedimentation / mine knows only `none` and `some s`.)  In the "history"
theorems the updates are chained with `List.foldlM` in `Option`: a step that does not finish makes the whole history
`none`, so "`= some q`" says that every update of the history finishes.

C07
* age advances by exactly one step — seconds: `c07_chem_kill_old`, `c07_sed_kill_old`, `c07_mine_kill_old` (method
  bodies), `c07_chem_update`, `c07_sed_update`, `c07_mine_update`, `c07_vps_update` (whole `update_ibm`),
  `c07_sed_history` (`age₀ + n · dt`); days: `c09_shrimp_growth`, `c09_shrimp_update`, `days` of `c07_lice_update`;
  degree-days: `c07_lice_update`, `c07_egg_update`, `c09_larvae_update`, `c09_saithe_update`;
* dead exactly when past the lifespan / age limit (/ ocean reached): the same theorems (chemicals with horizontal
  diffusion and mine without resuspension have a second cause of death: there only "alive ⇒ was alive and within the
  lifespan", which is all the property can claim);
* once dead, never alive again, over any history: `c07_dead_forever_history` (principle), `c07_sed_history`,
  `c07_mine_dead_forever`, `c07_chem_dead_forever`, `c07_lice_history`, `c07_vps_dead_forever`;
* `exp(-0.17 per day)`, step-size independence: `c07_lice_mortality_factor` (constructor), `c07_lice_update`
  (`super *= mortality_factor`), `c07_lice_history` (`super · exp(-0.17 · Σ dt / 86400)` for every partition).
C09
* sand eel: `c09_sandeel_egg_development`, `c09_sandeel_larval_development` (method bodies: rate, thresholds),
  `c09_sandeel_update` (whole `update_ibm`: monotone, active ⇔ 1 ≤ stage < 2), `c09_sandeel_history`;
* shrimp: `c09_shrimp_growth` (method body), `c09_shrimp_update` (whole `update_ibm`), `c09_shrimp_history` (tables
  with five entries); `c09_monotone_history` (principle);
* cod / saithe: `c09_larvae_update`, `c09_saithe_update` (age, hatch threshold: weight and vertical behaviour),
  `c09_larvae_weight_floor`.
-/

open Ladim Ladim.Seq Ladim.BioSeq Ladim.DevSeq Ladim.BioCtorSeq

set_option linter.unusedSectionVars false
set_option linter.unusedVariables false
set_option linter.unusedSimpArgs false
set_option linter.unnecessarySeqFocus false

namespace OnCode

/-! ## scalar types for the examples

The examples instantiate the theorems at `ℚ` (and at `ℝ` where the laws of `exp` / `log` / `x ** y` are assumed:
`RealInst`).  The non-field operations that `ℚ` / `ℝ` lack here are given place-holder instances, local to this file: in
the theorems they are arbitrary functions, and no hypothesis of an example depends on them (`trunc`, `floor` are the
floor function). -/

local instance e2eC07C09_HasSqrtRat : HasSqrt ℚ := ⟨fun x => x⟩
local instance e2eC07C09_HasExpRat : HasExp ℚ := ⟨fun x => x⟩
local instance e2eC07C09_HasLogRat : HasLog ℚ := ⟨fun x => x⟩
local instance e2eC07C09_HasSinRat : HasSin ℚ := ⟨fun x => x⟩
local instance e2eC07C09_HasCosRat : HasCos ℚ := ⟨fun x => x⟩
local instance e2eC07C09_HasAsinRat : HasAsin ℚ := ⟨fun x => x⟩
local instance e2eC07C09_HasRpowRat : HasRpow ℚ := ⟨fun x _ => x⟩
local instance e2eC07C09_HasPiRat : HasPi ℚ := ⟨3⟩
local instance e2eC07C09_HasNarrowRat : HasNarrow ℚ := ⟨fun x => x⟩
local instance e2eC07C09_HasFloorRat : HasFloor ℚ := ⟨fun x => (⌊x⌋ : ℤ)⟩
local instance e2eC07C09_HasRoundRat : HasRound ℚ := ⟨fun x => (round x : ℤ)⟩
local instance e2eC07C09_HasTruncRat : HasTrunc ℚ := ⟨fun x => ⌊x⌋⟩
noncomputable local instance e2eC07C09_HasAsinReal : HasAsin ℝ := ⟨fun x => x⟩
noncomputable local instance e2eC07C09_HasPiReal : HasPi ℝ := ⟨3⟩
noncomputable local instance e2eC07C09_HasNarrowReal : HasNarrow ℝ := ⟨fun x => x⟩
noncomputable local instance e2eC07C09_HasFloorReal : HasFloor ℝ := ⟨fun x => (⌊x⌋ : ℤ)⟩
noncomputable local instance e2eC07C09_HasRoundReal : HasRound ℝ := ⟨fun x => (round x : ℤ)⟩
noncomputable local instance e2eC07C09_HasTruncReal : HasTrunc ℝ := ⟨fun x => ⌊x⌋⟩

/-! ## tools -/

/-- an update that cannot revive leaves a dead particle dead -/
private theorem dead_of_dead {a b : Bool} (h : b = true → a = true) (ha : a = false) : b = false :=
  Bool.eq_false_iff.2 fun hb => Bool.eq_false_iff.1 ha (h hb)

/-- **a dead particle stays dead over any history**, for a partial update (`none` = the code raises / the text is not
understood): if every single update of the history finishes and cannot revive, the whole history finishes and the
particle is still dead -/
theorem c07_dead_forever_history {σ ι : Type} (alive : σ → Bool) (step : σ → ι → Option σ) (is : List ι)
    (h : ∀ s, ∀ i ∈ is, ∃ s', step s i = some s' ∧ (alive s' = true → alive s = true)) (s₀ : σ)
    (hd : alive s₀ = false) : ∃ s, is.foldlM step s₀ = some s ∧ alive s = false :=
  history_invariant (fun s => alive s = false) step is (fun i hi s hs => by
    obtain ⟨s', h1, hm⟩ := h s i hi
    exact ⟨s', h1, dead_of_dead hm hs⟩) s₀ hd

/-- **development never runs backwards over any history**, for a partial update: if every single update of the
history, started in a state satisfying the invariant `inv`, finishes in such a state with a measure `m` (stage, age)
that is not smaller, the whole history finishes and the measure at the end is not smaller than at the start -/
theorem c09_monotone_history {σ ι β : Type} [Preorder β] (m : σ → β) (inv : σ → Prop) (step : σ → ι → Option σ)
    (is : List ι) (h : ∀ s, inv s → ∀ i ∈ is, ∃ s', step s i = some s' ∧ inv s' ∧ m s ≤ m s') (s₀ : σ)
    (h0 : inv s₀) : ∃ s, is.foldlM step s₀ = some s ∧ inv s ∧ m s₀ ≤ m s :=
  history_invariant (fun s => inv s ∧ m s₀ ≤ m s) step is (fun i hi s hs => by
    obtain ⟨s', h1, h2, h3⟩ := h s hs.1 i hi
    exact ⟨s', h1, h2, hs.2.trans h3⟩) s₀ ⟨h0, le_refl _⟩

/-! ## C07 — chemicals, sedimentation, mine -/
section killOld
variable {α : Type} [Field α] [LinearOrder α] [IsStrictOrderedRing α] [HasSqrt α] [HasFloor α] [HasRound α]

/-- the flag that `kill_old` writes: `alive & (age <= lifespan)` with the new age -/
private theorem kill_old_flag (alive : Bool) (age L : α) :
    (alive && decide (age ≤ L)) = true ↔ alive = true ∧ age ≤ L := by
  rw [Bool.and_eq_true, decide_eq_true_iff]

/-- **chemicals `kill_old`** (interpretation of `Gen.chem_kill_old_seq`, lifespan configured): the method finishes, the
age has advanced by exactly `dt` seconds, and the particle is alive afterwards iff it was alive and its new age does not
exceed the lifespan.  No hypothesis. -/
theorem c07_chem_kill_old (dt L age : α) (alive : Bool) :
    ∃ r, Seq.runChemKillOld Gen.chem_kill_old_seq dt (some L) age alive = some (some r) ∧
      r.1 = age + dt ∧ (r.2 = true ↔ alive = true ∧ age + dt ≤ L) := by
  exact ⟨_, Bridge.chem_kill_old_seq dt (some L) age alive, rfl, kill_old_flag _ _ _⟩

example : ∃ r, Seq.runChemKillOld Gen.chem_kill_old_seq (600 : ℚ) (some 3600) 3300 true = some (some r) ∧
    r.1 = 3900 ∧ r.2 = false := by
  obtain ⟨r, h, h1, h2⟩ := c07_chem_kill_old (600 : ℚ) 3600 3300 true
  refine ⟨r, h, by rw [h1]; norm_num, ?_⟩
  cases hr : r.2 with
  | false => rfl
  | true => exact absurd (h2.mp hr).2 (by norm_num)

/-- **sedimentation `kill_old`** (interpretation of `Gen.sed_kill_old_seq`).  No hypothesis. -/
theorem c07_sed_kill_old (stateDt L age : α) (alive : Bool) :
    ∃ r, Seq.runSedKillOld Gen.sed_kill_old_seq stateDt L age alive = some (some r) ∧
      r.1 = age + stateDt ∧ (r.2 = true ↔ alive = true ∧ age + stateDt ≤ L) := by
  exact ⟨_, Bridge.sed_kill_old_seq stateDt L age alive, rfl, kill_old_flag _ _ _⟩

/-- **mine `kill_old`** (interpretation of `Gen.mine_kill_old_seq`).  No hypothesis. -/
theorem c07_mine_kill_old (stateDt L age : α) (alive : Bool) :
    ∃ r, Seq.runMineKillOld Gen.mine_kill_old_seq stateDt L age alive = some (some r) ∧
      r.1 = age + stateDt ∧ (r.2 = true ↔ alive = true ∧ age + stateDt ≤ L) := by
  exact ⟨_, Bridge.mine_kill_old_seq stateDt L age alive, rfl, kill_old_flag _ _ _⟩

end killOld

section updates
variable {α : Type} [Field α] [LinearOrder α] [IsStrictOrderedRing α]
  [HasSqrt α] [HasExp α] [HasLog α] [HasSin α] [HasCos α] [HasAsin α] [HasRpow α] [HasPi α] [HasRound α] [HasFloor α]

/-- **sedimentation `update_ibm`** (interpretation of `Gen.sed_update_seq`; its step `"call" "kill_old"` is the
interpretation of `Gen.sed_kill_old_seq`: `Bridge.sed_call_kill_old`): the update finishes, the age has advanced by
exactly `state.dt`, and the particle is alive afterwards iff it was alive and its new age is within the lifespan.
No hypothesis. -/
theorem c07_sed_update (c : Sed.Config α) (e : Sed.Env α) (xi : α) (p : Sed.Particle α) :
    ∃ q, (Seq.run Seq.sedAtom (Seq.sedStep c e xi) Gen.sed_update_seq (Seq.SedSt.init p)).map Seq.SedSt.particle
        = some q ∧
      q.age = p.age + c.stateDt ∧ (q.alive = true ↔ p.alive = true ∧ p.age + c.stateDt ≤ c.lifespan) :=
  ⟨_, Bridge.sed_update_seq c e xi p, C07.sed_age_advance c e xi p, C07.sed_alive_iff c e xi p⟩

/-- **sedimentation, any history** of interpreted updates (each with its own environment and normal draw): the history
finishes, the age is `age₀ + n · state.dt`, and a particle that was dead at the start is dead at the end -/
theorem c07_sed_history (c : Sed.Config α) (steps : List (Sed.Env α × α)) (p : Sed.Particle α) :
    ∃ q, steps.foldlM (fun q s =>
        (Seq.run Seq.sedAtom (Seq.sedStep c s.1 s.2) Gen.sed_update_seq (Seq.SedSt.init q)).map Seq.SedSt.particle) p
        = some q ∧
      q.age = p.age + steps.length * c.stateDt ∧ (p.alive = false → q.alive = false) := by
  induction steps generalizing p with
  | nil => exact ⟨p, rfl, by simp, id⟩
  | cons s ss ih =>
    obtain ⟨q, h1, h2, h3⟩ := ih (Sed.update c s.1 s.2 p)
    refine ⟨q, ?_, ?_, ?_⟩
    · rw [List.foldlM_cons]
      rw [Bridge.sed_update_seq c s.1 s.2 p]
      exact h1
    · rw [h2, C07.sed_age_advance]; simp only [List.length_cons]; push_cast; ring
    · exact fun hp => h3 (dead_of_dead (fun h => ((C07.sed_alive_iff c s.1 s.2 p).mp h).1) hp)

private def exSedCfg : Sed.Config ℚ := ⟨600, 600, 1000, .const 0.001, .numeric⟩
private def exSedSteps : List (Sed.Env ℚ × ℚ) := [(⟨50, 0.1, 0, some 0.06, 0.002⟩, 0.3), (⟨50, 0.2, 0.1, some 0.06, 0.002⟩, -1.2)]

/-- sedimentation: two steps of 600 s -/
example : ∃ q, exSedSteps.foldlM (fun q s =>
      (Seq.run Seq.sedAtom (Seq.sedStep exSedCfg s.1 s.2) Gen.sed_update_seq (Seq.SedSt.init q)).map Seq.SedSt.particle)
      (⟨10, 1, true, 0, 0.001⟩ : Sed.Particle ℚ) = some q ∧ q.age = 1200 := by
  obtain ⟨q, h, ha, _⟩ := c07_sed_history exSedCfg exSedSteps ⟨10, 1, true, 0, 0.001⟩
  exact ⟨q, h, by rw [ha]; norm_num [exSedSteps, exSedCfg]⟩

/-- **mine `update_ibm`** (interpretation of `Gen.mine_update_seq`): the update finishes, the age has advanced by exactly
`state.dt`, a particle that is alive afterwards was alive and is within the lifespan; and when resuspension is
configured (`taucrit = some t`: otherwise `bury` retires the particles that reach the sea bed, which is a second cause
of death) it is alive afterwards iff it was alive and its new age is within the lifespan.  No hypothesis. -/
theorem c07_mine_update (c : Sed.Mine.Config α) (e : Sed.Mine.Env α) (xi : α) (p : Sed.Particle α) :
    ∃ q, (Seq.run (Seq.mineAtom c) (Seq.mineStep c e xi) Gen.mine_update_seq (Seq.MineSt.init c p)).map
          (Seq.MineSt.particle c p) = some q ∧
      q.age = p.age + c.stateDt ∧
      (q.alive = true → p.alive = true ∧ p.age + c.stateDt ≤ c.lifespan) ∧
      (c.taucrit.isSome → (q.alive = true ↔ p.alive = true ∧ p.age + c.stateDt ≤ c.lifespan)) := by
  refine ⟨_, Bridge.mine_update_seq c e xi p, C07.mine_age_advance c e xi p, ?_, ?_⟩
  · intro h
    refine ⟨C07.mine_alive_monotone c e xi p h, ?_⟩
    unfold Sed.Mine.update at h
    simp only [Bool.and_eq_true, decide_eq_true_eq] at h
    exact h.2
  · intro ht
    obtain ⟨t, ht⟩ := Option.isSome_iff_exists.mp ht
    exact C07.mine_alive_iff_resusp c e xi p t ht

private def exMineCfg : Sed.Mine.Config ℚ := ⟨600, 600, 1000, 0.001, some 0.06, true, true, .numeric⟩
private def exMineEnv : Sed.Mine.Env ℚ := ⟨50, 0.1, 0, 0.0001⟩
private def exSedP : Sed.Particle ℚ := ⟨10, 1, true, 500, 0.001⟩

/-- mine with resuspension: the `iff` applies; age 500 s + 600 s exceeds the lifespan 1000 s -/
example : ∃ q, (Seq.run (Seq.mineAtom exMineCfg) (Seq.mineStep exMineCfg exMineEnv 0.3) Gen.mine_update_seq
      (Seq.MineSt.init exMineCfg exSedP)).map (Seq.MineSt.particle exMineCfg exSedP) = some q ∧ q.alive = false := by
  obtain ⟨q, h, _, _, hiff⟩ := c07_mine_update exMineCfg exMineEnv 0.3 exSedP
  refine ⟨q, h, ?_⟩
  cases hq : q.alive with
  | false => rfl
  | true => exact absurd ((hiff rfl).mp hq).2 (by norm_num [exSedP, exMineCfg])

/-- **mine, any history** of interpreted updates: a dead particle stays dead -/
theorem c07_mine_dead_forever (c : Sed.Mine.Config α) (steps : List (Sed.Mine.Env α × α)) (p : Sed.Particle α)
    (hp : p.alive = false) :
    ∃ q, steps.foldlM (fun q s =>
        (Seq.run (Seq.mineAtom c) (Seq.mineStep c s.1 s.2) Gen.mine_update_seq (Seq.MineSt.init c q)).map
          (Seq.MineSt.particle c q)) p = some q ∧ q.alive = false :=
  c07_dead_forever_history (fun q => q.alive) _ steps
    (fun q s _ => ⟨_, Bridge.mine_update_seq c s.1 s.2 q, C07.mine_alive_monotone c s.1 s.2 q⟩) p hp

/-- **chemicals `update_ibm`** (interpretation of `Gen.chem_update_seq`; its step `"call" "kill_old"` is the
interpretation of `Gen.chem_kill_old_seq`: `Bridge.chem_call_kill_old`), lifespan configured: the update finishes, the
age has advanced by exactly `dt` seconds, a particle alive afterwards was alive and is within the lifespan; without
horizontal diffusion (which retires the particles that would leave the grid — a second cause of death) it is alive
afterwards iff it was alive and its new age is within the lifespan.
Hypotheses forced by `Bridge.chem_update_seq` (they tie the model's configuration record to the value `lc` of
`self.land_collision` that the interpretation of the guards reads): `hclamp` — the record's switch `collisionClamp` is
"`land_collision` is `reposition` or `coastal_diffusion`"; `hstuck` — for any other value no collision handler runs, so
the particle's draw record says "not stuck". -/
theorem c07_chem_update (c : Chemicals.Config α) (e : Chemicals.Env α) (d : Chemicals.Draws α)
    (p : Chemicals.Particle α) (lc : Seq.LandCollision) (L : α) (hL : c.lifespan = some L)
    (hclamp : c.collisionClamp = decide (lc ≠ .other)) (hstuck : lc = .other → d.stuck = false) :
    ∃ q, Seq.run (Seq.chemAtom c lc) (Seq.chemStep c e d) Gen.chem_update_seq p = some q ∧
      q.age = p.age + c.dt ∧
      (q.alive = true → p.alive = true ∧ p.age + c.dt ≤ L) ∧
      (c.horz = none → (q.alive = true ↔ p.alive = true ∧ p.age + c.dt ≤ L)) := by
  refine ⟨_, Bridge.chem_update_seq c e d p lc hclamp hstuck, C07.chem_age_advance c e d p L hL, ?_, ?_⟩
  · intro h
    have := C07.chem_death_iff_horz c e d p L hL h
    rwa [C07.chem_age_advance c e d p L hL] at this
  · intro hh
    exact C07.chem_death_iff c e d p L hL hh

private def exChemCfg : Chemicals.Config ℚ :=
  { dt := 600, vertadv := true, mix := .const 0.01, horz := none, lifespan := some 3600, collisionClamp := true }
private def exChemEnv : Chemicals.Env ℚ :=
  ⟨fun _ _ => 100, fun _ _ _ => 0.001, fun _ _ _ => 0.01, fun _ _ _ => 1, fun _ _ => 800, fun _ _ => 800, fun _ _ => true⟩

/-- chemicals: `land_collision = 'reposition'`, a stuck particle, constant mixing, lifespan one hour -/
example : ∃ q, Seq.run (Seq.chemAtom exChemCfg .reposition)
      (Seq.chemStep exChemCfg exChemEnv ⟨true, 0.3, 0.7, [0.5], 0.1, 0.2⟩) Gen.chem_update_seq
      (⟨10, 20, 5, 3300, true⟩ : Chemicals.Particle ℚ) = some q ∧ q.age = 3300 + 600 := by
  obtain ⟨q, h, ha, _⟩ := c07_chem_update exChemCfg exChemEnv ⟨true, 0.3, 0.7, [0.5], 0.1, 0.2⟩
    ⟨10, 20, 5, 3300, true⟩ .reposition 3600 rfl (by decide) (by intro h; cases h)
  exact ⟨q, h, ha⟩

/-- **chemicals without a lifespan**: `kill_old` is not called and the age is not touched (same bridge hypotheses) -/
theorem c07_chem_update_no_lifespan (c : Chemicals.Config α) (e : Chemicals.Env α) (d : Chemicals.Draws α)
    (p : Chemicals.Particle α) (lc : Seq.LandCollision) (hL : c.lifespan = none)
    (hclamp : c.collisionClamp = decide (lc ≠ .other)) (hstuck : lc = .other → d.stuck = false) :
    ∃ q, Seq.run (Seq.chemAtom c lc) (Seq.chemStep c e d) Gen.chem_update_seq p = some q ∧ q.age = p.age :=
  ⟨_, Bridge.chem_update_seq c e d p lc hclamp hstuck, C07.chem_age_untouched c e d p hL⟩

/-- **chemicals, any history** of interpreted updates (each with its own environment and draws; lifespan configured or
not): a dead particle stays dead.  `hclamp`, `hstuck` (for every step): as in `c07_chem_update`. -/
theorem c07_chem_dead_forever (c : Chemicals.Config α) (lc : Seq.LandCollision)
    (steps : List (Chemicals.Env α × Chemicals.Draws α)) (p : Chemicals.Particle α)
    (hclamp : c.collisionClamp = decide (lc ≠ .other)) (hstuck : ∀ s ∈ steps, lc = .other → s.2.stuck = false)
    (hp : p.alive = false) :
    ∃ q, steps.foldlM (fun q s => Seq.run (Seq.chemAtom c lc) (Seq.chemStep c s.1 s.2) Gen.chem_update_seq q) p = some q ∧
      q.alive = false :=
  c07_dead_forever_history (fun q => q.alive) _ steps
    (fun q s hs => ⟨_, Bridge.chem_update_seq c s.1 s.2 q lc hclamp (hstuck s hs), C07.chem_alive_monotone c s.1 s.2 q⟩)
    p hp

example : ∃ q, [(exChemEnv, (⟨true, 0.3, 0.7, [0.5], 0.1, 0.2⟩ : Chemicals.Draws ℚ)),
      (exChemEnv, ⟨false, 0, 0, [-0.5], 0.3, -0.2⟩)].foldlM
      (fun q s => Seq.run (Seq.chemAtom exChemCfg .coastal) (Seq.chemStep exChemCfg s.1 s.2) Gen.chem_update_seq q)
      (⟨10, 20, 5, 3300, false⟩ : Chemicals.Particle ℚ) = some q ∧ q.alive = false :=
  c07_chem_dead_forever exChemCfg .coastal _ _ (by decide) (by intro s _ h; cases h) rfl

end updates

/-! ## C07 (and the age / weight clauses of C09) — salmon lice, egg, larvae, saithe, vps -/
section bio
variable {α : Type} [Field α] [LinearOrder α] [IsStrictOrderedRing α]
  [HasSqrt α] [HasExp α] [HasLog α] [HasSin α] [HasCos α] [HasAsin α] [HasRpow α] [HasPi α] [HasNarrow α] [HasFloor α]

/-- **salmon lice `update_ibm`** (interpretation of `Gen.lice_update_seq` on one particle): the update finishes; the age
has advanced by the degree-days of the step, `temp · state.dt / 86400` with the temperature read at the old position, and
`days` by `state.dt / 86400`; the particle is alive afterwards iff it was alive and its NEW age is below 170 degree-days;
`super` has been multiplied by `self.mortality_factor`.
Forced by the bridge: the supply of random numbers holds (at least) two numbers (`r :: xi :: rest`; the second one is
asked for only when `self.vertical_diffusion` — with too few numbers the interpretation raises,
`Bridge.lice_one_draw_raises`). -/
theorem c07_lice_update (e : LiceEnv α) (x y : α) (p : Bio.Lice α) (r xi : α) (rest : List α) :
    ∃ s, liceRun e x y p (r :: xi :: rest) = some (some s) ∧
      s.particle.age = p.age + e.temp x y p.z * (e.stateDt / 86400) ∧
      s.particle.days = p.days + e.stateDt / 86400 ∧
      (s.particle.alive = true ↔ p.alive = true ∧ s.particle.age < 170) ∧
      s.particle.super = p.super * e.mortFactor := by
  refine run_view (Bridge.lice_update_seq e x y p r xi rest) fun s hp => ?_
  rw [hp]
  exact ⟨(C07.lice_age_advance ..).1, (C07.lice_age_advance ..).2, C07.lice_alive_iff .., C07.lice_super ..⟩

/-- attributes as the constructor sets them for `dt` (`mortality_factor` included), constant forcing -/
private def exLiceEnv (dt : ℚ) : LiceEnv ℚ :=
  ⟨exp (-0.17 * dt / 86400.0), 0.2, 0.0005, 0.001, dt, dt, true, fun _ _ _ => 8, fun _ _ _ => 33, fun _ _ => 1⟩

example : ∃ s, liceRun (exLiceEnv 600) 10 20 (⟨5, 169.99, 20, 100, true⟩ : Bio.Lice ℚ) [0.4, -0.3] = some (some s) ∧
    s.particle.alive = false := by
  obtain ⟨s, h, ha, _, hiff, _⟩ := c07_lice_update (exLiceEnv 600) 10 20 ⟨5, 169.99, 20, 100, true⟩ 0.4 (-0.3) []
  refine ⟨s, h, ?_⟩
  cases hq : s.particle.alive with
  | false => rfl
  | true =>
    have := (hiff.mp hq).2
    rw [ha] at this
    norm_num [exLiceEnv] at this

/-- **salmon lice `__init__`** (interpretation of `Gen.lice_ctor_seq`) for a configuration with a numeric `dt` (and a
numeric or absent `vertical_mixing`): the constructor finishes and `self.mortality_factor = exp(-0.17 · dt / 86400)`;
for `dt` = one day this is `exp(-0.17)` -/
theorem c07_lice_mortality_factor (e : CtorEnv α) (D dt : α)
    (hD : (e.ibm "vertical_mixing").getD (.num 0.001) = .num D) (hdt : e.dt = some (.num dt)) :
    ∃ attrs, (ctorRun e Gen.lice_ctor_seq).map (Option.map CtorSt.result) = some (some (some attrs)) ∧
      attrNum attrs "mortality_factor" = some (exp (-0.17 * dt / 86400.0)) ∧
      (dt = 86400 → attrNum attrs "mortality_factor" = some (exp (-0.17 : α))) := by
  refine ⟨_, Bridge.lice_ctor_result e D dt hD hdt, (Bridge.lice_attrs D dt).1, ?_⟩
  intro h
  rw [(Bridge.lice_attrs D dt).1, h, C07.lice_one_day]

example : ∃ attrs, (ctorRun (⟨BcDict.ofList [("vertical_mixing", .num 0.002)], some (.num 600)⟩ : CtorEnv ℚ)
      Gen.lice_ctor_seq).map (Option.map CtorSt.result) = some (some (some attrs)) ∧
    attrNum attrs "mortality_factor" = some (exp (-0.17 * 600 / 86400.0 : ℚ)) := by
  obtain ⟨a, h, hm, _⟩ := c07_lice_mortality_factor (⟨BcDict.ofList [("vertical_mixing", .num 0.002)], some (.num 600)⟩ : CtorEnv ℚ)
    0.002 600 rfl rfl
  exact ⟨a, h, hm⟩

/-- **salmon lice, any history** of interpreted updates — every step with its own attributes (`dt`, `state.dt`, …),
forcing, position and pair of random numbers.  `hmf` (valid configuration): in every step `self.mortality_factor` is
the value the constructor computes from that step's `dt` (`c07_lice_mortality_factor`).  Then the history finishes and
* **step-size independence**: `super` has been multiplied by `exp(-0.17 · Σ dt / 86400)` — the survival depends only on
  the total time, not on how it is divided into steps (needs the laws `exp (a + b) = exp a · exp b`, `exp 0 = 1`); the
  time that counts is the sum of the configured `dt`s (`config['dt']`), which is the elapsed time `Σ state.dt` when the
  two clocks agree, as LADiM sets them;
* `days` has advanced by `Σ state.dt / 86400`;
* a particle dead at the start is dead at the end. -/
theorem c07_lice_history (hE : ExpLaws α) (steps : List (LiceEnv α × α × α × α × α))
    (hmf : ∀ i ∈ steps, i.1.mortFactor = exp (-0.17 * i.1.dt / 86400.0)) (p : Bio.Lice α) :
    ∃ q, steps.foldlM (fun p i =>
          (liceRun i.1 i.2.1 i.2.2.1 p [i.2.2.2.1, i.2.2.2.2]).join.map LiceSt.particle) p = some q ∧
      q.super = p.super * exp (-0.17 * (steps.map fun i => i.1.dt).sum / 86400.0) ∧
      q.days = p.days + (steps.map fun i => i.1.stateDt).sum / 86400 ∧
      (p.alive = false → q.alive = false) := by
  induction steps generalizing p with
  | nil =>
    refine ⟨p, rfl, ?_, by simp, id⟩
    simp only [List.map_nil, List.sum_nil]
    rw [mul_zero, zero_div, hE.exp_zero, mul_one]
  | cons i is ih =>
    obtain ⟨s, hs, _, hdays, halive, hsuper⟩ := c07_lice_update i.1 i.2.1 i.2.2.1 p i.2.2.2.1 i.2.2.2.2 []
    obtain ⟨q, h1, h2, h3, h4⟩ := ih (fun j hj => hmf j (List.mem_cons_of_mem i hj)) s.particle
    refine ⟨q, ?_, ?_, ?_, ?_⟩
    · rw [List.foldlM_cons, hs]
      exact h1
    · rw [h2, hsuper, hmf i List.mem_cons_self, mul_assoc, C07.exp_rate_add hE, List.map_cons, List.sum_cons]
    · rw [h3, hdays, List.map_cons, List.sum_cons, add_div, add_assoc]
    · exact fun hp => h4 (dead_of_dead (fun h => (halive.mp h).1) hp)

private noncomputable def exLiceEnvR (dt : ℝ) : LiceEnv ℝ :=
  ⟨exp (-0.17 * dt / 86400.0), 0.2, 0.0005, 0.001, dt, dt, true, fun _ _ _ => 8, fun _ _ _ => 33, fun _ _ => 1⟩

/-- one hour as 600 s + 1200 s + 1800 s: survival `exp(-0.17 · 3600 / 86400)` -/
example : ∃ q, [(exLiceEnvR 600, (10 : ℝ), (20 : ℝ), (0.4 : ℝ), (-0.3 : ℝ)), (exLiceEnvR 1200, 10, 20, 0.9, 1.3),
      (exLiceEnvR 1800, 11, 20, 0.1, 0.2)].foldlM (fun p i =>
        (liceRun i.1 i.2.1 i.2.2.1 p [i.2.2.2.1, i.2.2.2.2]).join.map LiceSt.particle)
      (⟨5, 30, 4, 100, true⟩ : Bio.Lice ℝ) = some q ∧
    q.super = 100 * exp (-0.17 * 3600 / 86400.0 : ℝ) := by
  refine (c07_lice_history RealInst.expLaws _ ?_ _).imp fun q h => ⟨h.1, ?_⟩
  · intro i hi
    simp only [List.mem_cons, List.not_mem_nil, or_false] at hi
    rcases hi with rfl | rfl | rfl <;> rfl
  · rw [h.2.1]
    norm_num [exLiceEnvR]

/-- **egg `update`** (interpretation of `Gen.egg_update_seq`): the update finishes and the age has advanced by the
degree-days of the step, `temp · dt / 86400` (temperature at the old position); for a non-negative temperature and step
it does not decrease.  Forced by the bridge: one random number in the supply (asked for only with vertical mixing). -/
theorem c07_egg_update (e : EggEnv α) (x y z age buoy xi : α) (rest : List α) :
    ∃ s, eggRun e x y z age buoy (xi :: rest) = some (some s) ∧
      s.age = age + e.temp x y z * (e.dt / 86400) ∧
      (0 ≤ e.temp x y z → 0 ≤ e.dt → age ≤ s.age) := by
  obtain ⟨s, hs, hp⟩ := Bridge.of_map_view_some (Bridge.egg_update_seq e x y z age buoy xi rest)
  have hp := (Prod.mk.inj (Prod.mk.inj hp).2).1
  refine ⟨s, hs, ?_, ?_⟩ <;> rw [hp]
  · exact C07.degree_day_age age (e.temp x y z) e.dt
  · exact C07.degree_day_monotone age (e.temp x y z) e.dt

example : ∃ s, eggRun (⟨0.001, 600, 0.0014, true, fun _ _ _ => 6, fun _ _ _ => 34⟩ : EggEnv ℚ) 10 20 30 12 31 (0.7 :: [])
    = some (some s) ∧ s.age = 12 + 6 * (600 / 86400) := by
  obtain ⟨s, h, ha, _⟩ := c07_egg_update (⟨0.001, 600, 0.0014, true, fun _ _ _ => 6, fun _ _ _ => 34⟩ : EggEnv ℚ)
    10 20 30 12 31 0.7 []
  exact ⟨s, h, ha⟩

/-- **vps `update_ibm`** (interpretation of `Gen.vps_update_seq`), for ANY value of `self.max_age`: the update finishes,
the age has advanced by exactly `self.dt` seconds, and the particle is alive afterwards iff it was alive, its new age is
below the age limit and the fish velocity at its position is not zero (it has not reached the ocean).
Forced by the bridge: one random number in the supply (the new depth). -/
theorem c07_vps_update (e : VpsEnv α) (x y : α) (p : Bio.Vps α) (u : α) (rest : List α) :
    ∃ s, vpsRun e x y p (u :: rest) = some (some s) ∧
      s.particle.age = p.age + e.dt ∧
      (s.particle.alive = true ↔
        p.alive = true ∧ p.age + e.dt < e.maxAge ∧ ((e.fishVel x y).1 ≠ 0 ∨ (e.fishVel x y).2 ≠ 0)) := by
  obtain ⟨md, dt, ma, fv⟩ := e
  obtain ⟨s, hs, hp, _⟩ := Bridge.vps_run_core md dt ma fv x y p u rest
  refine ⟨s, hs, by rw [hp], ?_⟩
  rw [hp]
  have h0 : (0.0 : α) = 0 := by norm_num
  simp only [Gen.feq, h0, Bool.and_eq_true, decide_eq_true_eq, Bool.or_eq_true, Bool.not_eq_true',
    Bool.and_eq_false_iff, Bool.not_eq_false', and_assoc]
  exact and_congr_right fun _ => and_congr_right fun _ => or_congr lt_or_lt_iff_ne lt_or_lt_iff_ne

/-- vps: age limit one day, a particle in open water (fish velocity zero) is retired -/
example : ∃ s, vpsRun (⟨10, 600, 86400, fun _ _ => (0, 0)⟩ : VpsEnv ℚ) 3 4 (⟨2, 1200, true⟩ : Bio.Vps ℚ) [0.25]
      = some (some s) ∧
    s.particle.age = 1800 ∧ s.particle.alive = false := by
  obtain ⟨s, h, ha, hiff⟩ := c07_vps_update (⟨10, 600, 86400, fun _ _ => (0, 0)⟩ : VpsEnv ℚ) 3 4 ⟨2, 1200, true⟩ 0.25 []
  refine ⟨s, h, by rw [ha]; norm_num, ?_⟩
  cases hq : s.particle.alive with
  | false => rfl
  | true => simpa using (hiff.mp hq).2.2

/-- **vps, any history** of interpreted updates (each with its own attributes, position and random number): a dead
particle stays dead -/
theorem c07_vps_dead_forever (steps : List (VpsEnv α × α × α × α)) (p : Bio.Vps α) (hp : p.alive = false) :
    ∃ q, steps.foldlM (fun p i => (vpsRun i.1 i.2.1 i.2.2.1 p [i.2.2.2]).join.map VpsSt.particle) p = some q ∧
      q.alive = false := by
  refine c07_dead_forever_history (fun q => q.alive) _ steps (fun q i _ => ?_) p hp
  obtain ⟨s, hs, _, h⟩ := c07_vps_update i.1 i.2.1 i.2.2.1 q i.2.2.2 []
  exact ⟨s.particle, by simp [hs, Option.join], fun ha => (h.mp ha).1⟩

/-! ### cod larvae / saithe -/

/-- the vertical velocity of an egg / larva before mixing, as the code computes it (a `float32` value): an egg
(`age ≤ hatch_day`, age BEFORE this step's ageing) has the terminal sinking velocity `sinkvel_egg` of its buoyancy, a
larva swims with `swim_speed · 0.001 · length(weight)` towards the desired light level -/
def larvaW0 (c : Bio.LarvaCfg α) (temp salt buoy l0 : α) (p : Bio.Larva α) (newWeight : α) : α :=
  if p.age ≤ c.hatchDay then
    narrow (Gen.larvae_sinkvel_egg (Gen.eos_viscosity temp salt) (Gen.eos_density temp salt)
      (Gen.eos_density temp buoy) c.eggDiam)
  else
    narrow (c.swimSpeed * (0.001 * Gen.larvae_weight_to_length newWeight)
      * fsign (Gen.light_at_depth l0 p.z c.k - c.desired))

private theorem larvaUpdate_facts (c : Bio.LarvaCfg α) (temp salt buoy l0 : α) (noMix : Bool) (xi : α)
    (p q : Bio.Larva α) (hq : q = Bio.larvaUpdate c temp salt buoy l0 (if noMix then none else some xi) p) :
    q.age = p.age + temp * (c.stateDt / 86400) ∧
    (0 ≤ temp → 0 ≤ c.stateDt → p.age ≤ q.age) ∧
    (p.age ≤ c.hatchDay → q.weight = p.weight) ∧
    (c.hatchDay < p.age → q.weight = fmax p.weight c.initWeight +
      Gen.larvae_growth temp (fmax p.weight c.initWeight) c.dt) ∧
    q.z = Bio.larvaFinalZ c (decide (p.age ≤ c.hatchDay)) (p.z + narrow ((
      let W0 := larvaW0 c temp salt buoy l0 p q.weight
      if noMix then W0 else narrow (W0 + xi * sqrt (2.0 * c.D / c.dt))) * narrow c.dt)) := by
  subst hq
  have hage := C07.larva_age_advance c temp salt buoy l0 (if noMix then none else some xi) p
  refine ⟨hage, ?_, C09.egg_keeps_weight c temp salt buoy l0 _ p, ?_, ?_⟩
  · intro ht hdt
    rw [hage, ← C07.degree_day_age]
    exact C07.degree_day_monotone _ _ _ ht hdt
  · intro h
    rw [C09.larva_weight_eq c temp salt buoy l0 _ p h]
    rfl
  · cases noMix <;> simp only [Bio.larvaUpdate, Bio.larvaSwim, larvaW0, decide_eq_true_eq, Bool.false_eq_true, if_true,
      if_false]

/-- **larvae `update_ibm`** (interpretation of `Gen.larvae_update_seq`; C07 age clause and C09 clauses for cod larvae).
The update finishes and
* the age has advanced by the degree-days of the step, `temp · state.dt / 86400`, and does not decrease for a
  non-negative temperature and step;
* a particle whose age BEFORE the step is at most `hatch_day` (an egg) keeps its weight; a particle past the threshold
  grows FROM `max(weight, init_larvae_weight)` by the generated growth formula `Gen.larvae_growth` (= the interpretation
  of `Gen.larvae_growth_seq`, `Bridge.larvae_growth_seq`);
* the vertical velocity is buoyancy-driven (`sinkvel_egg`) up to the threshold and swimming towards the desired light
  after it (`larvaW0`); the new depth is the old one plus `W · dt` (in `float32`), clipped to `[min_depth, max_depth]`.
Forced by the bridge: `hg`, `hl` — the configured callables `self.growth` / `self.length` are the species defaults
`growth_cod_larvae` / `weight_to_length` (they are configuration values: anything could be passed); one random number
in the supply (asked for only when `self.D` is non-zero). -/
theorem c09_larvae_update (e : LarvaEnv α) (hg : e.growth = Gen.larvae_growth)
    (hl : e.length = Gen.larvae_weight_to_length) (x y buoy : α) (p : Bio.Larva α) (xi : α) (rest : List α) :
    ∃ s, larvaeRun e x y buoy p (xi :: rest) = some (some s) ∧
      s.particle.age = p.age + e.temp x y p.z * (e.c.stateDt / 86400) ∧
      (0 ≤ e.temp x y p.z → 0 ≤ e.c.stateDt → p.age ≤ s.particle.age) ∧
      (p.age ≤ e.c.hatchDay → s.particle.weight = p.weight) ∧
      (e.c.hatchDay < p.age → s.particle.weight = fmax p.weight e.c.initWeight +
        Gen.larvae_growth (e.temp x y p.z) (fmax p.weight e.c.initWeight) e.c.dt) ∧
      s.particle.z = fmax (fmin (p.z + narrow ((
          let W0 := larvaW0 e.c (e.temp x y p.z) (e.salt x y p.z) buoy (e.light0 x y) p s.particle.weight
          if Bio.isZeroS e.c.D then W0 else narrow (W0 + xi * sqrt (2.0 * e.c.D / e.c.dt))) * narrow e.c.dt))
        e.c.maxDepth) e.c.minDepth := by
  refine run_view (Bridge.larvae_update_seq e hg hl x y buoy p xi rest) fun s hp => ?_
  obtain ⟨h1, h2, h3, h4, h5⟩ := larvaUpdate_facts _ _ _ _ _ _ _ _ _ hp
  refine ⟨h1, h2, h3, h4, ?_⟩
  rw [h5]
  simp only [Bio.larvaFinalZ, Bio.clipDepth, larvaW0, Bool.not_true, Bool.and_false, Bool.false_eq_true, if_false]

/-- cod: hatch at 93.7 degree-days; constant forcing (6 °C) -/
private def exLarvaCfg : Bio.LarvaCfg ℚ := ⟨93.7, 0.093, 0.1, 1.0, 0, 1000, 0.2, 0.001, 600, 600, 0.0014, true⟩
private def exLarvaEnv : LarvaEnv ℚ :=
  ⟨exLarvaCfg, fun _ _ _ => 6, fun _ _ _ => 34, fun _ _ => 1, Gen.larvae_growth, Gen.larvae_weight_to_length, false,
    fun x y => (x, y)⟩

example : ∃ s, larvaeRun exLarvaEnv 10 20 31 (⟨30, 93.7, 0.05⟩ : Bio.Larva ℚ) [0.7] = some (some s) ∧
    s.particle.weight = 0.05 ∧ s.particle.age = 93.7 + 6 * (600 / 86400) := by
  obtain ⟨s, h, ha, _, hw, _⟩ := c09_larvae_update exLarvaEnv rfl rfl 10 20 31 ⟨30, 93.7, 0.05⟩ 0.7 []
  exact ⟨s, h, hw (le_refl _), ha⟩

/-- **saithe `update_ibm`** (interpretation of `Gen.saithe_update_seq`): as `c09_larvae_update`, with the desired light
level `1` (a statement of the method), the surface light read at the position after `spread()` (when
`self.extra_spreading`), and the final depth: eggs only stop at the surface (`max(Z, 0)`), larvae are clipped to
`[min_depth, max_depth]`.
Forced by the bridge: `hband : min_depth ≤ max_depth` (the code clips with `np.clip` = min∘max, the model with max∘min;
they differ for an inverted band, `Bridge.clip_forms_differ`; `__init__` hard-codes `30 ≤ 60`); one random number in the
supply. -/
theorem c09_saithe_update (e : LarvaEnv α) (hband : e.c.minDepth ≤ e.c.maxDepth)
    (x y buoy : α) (p : Bio.Larva α) (xi : α) (rest : List α) :
    ∃ s, saitheRun e x y buoy p (xi :: rest) = some (some s) ∧
      s.particle.age = p.age + e.temp x y p.z * (e.c.stateDt / 86400) ∧
      (0 ≤ e.temp x y p.z → 0 ≤ e.c.stateDt → p.age ≤ s.particle.age) ∧
      (p.age ≤ e.c.hatchDay → s.particle.weight = p.weight) ∧
      (e.c.hatchDay < p.age → s.particle.weight = fmax p.weight e.c.initWeight +
        Gen.larvae_growth (e.temp x y p.z) (fmax p.weight e.c.initWeight) e.c.dt) ∧
      s.particle.z = (
        let l0 := if e.extraSpreading then e.light0 (e.spread x y).1 (e.spread x y).2 else e.light0 x y
        let W0 := larvaW0 { e.c with desired := 1.0 } (e.temp x y p.z) (e.salt x y p.z) buoy l0 p s.particle.weight
        let W := if Bio.isZeroS e.c.D then W0 else narrow (W0 + xi * sqrt (2.0 * e.c.D / e.c.dt))
        let z := p.z + narrow (W * narrow e.c.dt)
        if p.age ≤ e.c.hatchDay then fmax z 0.0 else fmax (fmin z e.c.maxDepth) e.c.minDepth) := by
  refine run_view (Bridge.saithe_update_seq e hband x y buoy p xi rest) fun s hp => ?_
  obtain ⟨h1, h2, h3, h4, h5⟩ := larvaUpdate_facts _ _ _ _ _ _ _ _ _ hp
  refine ⟨h1, h2, h3, h4, ?_⟩
  rw [h5, larvaFinalZ_of_not_clipEggs _ rfl]
  rfl

private def exSaitheEnv : LarvaEnv ℚ :=
  ⟨Bridge.saitheCfg 600 600, fun _ _ _ => 6, fun _ _ _ => 34, fun _ _ => 1, Gen.larvae_growth,
    Gen.larvae_weight_to_length, true, fun x y => (x + 1, y - 1)⟩

/-- saithe with the hard-coded attributes (`min_depth = 30 ≤ max_depth = 60`), a hatched larva -/
example : ∃ s, saitheRun exSaitheEnv 10 20 31 (⟨40, 61, 0.05⟩ : Bio.Larva ℚ) [0.7] = some (some s) ∧
    s.particle.weight = fmax 0.05 0.093 + Gen.larvae_growth 6 (fmax 0.05 0.093) 600 := by
  obtain ⟨s, h, _, _, _, hw, _⟩ := c09_saithe_update exSaitheEnv (by norm_num [exSaitheEnv, Bridge.saitheCfg])
    10 20 31 ⟨40, 61, 0.05⟩ 0.7 []
  refine ⟨s, h, ?_⟩
  have := hw (by norm_num [exSaitheEnv, Bridge.saitheCfg])
  simpa [exSaitheEnv, Bridge.saitheCfg] using this

/-- **growth starts from the initial larval weight and never runs backwards** (cod larvae and saithe; laws of `exp` and
`log` as in `C09.growth_pos`): for a non-negative temperature and step and a starting weight `max(weight, init)` inside
the size range of the growth model (0.09 mg … 4900 mg), the weight after the interpreted update is at least the weight
before, and a hatched larva has at least `init_larvae_weight` -/
theorem c09_larvae_weight_floor (hE : ExpLaws α) (hL : LogLaws α) (e : LarvaEnv α) (x y buoy : α) (p : Bio.Larva α)
    (xi : α) (rest : List α) (ht : 0 ≤ e.temp x y p.z) (hdt : 0 ≤ e.c.dt)
    (hw : 0 < fmax p.weight e.c.initWeight) (hw0 : -2.4 ≤ log (fmax p.weight e.c.initWeight))
    (hw1 : log (fmax p.weight e.c.initWeight) ≤ 8.5) :
    (e.growth = Gen.larvae_growth → e.length = Gen.larvae_weight_to_length →
      ∃ s, larvaeRun e x y buoy p (xi :: rest) = some (some s) ∧ p.weight ≤ s.particle.weight ∧
        (e.c.hatchDay < p.age → e.c.initWeight ≤ s.particle.weight)) ∧
    (e.c.minDepth ≤ e.c.maxDepth →
      ∃ s, saitheRun e x y buoy p (xi :: rest) = some (some s) ∧ p.weight ≤ s.particle.weight ∧
        (e.c.hatchDay < p.age → e.c.initWeight ≤ s.particle.weight)) := by
  -- Folkvord's growth increment (generated formula) is not negative: zero for `dt = 0`, positive otherwise
  have hg : 0 ≤ Gen.larvae_growth (e.temp x y p.z) (fmax p.weight e.c.initWeight) e.c.dt := by
    rcases hdt.eq_or_lt with h | h
    · rw [← h]
      simp only [Gen.larvae_growth, mul_zero, hE.exp_zero]
      norm_num
    · exact (C09.growth_pos hE hL _ _ _ ht hw h hw0 hw1).le
  have hmax : p.weight ≤ fmax p.weight e.c.initWeight ∧ e.c.initWeight ≤ fmax p.weight e.c.initWeight := by
    rw [fmax_eq_max]
    exact ⟨le_max_left _ _, le_max_right _ _⟩
  have key : ∀ w' : α, (p.age ≤ e.c.hatchDay → w' = p.weight) →
      (e.c.hatchDay < p.age → w' = fmax p.weight e.c.initWeight +
        Gen.larvae_growth (e.temp x y p.z) (fmax p.weight e.c.initWeight) e.c.dt) →
      p.weight ≤ w' ∧ (e.c.hatchDay < p.age → e.c.initWeight ≤ w') := by
    intro w' h3 h4
    constructor
    · rcases le_or_gt p.age e.c.hatchDay with h | h
      · rw [h3 h]
      · rw [h4 h]
        exact le_add_of_le_of_nonneg hmax.1 hg
    · intro h
      rw [h4 h]
      exact le_add_of_le_of_nonneg hmax.2 hg
  constructor
  · intro hgr hl
    obtain ⟨s, hs, _, _, h3, h4, _⟩ := c09_larvae_update e hgr hl x y buoy p xi rest
    exact ⟨s, hs, key _ h3 h4⟩
  · intro hband
    obtain ⟨s, hs, _, _, h3, h4, _⟩ := c09_saithe_update e hband x y buoy p xi rest
    exact ⟨s, hs, key _ h3 h4⟩

private noncomputable def exLarvaEnvR : LarvaEnv ℝ :=
  ⟨⟨93.7, 0.093, 0.1, 1.0, 0, 1000, 0.2, 0.001, 600, 600, 0.0014, true⟩, fun _ _ _ => 6, fun _ _ _ => 34, fun _ _ => 1,
    Gen.larvae_growth, Gen.larvae_weight_to_length, false, fun x y => (x, y)⟩

/-- a larva of 1 mg (`log 1 = 0` is inside the size range) at 6 °C -/
example : ∃ s, larvaeRun exLarvaEnvR 10 20 31 (⟨30, 100, 1⟩ : Bio.Larva ℝ) [0.7] = some (some s) ∧
    1 ≤ s.particle.weight := by
  have hm : fmax (1 : ℝ) exLarvaEnvR.c.initWeight = 1 := by
    unfold fmax; norm_num [exLarvaEnvR]
  have hl : log (1 : ℝ) = 0 := Real.log_one
  obtain ⟨s, h, hw, _⟩ := (c09_larvae_weight_floor RealInst.expLaws RealInst.logLaws exLarvaEnvR 10 20 31 ⟨30, 100, 1⟩
    0.7 [] (by norm_num [exLarvaEnvR]) (by norm_num [exLarvaEnvR]) (by rw [hm]; norm_num)
    (by rw [hm, hl]; norm_num) (by rw [hm, hl]; norm_num)).1 rfl rfl
  exact ⟨s, h, hw⟩

end bio

/-! ## C09 — sand eel, shrimp -/
section dev
variable {α : Type} [Field α] [LinearOrder α] [IsStrictOrderedRing α]
  [HasSqrt α] [HasExp α] [HasLog α] [HasSin α] [HasCos α] [HasAsin α] [HasRpow α] [HasPi α]

/-! ### sand eel -/

/-- **sand eel `egg_development`** (interpretation of `Gen.sandeel_egg_development_seq`; `f` = the function object
`hatch_time`, called as `hatch_time(hatch_rate, temp)`): the function finishes; a particle with `stage < 1` advances by
exactly `dt / (hatch_time · 86400)` and is active afterwards iff its new stage has reached 1; any other particle is
left as it is.  No hypothesis. -/
theorem c09_sandeel_egg_development (f : α → α → α) (temp stage hr dt : α) (active : Bool) :
    ∃ q, sandeelEggRun (fun r t => some (some (f r t))) temp stage hr active dt = some (some q) ∧
      (stage < 1 → q.stage = stage + dt / (f hr temp * 86400) ∧ (q.active = true ↔ 1 ≤ q.stage)) ∧
      (1 ≤ stage → q = ⟨stage, active⟩) := by
  refine ⟨_, Bridge.sandeel_egg_development_seq f temp stage hr dt active, ?_, ?_⟩
  · intro h
    exact ⟨C09.egg_rate (f hr temp) dt ⟨stage, active⟩ h, C09.egg_activates_iff (f hr temp) dt ⟨stage, active⟩ h⟩
  · intro h
    exact C09.egg_noop_on_others (f hr temp) dt ⟨stage, active⟩ h

/-- an egg at stage 0.99 with a hatch time of 50 days: one day later it has reached stage 1 and is active -/
example : ∃ q, sandeelEggRun (fun _ _ => some (some (50 : ℚ))) 7 0.99 0.5 false 86400 = some (some q) ∧
    q.active = true := by
  obtain ⟨q, h, hq, _⟩ := c09_sandeel_egg_development (fun _ _ => (50 : ℚ)) 7 0.99 0.5 86400 false
  obtain ⟨hs, ha⟩ := hq (by norm_num)
  exact ⟨q, h, ha.mpr (by rw [hs]; norm_num)⟩

private theorem larval_stage_le (hE : ExpLaws α) (hR : RpowLaws α) (temp stage dt : α) (h1 : 1 ≤ stage)
    (h2 : stage < 2) (hdt : 0 ≤ dt) : stage ≤ Gen.sandeel_larval_stage temp stage dt := by
  rcases hdt.eq_or_lt with h | h
  · subst h
    rw [C09.larval_stage_eq]
    simp
  · exact (C09.larva_stage_increases hE hR temp stage dt h1 h2 h).le

/-- **sand eel `larval_development`** (interpretation of `Gen.sandeel_larval_development_seq`): the function finishes; a
particle with `1 ≤ stage < 2` gets the stage of the generated length-growth rule `Gen.sandeel_larval_stage`, which is
not below the old one for every temperature and every `dt ≥ 0` (laws: `exp > 0`, `x ** y > 0` for `x > 0`), and is
active afterwards iff its new stage is still below 2; any other particle is left as it is. -/
theorem c09_sandeel_larval_development (hE : ExpLaws α) (hR : RpowLaws α) (temp stage dt : α) (active : Bool) :
    ∃ q, sandeelLarvaRun temp stage active dt = some (some q) ∧
      (1 ≤ stage → stage < 2 → q.stage = Gen.sandeel_larval_stage temp stage dt ∧ (q.active = true ↔ q.stage < 2) ∧
        (0 ≤ dt → stage ≤ q.stage)) ∧
      (stage < 1 ∨ 2 ≤ stage → q = ⟨stage, active⟩) := by
  refine ⟨_, Bridge.sandeel_larval_development_seq temp stage dt active, ?_, ?_⟩
  · intro h1 h2
    have hs := congrArg Dev.Eel.stage (C09.larvaDevelop_of_mem temp dt ⟨stage, active⟩ h1 h2)
    refine ⟨hs, C09.larva_deactivates_iff temp dt ⟨stage, active⟩ h1 h2, fun hdt => ?_⟩
    rw [hs]
    exact larval_stage_le hE hR temp stage dt h1 h2 hdt
  · intro h
    exact C09.larva_noop_on_others temp dt ⟨stage, active⟩ h

private theorem lt_lerp {c a b w : α} (ha : c < a) (hb : c < b) (h0 : 0 ≤ w) (h1 : w ≤ 1) : c < a + (b - a) * w := by
  have := C09.lerp_pos (a - c) (b - c) w (sub_pos.2 ha) (sub_pos.2 hb) h0 h1
  rwa [sub_sub_sub_cancel_right, sub_add_eq_add_sub, sub_pos] at this

/-- on `[0, 1]` the quadratic through `(0,d0) (½,d1) (1,d2)` stays above `c` when its linear part does at both ends and
its leading coefficient is not negative -/
private theorem lt_quad3 {c d0 d1 d2 r : α} (h0 : 0 ≤ r) (h1 : r ≤ 1) (hc : c < d0)
    (hb : c < d0 + (-3.0 * d0 + 4.0 * d1 - d2)) (ha : 0 ≤ 2.0 * d0 - 4.0 * d1 + 2.0 * d2) :
    c < Dev.quad3 d0 d1 d2 r := by
  have h := lt_lerp hc hb h0 h1
  rw [add_sub_cancel_left, mul_comm] at h
  exact lt_add_of_lt_of_nonneg h (mul_nonneg (mul_self_nonneg r) ha)

/-- linear interpolation between two values above `c`, on the segment `[p, q]` of length at most `d` -/
private theorem lt_segment {c a b p q d t : α} (ha : c < a) (hb : c < b) (hd : 0 < d) (hq : q ≤ p + d) (h0 : p ≤ t)
    (h1 : t ≤ q) : c < a + (b - a) * ((t - p) / d) :=
  lt_lerp ha hb (div_nonneg (sub_nonneg.2 h0) hd.le) ((div_le_one hd).2 (sub_le_iff_le_add'.2 (h1.trans hq)))

/-- the tabulated hatch time is more than one day for every hatch rate in `[0, 1]` and every temperature: each of the
four quadratics in the rate is, and the clamped temperature lies on one of the three segments between them -/
private theorem one_lt_hatchTime (rate temp : α) (h0 : 0 ≤ rate) (h1 : rate ≤ 1) : 1 < Dev.hatchTime rate temp := by
  have q2 : 1 < Dev.quad3 (61.0 : α) 82.0 135.0 rate := lt_quad3 h0 h1 (by norm_num) (by norm_num) (by norm_num)
  have q4 : 1 < Dev.quad3 (51.0 : α) 67.0 116.0 rate := lt_quad3 h0 h1 (by norm_num) (by norm_num) (by norm_num)
  have q7 : 1 < Dev.quad3 (39.0 : α) 48.0 82.0 rate := lt_quad3 h0 h1 (by norm_num) (by norm_num) (by norm_num)
  have q10 : 1 < Dev.quad3 (25.0 : α) 30.0 55.0 rate := lt_quad3 h0 h1 (by norm_num) (by norm_num) (by norm_num)
  have ht2 : (2.0 : α) ≤ fmin 10.0 (fmax 2.0 temp) := by
    rw [fmin_eq_min, fmax_eq_max]
    exact le_min (by norm_num) (le_max_left _ _)
  have ht10 : fmin (10.0 : α) (fmax 2.0 temp) ≤ 10.0 := (fmin_eq_min _ _).trans_le (min_le_left _ _)
  unfold Dev.hatchTime
  simp only []
  split_ifs with ha hb
  · exact lt_segment q2 q4 (by norm_num) (by norm_num) ht2 ha.le
  · exact lt_segment q4 q7 (by norm_num) (by norm_num) (not_lt.1 ha) hb.le
  · exact lt_segment q7 q10 (by norm_num) (by norm_num) (not_lt.1 hb) ht10

/-- the larval rule does not lower the stage -/
private theorem le_larvaDevelop (hE : ExpLaws α) (hR : RpowLaws α) (temp dt : α) (hdt : 0 ≤ dt) (q : Dev.Eel α) :
    q.stage ≤ (Dev.larvaDevelop temp dt q).stage := by
  by_cases h : 1 ≤ q.stage ∧ q.stage < 2
  · rw [C09.larvaDevelop_of_mem temp dt q h.1 h.2]
    exact larval_stage_le hE hR temp q.stage dt h.1 h.2 hdt
  · rw [C09.larva_noop_on_others temp dt q (by rwa [not_and_or, not_le, not_lt] at h)]

private theorem sandeelDevelop_facts (hE : ExpLaws α) (hR : RpowLaws α) (bt temp hr dt : α) (p q : Dev.Eel α)
    (hq : q = Dev.sandeelDevelop bt temp hr dt p) (hr0 : 0 ≤ hr) (hr1 : hr ≤ 1) (hdt : 0 ≤ dt) :
    p.stage ≤ q.stage ∧ (dt ≤ 86400 → p.stage < 2 → (q.active = true ↔ 1 ≤ q.stage ∧ q.stage < 2)) ∧
    (2 ≤ p.stage → q = p) := by
  subst hq
  have hd1 := one_lt_hatchTime hr bt hr0 hr1
  unfold Dev.sandeelDevelop
  generalize Dev.hatchTime hr bt = days at hd1
  have hpos : 0 < days * 86400 := mul_pos (one_pos.trans hd1) (by norm_num)
  have e1 : p.stage ≤ (Dev.eggDevelop days dt p).stage := by
    by_cases h : p.stage < 1
    · rw [C09.egg_rate days dt p h]
      exact le_add_of_nonneg_right (div_nonneg hdt hpos.le)
    · rw [C09.egg_noop_on_others _ _ p (not_lt.mp h)]
  refine ⟨e1.trans (le_larvaDevelop hE hR temp dt hdt _), fun hday h2 => ?_, fun h2 => ?_⟩
  · -- after the egg rule the stage is still below 2, and the flag is off while it is below 1
    have hq : (Dev.eggDevelop days dt p).stage < 2 ∧
        ((Dev.eggDevelop days dt p).stage < 1 → (Dev.eggDevelop days dt p).active = false) := by
      by_cases h : p.stage < 1
      · have hinc : dt / (days * 86400) ≤ 1 :=
          (div_le_one hpos).2 (hday.trans (le_mul_of_one_le_left (by norm_num) hd1.le))
        refine ⟨?_, fun hlt => Bool.eq_false_iff.2 (mt (C09.egg_activates_iff days dt p h).1 (not_le.2 hlt))⟩
        rw [C09.egg_rate days dt p h, ← one_add_one_eq_two]
        exact add_lt_add_of_lt_of_le h hinc
      · rw [C09.egg_noop_on_others _ _ p (not_lt.mp h)]
        exact ⟨h2, fun hlt => absurd hlt h⟩
    generalize Dev.eggDevelop days dt p = q at hq
    by_cases h1 : 1 ≤ q.stage
    · rw [C09.larva_deactivates_iff temp dt q h1 hq.1]
      exact ⟨fun h => ⟨h1.trans (le_larvaDevelop hE hR temp dt hdt q), h⟩, fun h => h.2⟩
    · rw [C09.larva_noop_on_others temp dt q (Or.inl (not_le.mp h1)), hq.2 (not_le.mp h1)]
      exact ⟨fun h => absurd h Bool.false_ne_true, fun h => absurd h.1 h1⟩
  · rw [C09.egg_noop_on_others _ _ p (le_trans one_le_two h2), C09.larva_noop_on_others temp dt p (Or.inr h2)]

/-- **sand eel `update_ibm`** (interpretation of `Gen.sandeel_update_seq`, every call running the callee's generated
sequence), for hatch rates in `[0, 1]`, every temperature (bottom and in situ) and every `dt ≥ 0`: the update finishes and
* the stage does not decrease;
* for steps of at most one day, a particle that has not completed development (`stage < 2`) is active afterwards iff
  `1 ≤ stage < 2` — eggs start drifting exactly when their stage reaches 1 and larvae stop exactly when it reaches 2
  (with a step so long that an egg passes both thresholds at once the flag would stay set: the larval rule is not applied
  to a stage ≥ 2);
* a particle that has completed development (`stage ≥ 2`) keeps stage and flag; `X`, `Y` are untouched; the hatch
  rate afterwards is in `[0, 1]` again.
Laws: `exp > 0`, `x ** y > 0` for `x > 0`.
Forced by the bridge: `hspl` — evaluation of `RectBivariateSpline` is a parameter `mk` of the interpretation, assumed
to be the quadratic-by-linear interpolant of the published table; `hh` — the module-level `hatch_time` is what
`get_hatch_time_func()` (interpretation of `Gen.sandeel_hatch_time_func_seq`) returns; two random numbers in the supply
(`u` is used as the hatch rate iff `hatch_rate == 0`: hence `hu0`, `hu1` — `np.random.rand` is in `[0, 1)`). -/
theorem c09_sandeel_update [HasRound α] [HasTrunc α] (hE : ExpLaws α) (hR : RpowLaws α) (e : SandeelEnv α)
    (mk : List α → List α → List (List α) → Nat → Nat → α → α → α)
    (hspl : mk [0.0, 0.5, 1.0] [2.0, 4.0, 7.0, 10.0]
      [[61.0, 51.0, 39.0, 25.0], [82.0, 67.0, 48.0, 30.0], [135.0, 116.0, 82.0, 55.0]] 2 1 = sandeelSplineClosed)
    (hh : sandeelHatchFuncRun mk = some (some e.hatchTime))
    (x y z stage hr : α) (active : Bool) (u xi : α) (rest : List α)
    (hr0 : 0 ≤ hr) (hr1 : hr ≤ 1) (hu0 : 0 ≤ u) (hu1 : u ≤ 1) (hdt : 0 ≤ e.dt) :
    ∃ s, sandeelUpdateRun e x y z stage hr active (u :: xi :: rest) = some (some s) ∧
      stage ≤ s.stage ∧
      (e.dt ≤ 86400 → stage < 2 → (s.active = true ↔ 1 ≤ s.stage ∧ s.stage < 2)) ∧
      (2 ≤ stage → s.stage = stage ∧ s.active = active) ∧
      s.x = x ∧ s.y = y ∧ 0 ≤ s.hatchRate ∧ s.hatchRate ≤ 1 := by
  obtain ⟨s, hs, hp⟩ := Bridge.of_map_view_some (Bridge.sandeel_update_seq e mk hspl hh x y z stage hr active u xi rest)
  simp only [Prod.mk.injEq] at hp
  obtain ⟨hx, hy, -, hp, hrate, -⟩ := hp
  have hr' : 0 ≤ (if Bio.isZeroS hr then u else hr) ∧ (if Bio.isZeroS hr then u else hr) ≤ 1 := by
    split_ifs <;> exact ⟨by assumption, by assumption⟩
  obtain ⟨f1, f2, f3⟩ := sandeelDevelop_facts hE hR _ _ _ _ _ _ hp hr'.1 hr'.2 hdt
  refine ⟨s, hs, f1, f2, fun h => ?_, hx, hy, by rw [hrate]; exact hr'.1, by rw [hrate]; exact hr'.2⟩
  have := f3 h
  exact ⟨congrArg Dev.Eel.stage this, congrArg Dev.Eel.active this⟩

/-- sand eel: the spline evaluator is the closed form, `hatch_time` is what the interpreted `get_hatch_time_func` returns -/
private noncomputable def exEelEnv : SandeelEnv ℝ :=
  ⟨0.001, 3600, 50, 1, 1, fun _ _ => 7, fun _ _ _ => 9, fun _ _ => 40, fun r t => some (some (Dev.hatchTime r t)), false⟩

example : ∃ s, sandeelUpdateRun exEelEnv 10 20 5 0.5 0 false ((0.3 : ℝ) :: 0.7 :: []) = some (some s) ∧
    0.5 ≤ s.stage ∧ (s.active = true ↔ 1 ≤ s.stage ∧ s.stage < 2) := by
  obtain ⟨s, h, hm, ha, _⟩ := c09_sandeel_update RealInst.expLaws RealInst.rpowLaws exEelEnv
    (fun _ _ _ _ _ => sandeelSplineClosed) rfl (Bridge.sandeel_hatch_time_is_model _ rfl)
    10 20 5 0.5 0 false 0.3 0.7 [] (le_refl _) (by norm_num) (by norm_num) (by norm_num) (by norm_num [exEelEnv])
  exact ⟨s, h, hm, ha (by norm_num [exEelEnv]) (by norm_num)⟩

/-- **sand eel, any history** of interpreted updates — every step with its own attributes and forcing (`dt ≥ 0`, the
module-level `hatch_time` as in `c09_sandeel_update`), its own position `(X, Y, Z)` (the particle is moved between the
calls), and its own pair of random numbers (the first one in `[0, 1]`): the history finishes and the stage at the end
is not below the stage at the start.  Hypotheses as in `c09_sandeel_update`. -/
theorem c09_sandeel_history [HasRound α] [HasTrunc α] (hE : ExpLaws α) (hR : RpowLaws α)
    (mk : List α → List α → List (List α) → Nat → Nat → α → α → α)
    (hspl : mk [0.0, 0.5, 1.0] [2.0, 4.0, 7.0, 10.0]
      [[61.0, 51.0, 39.0, 25.0], [82.0, 67.0, 48.0, 30.0], [135.0, 116.0, 82.0, 55.0]] 2 1 = sandeelSplineClosed)
    (steps : List (SandeelEnv α × α × α × α × α × α))
    (hsteps : ∀ i ∈ steps, sandeelHatchFuncRun mk = some (some i.1.hatchTime) ∧ 0 ≤ i.1.dt ∧
      0 ≤ i.2.2.2.2.1 ∧ i.2.2.2.2.1 ≤ 1)
    (s₀ : SandeelSt α) (hr0 : 0 ≤ s₀.hatchRate) (hr1 : s₀.hatchRate ≤ 1) :
    ∃ s, steps.foldlM (fun s i =>
          (sandeelUpdateRun i.1 i.2.1 i.2.2.1 i.2.2.2.1 s.stage s.hatchRate s.active [i.2.2.2.2.1, i.2.2.2.2.2]).join) s₀
        = some s ∧ s₀.stage ≤ s.stage := by
  refine (c09_monotone_history (fun s : SandeelSt α => s.stage) (fun s => 0 ≤ s.hatchRate ∧ s.hatchRate ≤ 1) _ steps
    (fun s hs i hi => ?_) s₀ ⟨hr0, hr1⟩).imp fun s h => ⟨h.1, h.2.2⟩
  obtain ⟨hh, hdt, hu0, hu1⟩ := hsteps i hi
  obtain ⟨s', h, hm, _, _, _, _, h0, h1⟩ := c09_sandeel_update hE hR i.1 mk hspl hh i.2.1 i.2.2.1 i.2.2.2.1 s.stage
    s.hatchRate s.active i.2.2.2.2.1 i.2.2.2.2.2 [] hs.1 hs.2 hu0 hu1 hdt
  exact ⟨s', by show Option.join _ = _; rw [h]; rfl, ⟨h0, h1⟩, hm⟩

/-- two updates of an egg, moved in between -/
example : ∃ s, [(exEelEnv, (10 : ℝ), (20 : ℝ), (5 : ℝ), (0.3 : ℝ), (0.7 : ℝ)), (exEelEnv, 11, 20, 6, 0.9, -0.2)].foldlM
      (fun s i => (sandeelUpdateRun i.1 i.2.1 i.2.2.1 i.2.2.2.1 s.stage s.hatchRate s.active
        [i.2.2.2.2.1, i.2.2.2.2.2]).join) (⟨10, 20, 5, 0.5, 0, false, none, ⟨[], []⟩⟩ : SandeelSt ℝ) = some s ∧
    0.5 ≤ s.stage :=
  c09_sandeel_history RealInst.expLaws RealInst.rpowLaws (fun _ _ _ _ _ => sandeelSplineClosed) rfl _
    (by
      intro i hi
      simp only [List.mem_cons, List.not_mem_nil, or_false] at hi
      rcases hi with rfl | rfl <;>
        exact ⟨Bridge.sandeel_hatch_time_is_model _ rfl, by norm_num [exEelEnv], by norm_num, by norm_num⟩)
    _ (le_refl _) (by norm_num)

/-! ### shrimp -/

private theorem shrimp_facts (T dt stage : α) :
    let s1 := Bio.shrimpStage T dt stage
    1 ≤ s1 ∧ s1 ≤ 6 ∧ (decide (s1 < 6.0) = true ↔ s1 < 6) ∧
    (0 ≤ dt → stage ≤ 6 → stage ≤ s1) ∧
    (0 ≤ dt → 1 ≤ stage → stage + Gen.shrimp_delta_stage T dt ≤ 6 → s1 = stage + Gen.shrimp_delta_stage T dt) ∧
    Dev.shrimpLength s1 = interp [1.0, 2.0, 3.0, 4.0, 5.0, 6.0] [6.371, 7.48, 9.144, 11.433, 12.088, 13.175] s1 ∧
    (s1 = 1 → Dev.shrimpLength s1 = some 6.371) ∧ (s1 = 2 → Dev.shrimpLength s1 = some 7.48) ∧
    (s1 = 3 → Dev.shrimpLength s1 = some 9.144) ∧ (s1 = 4 → Dev.shrimpLength s1 = some 11.433) ∧
    (s1 = 5 → Dev.shrimpLength s1 = some 12.088) ∧ (s1 = 6 → Dev.shrimpLength s1 = some 13.175) := by
  intro s1
  have h6 : (6.0 : α) = 6 := by norm_num
  have h748 : (7.480 : α) = 7.48 := by norm_num
  have tab := C09.shrimp_length_table (α := α)
  refine ⟨(C09.shrimp_stage_range T dt stage).1, (C09.shrimp_stage_range T dt stage).2, by rw [h6]; simp,
    fun hdt h => C09.shrimp_stage_monotone T dt stage hdt h,
    fun hdt h1 h => C09.shrimp_stage_rate T dt stage h1 h hdt, by unfold Dev.shrimpLength; rw [h748],
    fun h => by rw [h]; exact tab.1, fun h => by rw [h, tab.2.1, h748], fun h => by rw [h]; exact tab.2.2.1,
    fun h => by rw [h]; exact tab.2.2.2.1, fun h => by rw [h]; exact tab.2.2.2.2.1,
    fun h => by rw [h]; exact tab.2.2.2.2.2⟩

/-- **shrimp `growth`** (interpretation of `Gen.shrimp_growth_seq`).  The method finishes and, with `T = state['temp']`,
* the age has advanced by exactly `dt / 86400` days (C07);
* the new stage is within `[1, 6]`; it is not below the old one for every temperature and `dt ≥ 0` (for a stage that is
  not already above 6); below the cap it is the old stage plus the published rate times the step,
  `Gen.shrimp_delta_stage T dt = dt/86400 · T' / (α + β·T')` with `T'` = `T` clipped to `[3, 8]`;
* `active` afterwards iff the new stage is below 6;
* `length` is `np.interp` of the NEW stage in the published table — the tabulated value at the stages 1 … 6.
Forced by the bridge: `hT` — the state has the variable `temp` (`update_ibm` calls `update_ibm_forcing` first; without
it the method raises, `Bridge.shrimp_growth_raises`). -/
theorem c09_shrimp_growth (dt T : α) (p : Shrimp α) (hT : p.temp = some T) :
    ∃ q, shrimpGrowRun dt p = some (some q) ∧
      q.age = p.age + dt / 86400 ∧
      1 ≤ q.stage ∧ q.stage ≤ 6 ∧
      (q.active = true ↔ q.stage < 6) ∧
      (0 ≤ dt → p.stage ≤ 6 → p.stage ≤ q.stage) ∧
      (0 ≤ dt → 1 ≤ p.stage → p.stage + Gen.shrimp_delta_stage T dt ≤ 6 →
        q.stage = p.stage + Gen.shrimp_delta_stage T dt) ∧
      q.length = interp [1.0, 2.0, 3.0, 4.0, 5.0, 6.0] [6.371, 7.48, 9.144, 11.433, 12.088, 13.175] q.stage ∧
      (q.stage = 1 → q.length = some 6.371) ∧ (q.stage = 2 → q.length = some 7.48) ∧
      (q.stage = 3 → q.length = some 9.144) ∧ (q.stage = 4 → q.length = some 11.433) ∧
      (q.stage = 5 → q.length = some 12.088) ∧ (q.stage = 6 → q.length = some 13.175) := by
  refine ⟨_, Bridge.shrimp_growth_seq dt T p hT, ?_, ?_⟩
  · show p.age + Gen.shrimp_delta_age T dt = _
    rw [C07.shrimp_age_advance]
  · exact shrimp_facts T dt p.stage

private def exShrimp : Shrimp ℚ := ⟨10, 20, 30, 2, 12, 0.4, true, some 5, none, none⟩

example : ∃ q, shrimpGrowRun (600 : ℚ) exShrimp = some (some q) ∧ q.age = 12 + 600 / 86400 ∧ 2 ≤ q.stage ∧
    q.stage ≤ 6 := by
  obtain ⟨q, h, ha, _, h6, _, hm, _⟩ := c09_shrimp_growth (600 : ℚ) 5 exShrimp rfl
  exact ⟨q, h, ha, hm (by norm_num) (by norm_num [exShrimp]), h6⟩

private theorem isZeroS_iff {x : α} : Bio.isZeroS x = true ↔ x = 0 := by
  simp only [Bio.isZeroS, lit_0, Bool.not_eq_true', Bool.or_eq_false_iff, decide_eq_false_iff_not, not_lt]
  exact ⟨fun h => le_antisymm h.2 h.1, fun h => h ▸ ⟨le_rfl, le_rfl⟩⟩

/-- **shrimp `update_ibm`** (interpretation of `Gen.shrimp_update_seq`, every call running the callee's generated
sequence): the update finishes and, with `T` = the temperature at the old position, the particle afterwards has
* age advanced by exactly `dt / 86400` days;
* stage within `[1, 6]`, not below the old one (for every temperature, `dt ≥ 0`, old stage ≤ 6; an uninitialised stage
  `0` is first set to `1`), and equal to the old stage plus `Gen.shrimp_delta_stage T dt` below the cap (for an
  initialised particle, `1 ≤ stage`);
* `active` iff the new stage is below 6;
* `length` = `np.interp` of the new stage in the published table.
Forced by the bridge: `h0 … h5` — the six stage tables of the configuration have an entry at the index
`min(5, int(stage)) - 1` of the stage AFTER growth (`Bridge.shrimpStageAfter`; true for tables with five entries,
`Bridge.shrimp_table_read`; otherwise `IndexError`); two random numbers in the supply. -/
theorem c09_shrimp_update [HasTrunc α] {τ : Type} (e : ShrimpEnv α τ) (p : Shrimp α) (u xi : α) (rest : List α)
    (vm speed maxDay maxNgh minDay minNgh : α)
    (h0 : npIndex e.vertMix (shrimpIntStage (Bridge.shrimpStageAfter e p)) = some vm)
    (h1 : npIndex e.vertSpeed (shrimpIntStage (Bridge.shrimpStageAfter e p)) = some speed)
    (h2 : npIndex e.maxDay (shrimpIntStage (Bridge.shrimpStageAfter e p)) = some maxDay)
    (h3 : npIndex e.maxNgh (shrimpIntStage (Bridge.shrimpStageAfter e p)) = some maxNgh)
    (h4 : npIndex e.minDay (shrimpIntStage (Bridge.shrimpStageAfter e p)) = some minDay)
    (h5 : npIndex e.minNgh (shrimpIntStage (Bridge.shrimpStageAfter e p)) = some minNgh) :
    ∃ s, shrimpUpdateRun e p (u :: xi :: rest) = some (some s) ∧
      s.p.age = p.age + e.dt / 86400 ∧
      1 ≤ s.p.stage ∧ s.p.stage ≤ 6 ∧
      (s.p.active = true ↔ s.p.stage < 6) ∧
      (0 ≤ e.dt → p.stage ≤ 6 → p.stage ≤ s.p.stage) ∧
      (0 ≤ e.dt → 1 ≤ p.stage → p.stage + Gen.shrimp_delta_stage (e.fieldTemp p.x p.y p.z) e.dt ≤ 6 →
        s.p.stage = p.stage + Gen.shrimp_delta_stage (e.fieldTemp p.x p.y p.z) e.dt) ∧
      s.p.length = interp [1.0, 2.0, 3.0, 4.0, 5.0, 6.0] [6.371, 7.48, 9.144, 11.433, 12.088, 13.175] s.p.stage := by
  refine run_view (Bridge.shrimp_update_seq e p u xi rest vm speed maxDay maxNgh minDay minNgh h0 h1 h2 h3 h4 h5)
    fun s hp => ?_
  obtain ⟨g1, g2, g3, g4, g5, g6, _⟩ := shrimp_facts (e.fieldTemp p.x p.y p.z) e.dt
    (if Bio.isZeroS p.stage then 1.0 else p.stage)
  rw [hp]
  dsimp only [Bridge.shrimpStageAfter]
  refine ⟨by rw [C07.shrimp_age_advance], g1, g2, g3, fun hdt h6 => ?_, fun hdt h1' h6 => ?_, g6⟩
  · by_cases hz : Bio.isZeroS p.stage = true
    · exact (isZeroS_iff.1 hz).trans_le (zero_le_one.trans g1)
    · rw [if_neg hz] at g4 ⊢
      exact g4 hdt h6
  · have hz : ¬ Bio.isZeroS p.stage = true := fun h => (zero_lt_one.trans_le h1').ne' (isZeroS_iff.1 h)
    rw [if_neg hz] at g5 ⊢
    exact g5 hdt h1' h6

private def exShrimpEnv : ShrimpEnv ℚ Unit :=
  ⟨[0.01, 0.02, 0.03, 0.04, 0.05], [0.001, 0.002, 0.003, 0.004, 0.005], [100, 110, 120, 130, 140],
    [50, 55, 60, 65, 70], [40, 45, 50, 55, 60], [10, 15, 20, 25, 30], 600, fun _ _ _ => 5, fun _ _ _ => 34,
    fun x y => (x, y), true, (), (), fun _ => (100, 12), false⟩

private theorem exStage : shrimpIntStage (Bridge.shrimpStageAfter exShrimpEnv exShrimp) = 1 := by decide +kernel

/-- shrimp: five-entry tables, stage 2 (after growth `⌊stage⌋ = 2`: every table is read at index 1) -/
example : ∃ s, shrimpUpdateRun exShrimpEnv exShrimp ((0.3 : ℚ) :: 0.7 :: []) = some (some s) ∧
    s.p.age = 12 + 600 / 86400 ∧ 2 ≤ s.p.stage ∧ (s.p.active = true ↔ s.p.stage < 6) := by
  obtain ⟨s, h, ha, _, _, hact, hm, _⟩ := c09_shrimp_update exShrimpEnv exShrimp 0.3 0.7 [] 0.02 0.002 110 55 45 15
    (by rw [exStage]; rfl) (by rw [exStage]; rfl) (by rw [exStage]; rfl) (by rw [exStage]; rfl) (by rw [exStage]; rfl)
    (by rw [exStage]; rfl)
  exact ⟨s, h, ha, hm (by norm_num [exShrimpEnv]) (by norm_num [exShrimp]), hact⟩

/-- **shrimp, any history** of interpreted updates — every step with its own attributes and forcing (`dt ≥ 0`, tables
with five entries), its own position `(X, Y, Z)` and its own pair of random numbers: for a particle with stage at most 6
the history finishes (no table read fails), the stage at the end is at most 6 and not below the stage at the start. -/
theorem c09_shrimp_history [HasTrunc α] {τ : Type} (htr : ∀ s : α, 1 ≤ s → 1 ≤ trunc s)
    (steps : List (ShrimpEnv α τ × α × α × α × α × α))
    (hsteps : ∀ i ∈ steps, 0 ≤ i.1.dt ∧ 5 ≤ i.1.vertMix.length ∧ 5 ≤ i.1.vertSpeed.length ∧ 5 ≤ i.1.maxDay.length ∧
      5 ≤ i.1.maxNgh.length ∧ 5 ≤ i.1.minDay.length ∧ 5 ≤ i.1.minNgh.length)
    (p : Shrimp α) (h6 : p.stage ≤ 6) :
    ∃ q, steps.foldlM (fun p i =>
          ((shrimpUpdateRun i.1 { p with x := i.2.1, y := i.2.2.1, z := i.2.2.2.1 } [i.2.2.2.2.1, i.2.2.2.2.2]).join).map
            fun s => s.p) p = some q ∧ q.stage ≤ 6 ∧ p.stage ≤ q.stage :=
  c09_monotone_history (fun p : Shrimp α => p.stage) (fun p => p.stage ≤ 6) _ steps (fun p hp i hi => by
    obtain ⟨hdt, hl⟩ := hsteps i hi
    -- the stage after growth is at least 1: a table with five entries has the entry that `update_ibm` reads
    have h1 : 1 ≤ trunc (Bridge.shrimpStageAfter i.1 { p with x := i.2.1, y := i.2.2.1, z := i.2.2.2.1 }) :=
      htr _ (C09.shrimp_stage_range _ _ _).1
    obtain ⟨vm, h0⟩ := Bridge.shrimp_table_read i.1.vertMix hl.1 _ h1
    obtain ⟨sp, h1'⟩ := Bridge.shrimp_table_read i.1.vertSpeed hl.2.1 _ h1
    obtain ⟨a, h2⟩ := Bridge.shrimp_table_read i.1.maxDay hl.2.2.1 _ h1
    obtain ⟨b, h3⟩ := Bridge.shrimp_table_read i.1.maxNgh hl.2.2.2.1 _ h1
    obtain ⟨c, h4⟩ := Bridge.shrimp_table_read i.1.minDay hl.2.2.2.2.1 _ h1
    obtain ⟨d, h5⟩ := Bridge.shrimp_table_read i.1.minNgh hl.2.2.2.2.2 _ h1
    obtain ⟨s, h, _, _, h6', _, hm, _⟩ :=
      c09_shrimp_update i.1 _ i.2.2.2.2.1 i.2.2.2.2.2 [] vm sp a b c d h0 h1' h2 h3 h4 h5
    exact ⟨s.p, by show Option.map _ (Option.join _) = _; rw [h]; rfl, h6', hm hdt hp⟩) p h6

private theorem exTruncLaw : ∀ s : ℚ, 1 ≤ s → 1 ≤ trunc s := fun s h => Int.le_floor.mpr (by simpa using h)

/-- two updates with the five-entry tables of `exShrimpEnv` -/
example : ∃ q, [(exShrimpEnv, (10 : ℚ), (20 : ℚ), (30 : ℚ), (0.3 : ℚ), (0.7 : ℚ)), (exShrimpEnv, 11, 20, 35, 0.9, -0.2)].foldlM
      (fun p i => ((shrimpUpdateRun i.1 { p with x := i.2.1, y := i.2.2.1, z := i.2.2.2.1 }
        [i.2.2.2.2.1, i.2.2.2.2.2]).join).map fun s => s.p) exShrimp = some q ∧ q.stage ≤ 6 ∧ 2 ≤ q.stage :=
  c09_shrimp_history exTruncLaw _
    (by
      intro i hi
      simp only [List.mem_cons, List.not_mem_nil, or_false] at hi
      rcases hi with rfl | rfl <;> simp [exShrimpEnv])
    exShrimp (by norm_num [exShrimp])

end dev
end OnCode
