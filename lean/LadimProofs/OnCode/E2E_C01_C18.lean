import LadimProofs.C01
import LadimProofs.C18
import LadimProofs.Bridge.Config
import LadimProofs.Bridge.ReleaseSeq
/-!
# C01 / C18 end to end — the property clauses about the interpretation of the current source

Property C01 — Release table is complete: one intact row per requested particle
STATEMENT: For every valid release configuration the generated table has exactly as many rows as the sum of the requested particle counts, every column has that length, each group contributes exactly its own count, and the values belonging to one particle (date, position, attributes) stay together in one row. The columns are the requested column list in that order, or by default date, longitude, latitude, depth followed by the attributes, and an attribute that a group does not define is 0 for that group's particles.
QUANTIFIER: all configurations: 1..k groups; per-group counts >= 0 (including 0 and 1); every mix of location forms (point, polygon, multi-polygon, metric offset, GeoJSON) and attribute forms; explicit `attrs` and implicit attributes; with and without a `columns` list; flat, list and grouped containers

Property C18 — Release generation is reproducible, whatever way the config is supplied
STATEMENT: With a seed, repeated runs give identical tables, and the same specification gives the same table whether passed as a mapping, a list of groups, a YAML stream, a YAML file or through the command line. The file written (tab-separated, no header) parses back to exactly the returned table, column by column, and invalid configurations are rejected with an error that names what is missing instead of producing a partial table.
QUANTIFIER: all valid configurations and seeds; all containers; all missing-key combinations for the error path

Every `c01_…` / `c18_…` theorem below is about `runMakeRelease … Gen.make_release_seq`,
`runSingleRelease … Gen.make_single_release_seq` (through the abbreviation `GroupIn.run g prog`) or
`runStrict cfgAtom cfgStep Gen.load_config_seq` (through the abbreviation `cfgOutcome prog c`): the statement
sequences regenerated from `release/makrel.py` on every run.  The bridges `Bridge.make_release_seq_full`,
`Bridge.make_single_release_seq_full`, `Bridge.load_config`, `Bridge.tail_run` and the model theorems of
`LadimProofs/C01.lean`, `C18.lean` are used as lemmas only.

Hypotheses.
* Table theorems (`c01_rows_are_group_rows`, `c01_table_shape`, `c01_row_integrity`, `c01_every_particle_has_row`,
  `c01_columns`, `c01_sorted_by_date`): the *only* hypothesis is "the interpreted `make_release` returned the table
  `(cols, rows)`"; `c01_valid_returns` shows that it does for every valid configuration (≥ 1 group, rectangular
  group frames, requested columns exist) and `c18_invalid_table_raises` that it raises otherwise.
  `c01_sorted_by_date` needs `date` among the requested columns (else the table has no date column).
* Forced by the bridge `make_single_release_seq_full` / the interpreter `relStep`: the value of
  `attrs_default = dict(depth=0.0)` is a free parameter of the interpreter; the theorems instantiate it with the
  one-column frame `[("depth", depth0)]` (what the source text says).  The interpreter takes `get_attrs`, `date_range`,
  `get_location` as already evaluated columns (`GroupIn`): the draws are inputs.
* `GroupIn.WF` (for `c01_single_release_values`, `c01_end_to_end`): the three mappings are Python dicts (no duplicate
  keys — a `Frame` is an association list, this is well-formedness of the encoding) and `get_location` returned
  `longitude` and `latitude` (otherwise the code raises, `c01_single_release_returns`).
* `load_config` theorems: the interpreter starts from a parsed object (`Container`, keys only); file names, streams,
  YAML and the command line are outside (their conditions are `false` in `cfgAtom`).

Stability of the sort: `c01_ties_keep_order` (rows with the same date keep the order of the concatenated groups, i.e.
group order and particle order inside a group — what C04's "verbatim in particle order" needs when a group is released
at one time).  Not connected (see the report): `to_csv` round trip, YAML stream / file / command line containers, the text
of the error message (only the list `not_present` it is formatted from, `…_partial`), and the link "same normalised
configuration ⇒ same evaluated groups" (`Container` carries keys, not values).
-/
open Ladim Ladim.Table Ladim.Seq

set_option linter.unusedSectionVars false
set_option linter.unusedVariables false
namespace OnCode
namespace Rel
variable {α : Type}

/-! ## helper lemmas (lists, `dictMerge`, `selectCols`); the theorems about the code start at `c01_…` -/

/-- the fold that `allCols` and (on keys) `dictMerge` perform: append the names that are new -/
def addKeys (acc l : List String) : List String :=
  l.foldl (fun acc c => if acc.contains c then acc else acc ++ [c]) acc

theorem allCols_eq (fs : List (Frame α)) : allCols fs = addKeys [] (fs.flatMap (fun f => f.map (·.1))) := rfl

theorem addKeys_prefix (acc l : List String) : ∃ rest, addKeys acc l = acc ++ rest := by
  unfold addKeys
  induction l generalizing acc with
  | nil => exact ⟨[], by simp⟩
  | cons c cs ih =>
    simp only [List.foldl_cons]
    split
    · exact ih acc
    · obtain ⟨r, hr⟩ := ih (acc ++ [c])
      exact ⟨c :: r, by rw [hr]; simp⟩

theorem addKeys_append (acc l₁ l₂ : List String) : addKeys acc (l₁ ++ l₂) = addKeys (addKeys acc l₁) l₂ := by
  simp [addKeys, List.foldl_append]

theorem addKeys_new (acc l : List String) (hnew : ∀ c ∈ l, c ∉ acc) (hnd : l.Nodup) : addKeys acc l = acc ++ l := by
  unfold addKeys
  induction l generalizing acc with
  | nil => simp
  | cons c cs ih =>
    simp only [List.foldl_cons]
    have hc : acc.contains c = false := by
      simpa using hnew c (by simp)
    simp only [hc, Bool.false_eq_true, if_false]
    rw [List.nodup_cons] at hnd
    rw [ih (acc ++ [c])]
    · simp
    · intro d hd
      simp only [List.mem_append, List.mem_singleton, not_or]
      exact ⟨hnew d (by simp [hd]), fun h => hnd.1 (h ▸ hd)⟩
    · exact hnd.2

theorem addKeys_nodup (acc l : List String) (h : acc.Nodup) : (addKeys acc l).Nodup := by
  unfold addKeys
  induction l generalizing acc with
  | nil => simpa
  | cons d ds ih =>
    simp only [List.foldl_cons]
    split
    · exact ih acc h
    · rename_i hc
      exact ih _ (h.append (List.nodup_singleton d) (by simpa using hc))

/-- keys of `{**base, **upd}`: the keys of `base`, then the new keys of `upd` in order -/
theorem dictMerge_keys {β : Type} (base upd : List (String × β)) :
    (dictMerge base upd).map (·.1) = addKeys (base.map (·.1)) (upd.map (·.1)) := by
  unfold dictMerge addKeys
  induction upd generalizing base with
  | nil => simp
  | cons kv rest ih =>
    simp only [List.foldl_cons, List.map_cons]
    have hany : base.any (fun p => p.1 == kv.1) = (base.map (·.1)).contains kv.1 := by
      rw [List.contains_eq_any_beq, List.any_map]
      exact congrArg _ (funext fun p => BEq.comm)
    rw [← hany]
    by_cases h : base.any (fun p => p.1 == kv.1)
    · simp only [h, if_true]
      rw [ih]
      congr 1
      rw [List.map_map]
      apply List.map_congr_left
      intro p _
      simp only [Function.comp]
      split <;> rfl
    · simp only [h, Bool.false_eq_true, if_false]
      rw [ih]
      simp

/-- one key of `{**base, k': v}`: the new value at `k'`, the old value elsewhere -/
theorem lookup_update {β : Type} (base : List (String × β)) (kv : String × β) (k : String) :
    lookup (if base.any (fun p => p.1 == kv.1) then base.map (fun p => if p.1 == kv.1 then (p.1, kv.2) else p)
            else base ++ [kv]) k = if kv.1 == k then some kv.2 else lookup base k := by
  unfold lookup
  split
  · rename_i h
    -- the update keeps every key, so it commutes with the search for `k`
    have hkey : ((fun p : String × β => p.1 == k) ∘ fun p => if p.1 == kv.1 then (p.1, kv.2) else p)
        = fun p => p.1 == k := by
      funext p; simp only [Function.comp]; split <;> rfl
    rw [List.find?_map, hkey]
    cases hf : base.find? (fun p => p.1 == k) with
    | none =>
      have hk : (kv.1 == k) = false := by
        obtain ⟨q, hq, hqk⟩ := List.any_eq_true.1 h
        rw [← eq_of_beq hqk]
        exact Bool.eq_false_iff.2 (List.find?_eq_none.1 hf q hq)
      simp [hk]
    | some q =>
      have hq : q.1 = k := eq_of_beq (List.find?_some (p := fun p : String × β => p.1 == k) hf)
      by_cases hk : kv.1 == k
      · simp [hq, eq_of_beq hk]
      · have : k ≠ kv.1 := fun e => hk (by simp [e])
        simp [hk, hq, this]
  · rename_i h
    rw [List.find?_append]
    by_cases hk : kv.1 == k
    · have : base.find? (fun p => p.1 == k) = none :=
        List.find?_eq_none.2 fun q hq hqk => h (List.any_eq_true.2 ⟨q, hq, by rw [eq_of_beq hk]; exact hqk⟩)
      simp [this, hk]
    · cases base.find? (fun p => p.1 == k) <;> simp [hk]

theorem lookup_eq_none_iff {β : Type} (f : List (String × β)) (k : String) :
    lookup f k = none ↔ ∀ p ∈ f, p.1 ≠ k := by
  simp [lookup, List.find?_eq_none]

theorem lookup_isSome_iff {β : Type} (f : List (String × β)) (k : String) :
    (lookup f k).isSome ↔ k ∈ f.map (·.1) := by
  rw [← not_iff_not, Bool.not_eq_true, Option.isSome_eq_false_iff, Option.isNone_iff_eq_none, lookup_eq_none_iff]
  simp only [List.mem_map, not_exists, not_and]

theorem lookup_cons {β : Type} (a : String) (v : β) (f : List (String × β)) (k : String) :
    lookup ((a, v) :: f) k = if k = a then some v else lookup f k := by
  unfold lookup
  rw [List.find?_cons]
  by_cases h : k = a
  · simp [h]
  · have : (a == k) = false := by simpa using fun e => h e.symm
    simp [h, this]

/-- `{**base, **upd}[k]` for a key `upd` does not have -/
theorem lookup_dictMerge_absent {β : Type} (base upd : List (String × β)) (k : String)
    (h : lookup upd k = none) : lookup (dictMerge base upd) k = lookup base k := by
  induction upd generalizing base with
  | nil => rfl
  | cons kv rest ih =>
    obtain ⟨a, v⟩ := kv
    rw [lookup_cons] at h
    split at h
    · cases h
    · rename_i hk
      -- `dictMerge base (kv :: rest)` is `dictMerge` of the updated `base` with `rest`
      refine (ih _ h).trans ?_
      rw [lookup_update, if_neg (by simpa using fun e => hk e.symm)]

/-- `{**base, **upd}[k]`, `upd` a dict (no duplicate keys): the value `upd` gives to `k`, else the value in `base` -/
theorem lookup_dictMerge {β : Type} (base upd : List (String × β)) (k : String)
    (hnd : (upd.map (·.1)).Nodup) : lookup (dictMerge base upd) k = (lookup upd k).or (lookup base k) := by
  induction upd generalizing base with
  | nil => rfl
  | cons kv rest ih =>
    obtain ⟨a, v⟩ := kv
    rw [List.map_cons, List.nodup_cons] at hnd
    refine (ih _ hnd.2).trans ?_
    rw [lookup_update, lookup_cons]
    by_cases hk : k = a
    · subst hk
      have : lookup rest k = none :=
        (lookup_eq_none_iff _ _).2 fun p hp he => hnd.1 (List.mem_map.2 ⟨p, hp, he⟩)
      simp [this]
    · have : (a == k) = false := by simpa using fun e => hk e.symm
      simp [hk, this]

/-- `{**base, **upd}[k]` for a key `upd` has -/
theorem lookup_dictMerge_present {β : Type} (base upd : List (String × β)) (k : String) (v : β)
    (hnd : (upd.map (·.1)).Nodup) (h : lookup upd k = some v) : lookup (dictMerge base upd) k = some v := by
  rw [lookup_dictMerge _ _ _ hnd, h]; rfl

theorem dictMerge_keys_nodup {β : Type} (base upd : List (String × β)) (h : (base.map (·.1)).Nodup) :
    ((dictMerge base upd).map (·.1)).Nodup := by
  rw [dictMerge_keys]; exact addKeys_nodup _ _ h

/-- dropping the position columns removes these two keys and does not touch the others -/
theorem lookup_filter_lonlat {β : Type} (f : List (String × β)) (k : String) :
    lookup (f.filter (fun p => !(p.1 == "longitude" || p.1 == "latitude"))) k =
      if k = "longitude" ∨ k = "latitude" then none else lookup f k := by
  unfold lookup
  rw [List.find?_filter]
  split
  · rename_i hk
    rw [List.find?_eq_none.2 fun p _ hp => by
      rw [decide_eq_true_eq] at hp
      rcases hk with rfl | rfl <;> simp [eq_of_beq hp.2] at hp]
    rfl
  · rename_i hk
    rw [not_or] at hk
    congr 2
    funext p
    by_cases hp : p.1 == k
    · simp [eq_of_beq hp, hk.1, hk.2]
    · simp [hp]

/-! ### `frame[columns]` on a laid-out row -/

theorem idxOf_bind_map {β : Type} (cols : List String) (h : String → β) (c : String) :
    (cols.idxOf? c).bind (fun j => (cols.map h)[j]?) = if c ∈ cols then some (h c) else none := by
  induction cols with
  | nil => simp
  | cons x xs ih =>
    rw [List.idxOf?_cons]
    by_cases hx : x == c
    · have : x = c := eq_of_beq hx
      simp [this]
    · have hne : ¬ c = x := fun he => hx (by simp [he])
      simp only [hx, Bool.false_eq_true, if_false, List.mem_cons, hne, false_or]
      rw [← ih]
      cases xs.idxOf? c <;> simp

theorem mapM_some_of_forall {γ δ : Type} (g : γ → Option δ) (h : γ → δ) (l : List γ)
    (hg : ∀ a ∈ l, g a = some (h a)) : l.mapM g = some (l.map h) := by
  induction l with
  | nil => rfl
  | cons a as ih =>
    simp only [List.mapM_cons, hg a (by simp), ih (fun b hb => hg b (by simp [hb]))]
    rfl

theorem mapM_none_of_mem {γ δ : Type} (g : γ → Option δ) (l : List γ) (a : γ) (ha : a ∈ l) (hg : g a = none) :
    l.mapM g = none := by
  induction l with
  | nil => simp at ha
  | cons b bs ih =>
    simp only [List.mapM_cons]
    rcases List.mem_cons.1 ha with rfl | hm
    · simp [hg]
    · cases g b <;> simp [ih hm]

variable (zero : α)

/-- `frame[want]` on the row of particle `i` of a group: the same particle laid out on the wanted columns; a
`KeyError` when a wanted column does not exist -/
theorem selectCols_rowOf (cols want : List String) (f : Frame α) (i : Nat) :
    selectCols cols want (rowOf zero cols f i) =
      if ∀ c ∈ want, c ∈ cols then some (rowOf zero want f i) else none := by
  unfold selectCols
  by_cases hw : ∀ c ∈ want, c ∈ cols
  · rw [if_pos hw]
    apply mapM_some_of_forall
    intro c hc
    rw [rowOf, idxOf_bind_map, if_pos (hw c hc)]
  · rw [if_neg hw]
    simp only [not_forall] at hw
    obtain ⟨c, hc, hcn⟩ := hw
    apply mapM_none_of_mem _ _ c hc
    rw [rowOf, idxOf_bind_map, if_neg hcn]

/-- the sort key of a laid-out row: the group's date string of that particle -/
theorem dateKey_rowOf (cols : List String) (f : Frame α) (i : Nat) (h : "date" ∈ cols) :
    dateKey cols (rowOf zero cols f i) =
      match fill zero ((lookup f "date").bind (fun col => col[i]?)) with
      | .str s => s
      | _ => "" := by
  have := idxOf_bind_map cols (fun c => fill zero ((lookup f c).bind (fun col => col[i]?))) "date"
  rw [if_pos h] at this
  unfold dateKey
  rw [rowOf]
  cases hidx : cols.idxOf? "date" with
  | none => simp [hidx] at this
  | some j =>
    simp only [hidx, Option.bind_some] at this
    simp only [this]
    cases fill zero ((lookup f "date").bind fun col => col[i]?) <;> rfl

/-! ### what a returned table is made of -/

theorem rowsOf_flat_length (cols : List String) (l : List (Frame α × Nat)) :
    (l.flatMap (fun g => rowsOf zero cols g.1 g.2)).length = (l.map (·.2)).sum := by
  induction l with
  | nil => simp
  | cons h t iht => simp [List.flatMap_cons, C01.rowsOf_length, iht]

theorem mem_flat_rows (cols : List String) (groups : List (Frame α × Nat)) (r : List (Cell α)) :
    r ∈ groups.flatMap (fun g => rowsOf zero cols g.1 g.2) ↔ ∃ g ∈ groups, ∃ i, i < g.2 ∧ rowOf zero cols g.1 i = r := by
  simp only [List.mem_flatMap, rowsOf, List.mem_map, List.mem_range]

/-- the rows of the sorted zero-filled table are the particles of the groups -/
theorem mem_sorted (groups : List (Frame α × Nat)) (r : List (Cell α)) :
    r ∈ sortRows (concatFill zero groups).1 (concatFill zero groups).2 ↔
      ∃ g ∈ groups, ∃ i, i < g.2 ∧ rowOf zero (concatFill zero groups).1 g.1 i = r :=
  (C01.sortRows_perm _ _).mem_iff.trans (mem_flat_rows zero _ groups r)

/-- `frame[want]` on every row of the sorted table: every particle is laid out on the wanted columns; a `KeyError` exactly
when a wanted column does not exist and there is a row to select from -/
theorem select_sorted (groups : List (Frame α × Nat)) (want : List String) :
    (sortRows (concatFill zero groups).1 (concatFill zero groups).2).mapM (selectCols (concatFill zero groups).1 want) =
      if (∀ c ∈ want, c ∈ (concatFill zero groups).1) ∨ sortRows (concatFill zero groups).1 (concatFill zero groups).2 = []
      then some ((sortRows (concatFill zero groups).1 (concatFill zero groups).2).map
        (fun r => (selectCols (concatFill zero groups).1 want r).getD []))
      else none := by
  by_cases hw : ∀ c ∈ want, c ∈ (concatFill zero groups).1
  · rw [if_pos (Or.inl hw)]
    refine mapM_some_of_forall _ _ _ fun a ha => ?_
    obtain ⟨g, _, i, _, rfl⟩ := (mem_sorted zero groups a).1 ha
    rw [selectCols_rowOf, if_pos hw]; rfl
  · cases hS : sortRows (concatFill zero groups).1 (concatFill zero groups).2 with
    | nil => rw [if_pos (Or.inr rfl)]; rfl
    | cons a as =>
      rw [if_neg (by simp [hw])]
      refine mapM_none_of_mem _ _ a (by simp) ?_
      obtain ⟨g, _, i, _, rfl⟩ := (mem_sorted zero groups a).1 (by rw [hS]; simp)
      rw [selectCols_rowOf, if_neg hw]

/-- the exact outcome of the interpreted `make_release`, inverted: a returned table comes from a non-empty list of
rectangular group frames and is `Table.makeTable` of them -/
theorem run_inv {groups : List (Frame α × Nat)} {columns : Option (List String)} {hasSeed fname : Bool}
    {cols : List String} {rows : List (List (Cell α))}
    (h : runMakeRelease zero groups columns hasSeed fname Gen.make_release_seq = some (some (cols, rows))) :
    groups ≠ [] ∧ groups.all (fun g => frameOk g.1 g.2) = true ∧ makeTable zero groups columns = some (cols, rows) := by
  rw [Bridge.make_release_seq_full] at h
  have h := Option.some.inj h
  by_cases he : groups.isEmpty
  · rw [if_pos he] at h; cases h
  · rw [if_neg he] at h
    refine ⟨fun hn => he (by simp [hn]), ?_, h⟩
    unfold makeTable at h
    by_contra hok
    rw [if_neg hok] at h
    cases h

/-- the rows of a returned table are, up to the order, the rows of the groups laid out on the *returned* columns -/
theorem rows_perm {groups : List (Frame α × Nat)} {columns : Option (List String)}
    {cols : List String} {rows : List (List (Cell α))}
    (h : makeTable zero groups columns = some (cols, rows)) :
    rows.Perm (groups.flatMap (fun g => rowsOf zero cols g.1 g.2)) ∧
    ((∀ want, columns = some want → "date" ∈ want) →
      List.Pairwise (fun a b => dateKey cols a ≤ dateKey cols b) rows) := by
  unfold makeTable at h
  split_ifs at h with hok
  cases columns with
  | none =>
    simp only [Option.some.injEq, Prod.mk.injEq] at h
    obtain ⟨rfl, rfl⟩ := h
    exact ⟨C01.sortRows_perm _ _, fun _ => C01.sortRows_sorted _ _⟩
  | some want =>
    simp only [Option.map_eq_some_iff, Prod.mk.injEq] at h
    obtain ⟨rs, hrs, rfl, rfl⟩ := h
    rw [select_sorted] at hrs
    split_ifs at hrs with hc
    obtain rfl := Option.some.inj hrs
    set all := (concatFill zero groups).1
    set full := (concatFill zero groups).2
    have hperm : (sortRows all full).Perm (groups.flatMap (fun g => rowsOf zero all g.1 g.2)) :=
      C01.sortRows_perm all full
    rcases hc with hw | hnil
    · have hG : ∀ (f : Frame α) (i : Nat), (selectCols all want (rowOf zero all f i)).getD [] = rowOf zero want f i := by
        intro f i; rw [selectCols_rowOf, if_pos hw]; rfl
      constructor
      · refine (hperm.map _).trans (List.Perm.of_eq ?_)
        simp only [List.map_flatMap, rowsOf, List.map_map, Function.comp_def, hG]
      · intro hdate
        have hd : "date" ∈ want := hdate want rfl
        have hK : ∀ f i, dateKey want (rowOf zero want f i) = dateKey all (rowOf zero all f i) := fun f i => by
          rw [dateKey_rowOf zero want _ _ hd, dateKey_rowOf zero all _ _ (hw _ hd)]
        rw [List.pairwise_map]
        refine (C01.sortRows_sorted all full).imp_of_mem ?_
        intro a b ha hb hab
        obtain ⟨ga, _, ia, _, rfl⟩ := (mem_sorted zero groups a).1 ha
        obtain ⟨gb, _, ib, _, rfl⟩ := (mem_sorted zero groups b).1 hb
        rwa [hG, hG, hK, hK]
    · -- no row at all (a wanted column may then be missing)
      have hzero : groups.flatMap (fun g => rowsOf zero want g.1 g.2) = [] := by
        apply List.eq_nil_of_length_eq_zero
        rw [rowsOf_flat_length, ← rowsOf_flat_length zero all, ← hperm.length_eq, hnil]; rfl
      rw [hnil, hzero]
      exact ⟨List.Perm.refl _, fun _ => List.Pairwise.nil⟩

end Rel

/-! # C01 on the interpretation of `Gen.make_release_seq` -/
section C01table
open Rel
variable {α : Type} (zero : α)

/-- **C01, rows = groups' rows (main form).**  Whenever the interpreted `make_release` returns a table `(cols, rows)`
for the group frames `groups` (frame returned by `make_single_release`, `num`), with or without a `columns` list:
the rows are a permutation of the concatenation, group by group, of the `num` rows of each group laid out on the
returned columns — each group contributes exactly its own `num` rows (second conjunct), and every row is the layout of
*one* particle `i` of *one* group (`rowOf`: cell under column `c` = `fill (frame[c][i])`). -/
theorem c01_rows_are_group_rows (groups : List (Frame α × Nat)) (columns : Option (List String))
    (hasSeed fname : Bool) (cols : List String) (rows : List (List (Cell α)))
    (h : runMakeRelease zero groups columns hasSeed fname Gen.make_release_seq = some (some (cols, rows))) :
    rows.Perm (groups.flatMap (fun g => rowsOf zero cols g.1 g.2)) ∧
    ∀ g ∈ groups, (rowsOf zero cols g.1 g.2).length = g.2 :=
  ⟨(rows_perm zero (run_inv zero h).2.2).1, fun g _ => C01.rowsOf_length zero cols g.1 g.2⟩

/-- **C01, size.**  The returned table has exactly `Σ num` rows and every row has one cell per column: every column
has length `Σ num`. -/
theorem c01_table_shape (groups : List (Frame α × Nat)) (columns : Option (List String))
    (hasSeed fname : Bool) (cols : List String) (rows : List (List (Cell α)))
    (h : runMakeRelease zero groups columns hasSeed fname Gen.make_release_seq = some (some (cols, rows))) :
    rows.length = (groups.map (·.2)).sum ∧ (∀ r ∈ rows, r.length = cols.length) ∧
    ∀ j, j < cols.length → (rows.filterMap (fun r => r[j]?)).length = (groups.map (·.2)).sum := by
  have hp := (c01_rows_are_group_rows zero groups columns hasSeed fname cols rows h).1
  have hlen : rows.length = (groups.map (·.2)).sum := by rw [hp.length_eq, rowsOf_flat_length]
  have hrect : ∀ r ∈ rows, r.length = cols.length := by
    intro r hr
    obtain ⟨g, _, i, _, rfl⟩ := (mem_flat_rows zero cols groups r).1 (hp.mem_iff.1 hr)
    simp [rowOf]
  refine ⟨hlen, hrect, ?_⟩
  intro j hj
  have : rows.filterMap (fun r => r[j]?) = rows.map (fun r => (r[j]?).getD (.num zero)) :=
    List.filterMap_eq_map_iff_forall_eq_some.2 fun r hr => by
      rw [List.getElem?_eq_getElem (by rw [hrect r hr]; exact hj)]; rfl
  rw [this, List.length_map, hlen]

/-- **C01, one intact row per particle; undefined attributes are 0.**  Every row of the returned table belongs to
one particle `i < num` of one group: under *every* column `cols[j]` it carries that group's value for that particle,
`frame[cols[j]][i]` (NaN → 0), and `0` if the group's frame has no column of that name. -/
theorem c01_row_integrity (groups : List (Frame α × Nat)) (columns : Option (List String))
    (hasSeed fname : Bool) (cols : List String) (rows : List (List (Cell α)))
    (h : runMakeRelease zero groups columns hasSeed fname Gen.make_release_seq = some (some (cols, rows))) :
    ∀ r ∈ rows, ∃ g ∈ groups, ∃ i, i < g.2 ∧ ∀ j (hj : j < cols.length),
      r[j]? = some (fill zero ((lookup g.1 cols[j]).bind (fun col => col[i]?))) ∧
      (lookup g.1 cols[j] = none → r[j]? = some (Cell.num zero)) := by
  intro r hr
  have hp := (c01_rows_are_group_rows zero groups columns hasSeed fname cols rows h).1
  obtain ⟨g, hg, i, hi, rfl⟩ := (mem_flat_rows zero cols groups r).1 (hp.mem_iff.1 hr)
  refine ⟨g, hg, i, hi, fun j hj => ?_⟩
  have h1 : (rowOf zero cols g.1 i)[j]? = some (fill zero ((lookup g.1 cols[j]).bind (fun col => col[i]?))) := by
    simp [rowOf, hj]
  exact ⟨h1, fun hm => by rw [h1, hm]; rfl⟩

/-- … and conversely every requested particle has its row: particle `i < num` of every group occurs in the table. -/
theorem c01_every_particle_has_row (groups : List (Frame α × Nat)) (columns : Option (List String))
    (hasSeed fname : Bool) (cols : List String) (rows : List (List (Cell α)))
    (h : runMakeRelease zero groups columns hasSeed fname Gen.make_release_seq = some (some (cols, rows))) :
    ∀ g ∈ groups, ∀ i, i < g.2 → rowOf zero cols g.1 i ∈ rows :=
  fun g hg i hi => (c01_rows_are_group_rows zero groups columns hasSeed fname cols rows h).1.mem_iff.2
    ((mem_flat_rows zero cols groups _).2 ⟨g, hg, i, hi, rfl⟩)

/-- **C01, columns.**  The columns of the returned table are the requested list in that order, or by default the
union of the group frames' columns in order of first appearance (for the first group's frame see
`c01_single_default_columns`). -/
theorem c01_columns (groups : List (Frame α × Nat)) (columns : Option (List String))
    (hasSeed fname : Bool) (cols : List String) (rows : List (List (Cell α)))
    (h : runMakeRelease zero groups columns hasSeed fname Gen.make_release_seq = some (some (cols, rows))) :
    (∀ want, columns = some want → cols = want) ∧
    (columns = none → cols = allCols (groups.map (·.1))) := by
  have hm := (run_inv zero h).2.2
  constructor
  · intro want hw; subst hw
    exact (C01.columns_requested zero groups want cols rows hm).1
  · intro hn; subst hn
    exact C01.columns_default zero groups cols rows hm

/-- **C01, sorted by date.**  The rows of the returned table are in non-decreasing order of the date string (when a
`columns` list is given it must contain `date`, otherwise the table has no date to compare). -/
theorem c01_sorted_by_date (groups : List (Frame α × Nat)) (columns : Option (List String))
    (hasSeed fname : Bool) (cols : List String) (rows : List (List (Cell α)))
    (hdate : ∀ want, columns = some want → "date" ∈ want)
    (h : runMakeRelease zero groups columns hasSeed fname Gen.make_release_seq = some (some (cols, rows))) :
    List.Pairwise (fun a b => dateKey cols a ≤ dateKey cols b) rows :=
  (rows_perm zero (run_inv zero h).2.2).2 hdate

/-- **Ties keep their order** (C01 "the values belonging to one particle stay together", C04 "explicit lists are
reproduced verbatim in particle order" for particles released at one time).  Without a `columns` list the rows of the
returned table that carry a given date string are, in this order, the rows with that date of the groups' zero-filled
rows concatenated group by group: the date sort never reorders particles that share a release time. -/
theorem c01_ties_keep_order (groups : List (Frame α × Nat)) (hasSeed fname : Bool) (cols : List String)
    (rows : List (List (Cell α))) (hne : groups ≠ [])
    (h : runMakeRelease zero groups none hasSeed fname Gen.make_release_seq = some (some (cols, rows))) (k : String) :
    cols = (concatFill zero groups).1 ∧
      rows.filter (fun x => dateKey cols x == k) = (concatFill zero groups).2.filter (fun x => dateKey cols x == k) := by
  rw [Bridge.make_release_seq zero groups none hasSeed fname hne] at h
  unfold makeTable at h
  split at h
  · simp only [Option.some.injEq, Prod.mk.injEq] at h
    obtain ⟨rfl, rfl⟩ := h
    exact ⟨rfl, C01.sortRows_stable _ _ k⟩
  · simp at h

theorem Rel.frames_ok_iff {α : Type} (groups : List (Frame α × Nat)) :
    groups.all (fun g => frameOk g.1 g.2) = true ↔ ∀ g ∈ groups, ∀ p ∈ g.1, p.2.length = g.2 := by
  simp [frameOk, List.all_eq_true]

/-- **C01, "for every valid release configuration".**  A valid configuration does produce a table: at least one
group, every column of every group frame has `num` cells, and the requested columns (if any) exist in some group. -/
theorem c01_valid_returns (groups : List (Frame α × Nat)) (columns : Option (List String)) (hasSeed fname : Bool)
    (hne : groups ≠ []) (hok : ∀ g ∈ groups, ∀ p ∈ g.1, p.2.length = g.2)
    (hcols : ∀ want, columns = some want → ∀ c ∈ want, c ∈ allCols (groups.map (·.1))) :
    ∃ cols rows, runMakeRelease zero groups columns hasSeed fname Gen.make_release_seq = some (some (cols, rows)) := by
  rw [Bridge.make_release_seq zero groups columns hasSeed fname hne]
  unfold makeTable
  rw [if_pos ((frames_ok_iff groups).2 hok)]
  cases columns with
  | none => exact ⟨_, _, rfl⟩
  | some want =>
    have hw : ∀ c ∈ want, c ∈ (concatFill zero groups).1 := hcols want rfl
    exact ⟨want, _, by
      show some (Option.map _ (List.mapM (selectCols _ want) (sortRows _ _))) = _
      rw [select_sorted, if_pos (Or.inl hw)]
      rfl⟩

/-- **C18, no partial table (table level).**  The interpreted `make_release` raises — it does not return a table —
when there is no group (`pd.concat([])`), when a group frame is ragged (`pd.DataFrame` of columns of different
lengths), or when a requested column exists in no group and there is at least one particle. -/
theorem c18_invalid_table_raises (groups : List (Frame α × Nat)) (columns : Option (List String))
    (hasSeed fname : Bool)
    (hbad : groups = [] ∨ (∃ g ∈ groups, ∃ p ∈ g.1, p.2.length ≠ g.2) ∨
      (∃ want c, columns = some want ∧ c ∈ want ∧ c ∉ allCols (groups.map (·.1)) ∧ ∃ g ∈ groups, 0 < g.2)) :
    runMakeRelease zero groups columns hasSeed fname Gen.make_release_seq = some none := by
  rcases hbad with rfl | ⟨g, hg, p, hp, hlen⟩ | ⟨want, c, rfl, hc, hcn, g, hg, hpos⟩
  · rw [Bridge.make_release_seq_full]; rfl
  · rw [Bridge.make_release_seq _ _ _ _ _ (List.ne_nil_of_mem hg), makeTable, if_neg]
    rw [frames_ok_iff]
    exact fun hall => hlen (hall g hg p hp)
  · rw [Bridge.make_release_seq _ _ _ _ _ (List.ne_nil_of_mem hg)]
    unfold makeTable
    split_ifs with hok
    · show some (Option.map _ (List.mapM (selectCols _ want) (sortRows _ _))) = some none
      rw [select_sorted, if_neg]
      · rfl
      · rintro (hall | hnil)
        · exact hcn (hall c hc)
        · have hmem := (mem_sorted zero groups _).2 ⟨g, hg, 0, hpos, rfl⟩
          rw [hnil] at hmem
          cases hmem
    · rfl

end C01table

/-! # C01 on the interpretation of `Gen.make_single_release_seq` -/
section C01single
open Rel
variable {α : Type}

/-- what one group of the configuration evaluates to, before `make_single_release` assembles it: the release times
(`date_range`), the location columns (`get_location`: `longitude`, `latitude` and, for GeoJSON, the feature
properties), the default depth column (`dict(depth=0.0)`), the evaluated implicit and explicit attribute columns
(`get_attrs`; the random draws are in here), and `num`. -/
structure GroupIn (α : Type) where
  date : List (Cell α)
  loc : Frame α
  depth0 : List (Cell α)
  implicit : Frame α
  explicit : Frame α
  num : Nat

/-- the column of values that the group's specification gives to the name `k` (Python's precedence: explicit `attrs`
over implicit attributes over the default depth over the location's properties over the release date) -/
def GroupIn.column (g : GroupIn α) (k : String) : Option (List (Cell α)) :=
  (lookup g.explicit k).or <| (lookup g.implicit k).or <|
    if k = "depth" then some g.depth0
    else if k = "longitude" ∨ k = "latitude" then lookup g.loc k
    else (lookup g.loc k).or (if k = "date" then some g.date else none)

/-- well-formed group: the mappings are Python dicts (no duplicate keys) and `get_location` has returned a position -/
structure GroupIn.WF (g : GroupIn α) : Prop where
  loc_nodup : (g.loc.map (·.1)).Nodup
  implicit_nodup : (g.implicit.map (·.1)).Nodup
  explicit_nodup : (g.explicit.map (·.1)).Nodup
  lon : (lookup g.loc "longitude").isSome
  lat : (lookup g.loc "latitude").isSome

/-- the interpretation of `make_single_release` on a group -/
abbrev GroupIn.run (g : GroupIn α) (prog : List Stmt) : Option (Option (Frame α)) :=
  runSingleRelease g.date g.loc [("depth", g.depth0)] g.implicit g.explicit prog

theorem Rel.lookup_attrs (d0 : List (Cell α)) (implicit explicit : Frame α)
    (hi : (implicit.map (·.1)).Nodup) (he : (explicit.map (·.1)).Nodup) (k : String) :
    lookup (dictMerge (dictMerge [("depth", d0)] implicit) explicit) k =
      (lookup explicit k).or ((lookup implicit k).or (if k = "depth" then some d0 else none)) := by
  rw [lookup_dictMerge _ _ _ he, lookup_dictMerge _ _ _ hi, lookup_cons]
  rfl

theorem Rel.depth_present (d0 : List (Cell α)) (implicit explicit : Frame α) :
    (lookup (dictMerge (dictMerge [("depth", d0)] implicit) explicit) "depth").isSome := by
  obtain ⟨r1, h1⟩ := C01.dictMerge_keys_prefix [("depth", d0)] implicit
  obtain ⟨r2, h2⟩ := C01.dictMerge_keys_prefix (dictMerge [("depth", d0)] implicit) explicit
  rw [lookup_isSome_iff, h2, h1]
  simp

/-- the frame of a group that has a position and a depth: `date, longitude, latitude, depth`, then the location's
properties, then the attributes -/
theorem Rel.singleRelease_eq {date lon lat d : List (Cell α)} {loc d0 implicit explicit : Frame α}
    (hlon : lookup loc "longitude" = some lon) (hlat : lookup loc "latitude" = some lat)
    (hd : lookup (dictMerge (dictMerge d0 implicit) explicit) "depth" = some d) :
    singleRelease .depthFourth date loc d0 implicit explicit =
      dictMerge (dictMerge [("date", date), ("longitude", lon), ("latitude", lat), ("depth", d)]
          (loc.filter (fun p => !(p.1 == "longitude" || p.1 == "latitude"))))
        (dictMerge (dictMerge d0 implicit) explicit) := by
  unfold singleRelease
  simp only [hd, hlon, hlat, List.filterMap_cons, Option.map_some, List.filterMap_nil]
  rfl

theorem Rel.single_inv {g : GroupIn α} {f : Frame α}
    (h : g.run Gen.make_single_release_seq = some (some f)) :
    ∃ lon lat d, lookup g.loc "longitude" = some lon ∧ lookup g.loc "latitude" = some lat ∧
      lookup (dictMerge (dictMerge [("depth", g.depth0)] g.implicit) g.explicit) "depth" = some d ∧
      f = singleRelease .depthFourth g.date g.loc [("depth", g.depth0)] g.implicit g.explicit := by
  unfold GroupIn.run at h
  rw [Bridge.make_single_release_seq_full] at h
  have h := Option.some.inj h
  split_ifs at h with hc
  simp only [Bool.and_eq_true, Option.isSome_iff_exists] at hc
  obtain ⟨⟨⟨lon, hlon⟩, lat, hlat⟩, d, hd⟩ := hc
  exact ⟨lon, lat, d, hlon, hlat, hd, (Option.some.inj h).symm⟩

/-- **C01, a group's frame exists.**  For a location with a position the interpreted `make_single_release` returns a
frame (the default depth makes `attrs['depth']` always defined); without a position it raises (`KeyError`). -/
theorem c01_single_release_returns (g : GroupIn α) :
    ((lookup g.loc "longitude").isSome ∧ (lookup g.loc "latitude").isSome →
      ∃ f, g.run Gen.make_single_release_seq = some (some f)) ∧
    (lookup g.loc "longitude" = none ∨ lookup g.loc "latitude" = none →
      g.run Gen.make_single_release_seq = some none) := by
  unfold GroupIn.run
  rw [Bridge.make_single_release_seq_full]
  constructor
  · rintro ⟨h1, h2⟩
    exact ⟨_, by rw [if_pos (by simp [h1, h2, depth_present])]⟩
  · intro h
    rw [if_neg]
    rcases h with h | h <;> simp [h]

/-- **C01, the values of a group's frame.**  The frame that the interpreted `make_single_release` returns for a
well-formed group has, under every name `k`, exactly the column the specification gives to `k` (`GroupIn.column`):
the release times under `date`, the sampled position under `longitude` / `latitude`, the attribute columns under
their names (explicit over implicit over the default depth), the GeoJSON properties under theirs — and no column
under any other name. -/
theorem c01_single_release_values (g : GroupIn α) (hwf : g.WF) (f : Frame α)
    (h : g.run Gen.make_single_release_seq = some (some f)) (k : String) :
    lookup f k = g.column k := by
  obtain ⟨lon, lat, d, hlon, hlat, hd, rfl⟩ := single_inv h
  have hA := lookup_attrs g.depth0 g.implicit g.explicit hwf.implicit_nodup hwf.explicit_nodup
  have hAnd : ((dictMerge (dictMerge [("depth", g.depth0)] g.implicit) g.explicit).map (·.1)).Nodup :=
    dictMerge_keys_nodup _ _ (dictMerge_keys_nodup _ _ (by simp))
  have hPnd : ((g.loc.filter (fun p => !(p.1 == "longitude" || p.1 == "latitude"))).map (·.1)).Nodup :=
    hwf.loc_nodup.sublist (List.filter_sublist.map _)
  rw [singleRelease_eq hlon hlat hd, lookup_dictMerge _ _ _ hAnd, lookup_dictMerge _ _ _ hPnd, hA, Option.or_assoc,
    Option.or_assoc]
  unfold GroupIn.column
  refine congrArg _ (congrArg _ ?_)
  simp only [lookup_cons, lookup_filter_lonlat]
  by_cases hk : k = "depth"
  · subst hk; simp
  · by_cases hk1 : k = "longitude"
    · subst hk1; simp [hlon]
    · by_cases hk2 : k = "latitude"
      · subst hk2; simp [hlat]
      · simp [hk, hk1, hk2, lookup]

theorem Rel.addKeys_head_mem (acc l : List String) (c : String) (hc : c ∈ acc) :
    addKeys acc (c :: l) = addKeys acc l := by
  have : acc.contains c = true := by simpa using hc
  simp only [addKeys, List.foldl_cons, this, if_true]

/-- **C01, default column order of a group (every location form, every attribute form).**  The frame returned by the
interpreted `make_single_release` starts with `date, longitude, latitude, depth` — also when the location carries
GeoJSON properties and wherever the group lists `depth` among its attributes — and has no duplicate column. -/
theorem c01_single_default_columns (g : GroupIn α) (f : Frame α)
    (h : g.run Gen.make_single_release_seq = some (some f)) :
    (∃ rest, f.map (·.1) = ["date", "longitude", "latitude", "depth"] ++ rest) ∧ (f.map (·.1)).Nodup := by
  obtain ⟨lon, lat, d, hlon, hlat, hd, rfl⟩ := single_inv h
  refine ⟨C01.default_order_prefix g.date lon lat g.depth0 g.loc g.implicit g.explicit hlon hlat, ?_⟩
  rw [singleRelease_eq hlon hlat hd]
  exact dictMerge_keys_nodup _ _ (dictMerge_keys_nodup _ _ (by simp))

/-- **C01, default column order of a group, exact.**  When the names of the location properties, the implicit and
the explicit attributes are pairwise different and none of them is `date`, `longitude`, `latitude`, `depth`, the
columns are `date, longitude, latitude, depth` followed by the properties and the attributes, in the order in which
the configuration lists them. -/
theorem c01_single_default_columns_exact (g : GroupIn α) (f : Frame α)
    (h : g.run Gen.make_single_release_seq = some (some f))
    (hnd : ((g.loc.filter (fun p => !(p.1 == "longitude" || p.1 == "latitude"))).map (·.1)
              ++ g.implicit.map (·.1) ++ g.explicit.map (·.1)).Nodup)
    (hres : ∀ c ∈ (g.loc.filter (fun p => !(p.1 == "longitude" || p.1 == "latitude"))).map (·.1)
              ++ g.implicit.map (·.1) ++ g.explicit.map (·.1),
            c ∉ ["date", "longitude", "latitude", "depth"]) :
    f.map (·.1) = ["date", "longitude", "latitude", "depth"]
      ++ (g.loc.filter (fun p => !(p.1 == "longitude" || p.1 == "latitude"))).map (·.1)
      ++ g.implicit.map (·.1) ++ g.explicit.map (·.1) := by
  obtain ⟨lon, lat, d, hlon, hlat, hd, rfl⟩ := single_inv h
  rw [List.append_assoc] at hnd hres
  obtain ⟨hP, hA, hPA⟩ := List.nodup_append.1 hnd
  -- the attributes are `depth` and the new names; so are the four leading columns and the properties; on merging
  -- the two, `depth` is there already and the attribute names are new
  rw [singleRelease_eq hlon hlat hd, dictMerge_keys, dictMerge_keys, dictMerge_keys, dictMerge_keys,
    ← addKeys_append _ (g.implicit.map (·.1)), addKeys_new _ _ _ hA, addKeys_new _ _ _ hP, List.map_singleton,
    List.singleton_append, addKeys_head_mem _ _ _ (by simp), addKeys_new _ _ _ hA]
  · simp
  · intro c hc hm
    rcases List.mem_append.1 hm with hm | hm
    · exact hres c (List.mem_append_right _ hc) (by simpa using hm)
    · exact hPA c hm c hc rfl
  · intro c hc hm
    exact hres c (List.mem_append_left _ hc) (by simpa using hm)
  · intro c hc hm
    exact hres c (List.mem_append_right _ hc) (by simp at hm; simp [hm])

end C01single

/-! # C01 end to end: `make_release` over `make_single_release` -/
section C01e2e
open Rel
variable {α : Type} (zero : α)

/-- the row of particle `i` of group `g` on the columns `cols`, straight from the specification -/
def GroupIn.row (g : GroupIn α) (cols : List String) (i : Nat) : List (Cell α) :=
  cols.map (fun c => fill zero ((g.column c).bind (fun col => col[i]?)))

theorem Rel.flat_eq (cols : List String) (ins : List (GroupIn α)) (frames : List (Frame α × Nat))
    (hwf : ∀ g ∈ ins, g.WF)
    (hsingle : List.Forall₂ (fun (g : GroupIn α) (fr : Frame α × Nat) =>
      g.run Gen.make_single_release_seq = some (some fr.1) ∧ fr.2 = g.num) ins frames) :
    frames.flatMap (fun fr => rowsOf zero cols fr.1 fr.2)
      = ins.flatMap (fun g => (List.range g.num).map (g.row zero cols)) ∧
    frames.map (·.2) = ins.map (·.num) := by
  induction hsingle with
  | nil => exact ⟨rfl, rfl⟩
  | @cons g fr ins' frames' hhd _ ih =>
    obtain ⟨ih1, ih2⟩ := ih (fun g' hg' => hwf g' (by simp [hg']))
    refine ⟨?_, by simp [ih2, hhd.2]⟩
    rw [List.flatMap_cons, List.flatMap_cons, ih1]
    congr 1
    rw [rowsOf, hhd.2]
    apply List.map_congr_left
    intro i _
    unfold rowOf GroupIn.row
    apply List.map_congr_left
    intro c _
    rw [c01_single_release_values g (hwf g (by simp)) fr.1 hhd.1 c]

/-- **C01 end to end.**  `ins` are the evaluated groups of a configuration (dates, sampled positions, attribute
draws, `num`), `frames` what the interpreted `make_single_release` returns for them, `(cols, rows)` what the
interpreted `make_release` returns on those frames, with or without a `columns` list.  Then

* the rows are, up to the order, exactly: for every group, for every particle `i < num`, the row that carries under
  every column `c` the value the group's specification gives to `c` for particle `i` — and `0` where the group does
  not define `c` (`GroupIn.row`);  hence each group contributes exactly its `num` rows and one particle's values are in
  one row;
* there are `Σ num` rows, each with one cell per column;
* the columns are the requested list, or by default start with `date, longitude, latitude, depth`. -/
theorem c01_end_to_end (ins : List (GroupIn α)) (frames : List (Frame α × Nat)) (columns : Option (List String))
    (hasSeed fname : Bool) (cols : List String) (rows : List (List (Cell α)))
    (hwf : ∀ g ∈ ins, g.WF)
    (hsingle : List.Forall₂ (fun (g : GroupIn α) (fr : Frame α × Nat) =>
      g.run Gen.make_single_release_seq = some (some fr.1) ∧ fr.2 = g.num) ins frames)
    (hrun : runMakeRelease zero frames columns hasSeed fname Gen.make_release_seq = some (some (cols, rows))) :
    rows.Perm (ins.flatMap (fun g => (List.range g.num).map (g.row zero cols))) ∧
    rows.length = (ins.map (·.num)).sum ∧
    (∀ r ∈ rows, r.length = cols.length) ∧
    (∀ want, columns = some want → cols = want) ∧
    (columns = none → ∃ rest, cols = ["date", "longitude", "latitude", "depth"] ++ rest) := by
  obtain ⟨hflat, hnum⟩ := flat_eq zero cols ins frames hwf hsingle
  have hshape := c01_table_shape zero frames columns hasSeed fname cols rows hrun
  refine ⟨?_, ?_, hshape.2.1, (c01_columns zero frames columns hasSeed fname cols rows hrun).1, ?_⟩
  · rw [← hflat]
    exact (c01_rows_are_group_rows zero frames columns hasSeed fname cols rows hrun).1
  · rw [hshape.1, hnum]
  · intro hn
    have hc := (c01_columns zero frames columns hasSeed fname cols rows hrun).2 hn
    have hne := (run_inv zero hrun).1
    cases hsingle with
    | nil => exact absurd rfl hne
    | @cons g fr ins' frames' hhd _ =>
      obtain ⟨⟨rest, hrest⟩, hnd⟩ := c01_single_default_columns g fr.1 hhd.1
      rw [hrest] at hnd
      rw [hc, allCols_eq, List.map_cons, List.flatMap_cons, hrest, List.append_assoc, addKeys_append,
        addKeys_new [] _ (fun _ _ => List.not_mem_nil) hnd.of_append_left]
      exact addKeys_prefix _ _

end C01e2e

/-! # C18 on the interpretation of `Gen.load_config_seq` and `Gen.make_release_seq` -/
section C18
open Rel
variable {α : Type} (zero : α)

/-- the interpretation of `load_config` on a parsed configuration object, projected to what it returns:
`some (some (global keys, groups))` = the normalised configuration, `some none` = the code raises, `none` = a
statement the interpreter does not know -/
abbrev cfgOutcome (prog : List Stmt) (c : Container) : Option (Option (List String × List RawGroup)) :=
  (runStrict cfgAtom cfgStep prog (CfgSt.init c)).map
    (fun r => r.map (fun s => (match s.cfg with | .grouped gl gs => (gl, gs) | _ => ([], []))))

/-- **C18, valid configurations are accepted and normalised.**  If every group has `date`, `location` and `num`,
the interpreted `load_config` returns the normalised configuration (`normalise`: a list `gs` ↦ `([], gs)`; a mapping
with `groups` ↦ itself; a flat mapping ↦ its `seed` / `columns` keys and one group with the other keys). -/
theorem c18_valid_config_accepted (c : Container)
    (h : ∀ g ∈ (normalise c).2, ∀ k ∈ ["date", "location", "num"], k ∈ g.keys) :
    cfgOutcome Gen.load_config_seq c = some (some (normalise c)) :=
  (Bridge.load_config c).trans (by rw [Bridge.loadConfigSpec, if_pos ((C18.validate_none_iff c).2 h)])

/-- **C18, invalid configurations are rejected.**  If some group lacks one of `date`, `location`, `num`, the
interpreted `load_config` raises: no configuration, hence no (partial) table. -/
theorem c18_invalid_config_raises (c : Container) (g : RawGroup) (k : String) (hg : g ∈ (normalise c).2)
    (hk : k ∈ ["date", "location", "num"]) (hmiss : k ∉ g.keys) :
    cfgOutcome Gen.load_config_seq c = some none :=
  (Bridge.load_config c).trans
    (by rw [Bridge.loadConfigSpec, if_neg (fun hv => hmiss ((C18.validate_none_iff c).1 hv g hg k hk))])

/-- **C18, the container does not matter.**  Two configuration objects with the same normal form get the same
outcome from the interpreted `load_config` (both the same normalised configuration, or both an error). -/
theorem c18_containers_agree (c₁ c₂ : Container) (h : normalise c₁ = normalise c₂) :
    cfgOutcome Gen.load_config_seq c₁ = cfgOutcome Gen.load_config_seq c₂ := by
  have : Bridge.loadConfigSpec c₁ = Bridge.loadConfigSpec c₂ := by
    unfold Bridge.loadConfigSpec
    rw [C18.validate_congr c₁ c₂ (by rw [h]), h]
  exact (Bridge.load_config c₁).trans (this ▸ (Bridge.load_config c₂).symm)

/-- a list of groups is the mapping `{groups: …}` -/
theorem c18_list_same_as_mapping (gs : List RawGroup) :
    cfgOutcome Gen.load_config_seq (.list gs) = cfgOutcome Gen.load_config_seq (.grouped [] gs) :=
  c18_containers_agree _ _ rfl

/-- a flat mapping is the mapping with its `seed` / `columns` keys as global keys and one group of the other keys -/
theorem c18_flat_same_as_mapping (keys : List String) :
    cfgOutcome Gen.load_config_seq (.flat keys) =
      cfgOutcome Gen.load_config_seq
        (.grouped (keys.filter (fun k => ["seed", "columns"].contains k))
          [⟨keys.filter (fun k => !["seed", "columns"].contains k)⟩]) :=
  c18_containers_agree _ _ rfl

/-- **C18, the error names what is missing (partial).**  After the first fifteen statements of `load_config` the
variable `not_present`, from which the message `Missing parameters: …` is formatted, holds for every group exactly
its missing necessary keys, and the rest of the function raises iff one of these lists is non-empty.
Partial: the formatting of the message (`', '.join`, the group index) is a no-op of the interpreter. -/
theorem c18_error_lists_missing_keys_partial (c : Container) :
    ∃ s : CfgSt, runStrict cfgAtom cfgStep (Gen.load_config_seq.take 15) (CfgSt.init c) = some (some s) ∧
      s.notPresent = (normalise c).2.map (fun g => ["date", "location", "num"].filter (fun k => !g.keys.contains k)) ∧
      runStrict cfgAtom cfgStep (Gen.load_config_seq.drop 15) s =
        if s.notPresent.any (fun m => !m.isEmpty) then some none else some (some s) := by
  obtain ⟨s, hrun, _, hnp⟩ := Bridge.head_run c
  exact ⟨s, (congrArg (runStrict cfgAtom cfgStep · _) (List.append_nil _).symm).trans (hrun []), hnp, Bridge.tail_run s⟩

/-- **C18, the table is a function of the configuration content and the draws only.**  Whether a seed is set and
whether a file is written does not change what the interpreted `make_release` returns for the same evaluated
groups and `columns`. -/
theorem c18_table_independent_of_seed_flag_and_file (groups : List (Frame α × Nat)) (columns : Option (List String))
    (s₁ f₁ s₂ f₂ : Bool) :
    runMakeRelease zero groups columns s₁ f₁ Gen.make_release_seq =
      runMakeRelease zero groups columns s₂ f₂ Gen.make_release_seq := by
  rw [Bridge.make_release_seq_full, Bridge.make_release_seq_full]

/-- **C18, reproducibility.**  Two runs on the same evaluated groups (same configuration content, same draws —
which is what a seed gives) go through the interpreted `make_single_release` and `make_release` to the same
outcome: the same table, or an error both times. -/
theorem c18_same_draws_same_table (ins : List (GroupIn α)) (frames₁ frames₂ : List (Frame α × Nat))
    (columns : Option (List String)) (s₁ f₁ s₂ f₂ : Bool)
    (h₁ : List.Forall₂ (fun (g : GroupIn α) (fr : Frame α × Nat) =>
      g.run Gen.make_single_release_seq = some (some fr.1) ∧ fr.2 = g.num) ins frames₁)
    (h₂ : List.Forall₂ (fun (g : GroupIn α) (fr : Frame α × Nat) =>
      g.run Gen.make_single_release_seq = some (some fr.1) ∧ fr.2 = g.num) ins frames₂) :
    runMakeRelease zero frames₁ columns s₁ f₁ Gen.make_release_seq =
      runMakeRelease zero frames₂ columns s₂ f₂ Gen.make_release_seq := by
  -- a group determines its frame and its count
  have : frames₁ = frames₂ :=
    Relator.RightUnique.forall₂ (fun {g fr fr'} h h' =>
      Prod.ext (Option.some.inj (Option.some.inj (h.1.symm.trans h'.1))) (h.2.trans h'.2.symm)) h₁ h₂
  rw [this]
  exact c18_table_independent_of_seed_flag_and_file zero frames₂ columns s₁ f₁ s₂ f₂

end C18

/-! # Non-vacuity: the hypotheses of the theorems above on concrete instances -/
section Examples
open Rel

/-- group 1: a GeoJSON location with a property `region`, an implicit attribute `w`, an explicit `depth`; 1 particle -/
def exG1 : GroupIn Int :=
  { date := [.str "2020-01-02"], loc := [("longitude", [.num 5]), ("latitude", [.num 60]), ("region", [.num 2])],
    depth0 := [.num 0], implicit := [("w", [.num 7])], explicit := [("depth", [.num 3])], num := 1 }

/-- group 2: a point location, no attributes; 2 particles -/
def exG2 : GroupIn Int :=
  { date := [.str "2020-01-01", .str "2020-01-03"], loc := [("longitude", [.num 4, .num 4]), ("latitude", [.num 61, .num 61])],
    depth0 := [.num 0, .num 0], implicit := [], explicit := [], num := 2 }

def exF1 : Frame Int :=
  [("date", [.str "2020-01-02"]), ("longitude", [.num 5]), ("latitude", [.num 60]), ("depth", [.num 3]),
   ("region", [.num 2]), ("w", [.num 7])]

def exF2 : Frame Int :=
  [("date", [.str "2020-01-01", .str "2020-01-03"]), ("longitude", [.num 4, .num 4]), ("latitude", [.num 61, .num 61]),
   ("depth", [.num 0, .num 0])]

theorem exWF1 : exG1.WF := ⟨by decide, by decide, by decide, by decide, by decide⟩
theorem exWF2 : exG2.WF := ⟨by decide, by decide, by decide, by decide, by decide⟩
example : exG1.WF := exWF1
example : exG2.WF := exWF2

theorem exRun1 : exG1.run Gen.make_single_release_seq = some (some exF1) := by
  unfold GroupIn.run; rw [Bridge.make_single_release_seq_full]; decide +kernel

theorem exRun2 : exG2.run Gen.make_single_release_seq = some (some exF2) := by
  unfold GroupIn.run; rw [Bridge.make_single_release_seq_full]; decide +kernel

/-- `c01_single_default_columns_exact` applied: group 1 without its explicit `depth`, with an explicit attribute `s` -/
example (f : Frame Int) (h : ({ exG1 with explicit := [("s", [.num 9])] } : GroupIn Int).run
    Gen.make_single_release_seq = some (some f)) :
    f.map (·.1) = ["date", "longitude", "latitude", "depth", "region", "w", "s"] :=
  c01_single_default_columns_exact _ f h (by decide) (by decide)

/-- `c01_single_release_values` applied: the `w` column of group 1's frame is the implicit attribute, there is no `s` -/
example : lookup exF1 "w" = some [.num 7] ∧ lookup exF1 "s" = none ∧ lookup exF1 "depth" = some [.num 3] := by
  simp only [c01_single_release_values exG1 exWF1 exF1 exRun1]
  decide

theorem exForall : List.Forall₂ (fun (g : GroupIn Int) (fr : Frame Int × Nat) =>
    g.run Gen.make_single_release_seq = some (some fr.1) ∧ fr.2 = g.num) [exG1, exG2] [(exF1, 1), (exF2, 2)] :=
  .cons ⟨exRun1, rfl⟩ (.cons ⟨exRun2, rfl⟩ .nil)

/-- the hypotheses of `c01_end_to_end` (and of every `c01_…` table theorem), default columns: three rows sorted by
date, `region` and `w` are 0 for the particles of group 2 -/
theorem exTable : runMakeRelease (0 : Int) [(exF1, 1), (exF2, 2)] none true false Gen.make_release_seq =
    some (some (["date", "longitude", "latitude", "depth", "region", "w"],
      [[.str "2020-01-01", .num 4, .num 61, .num 0, .num 0, .num 0],
       [.str "2020-01-02", .num 5, .num 60, .num 3, .num 2, .num 7],
       [.str "2020-01-03", .num 4, .num 61, .num 0, .num 0, .num 0]])) := by
  rw [Bridge.make_release_seq _ _ _ _ _ (List.cons_ne_nil _ _)]; decide +kernel

/-- … and with a `columns` list -/
theorem exTableCols : runMakeRelease (0 : Int) [(exF1, 1), (exF2, 2)] (some ["w", "date"]) false true
    Gen.make_release_seq =
    some (some (["w", "date"], [[.num 0, .str "2020-01-01"], [.num 7, .str "2020-01-02"], [.num 0, .str "2020-01-03"]])) := by
  rw [Bridge.make_release_seq _ _ _ _ _ (List.cons_ne_nil _ _)]; decide +kernel

/-- `c01_end_to_end` applied -/
example := c01_end_to_end (0 : Int) [exG1, exG2] _ none true false _ _
  (by simp [exWF1, exWF2])
  exForall exTable

/-- `c01_valid_returns`: its hypotheses on the two frames -/
example : ∃ cols rows, runMakeRelease (0 : Int) [(exF1, 1), (exF2, 2)] (some ["w", "date"]) true true
    Gen.make_release_seq = some (some (cols, rows)) :=
  c01_valid_returns 0 _ _ _ _ (by simp) (by decide) (by rintro _ ⟨⟩; decide)

/-- `c18_invalid_table_raises`: a requested column that no group has -/
example : runMakeRelease (0 : Int) [(exF1, 1), (exF2, 2)] (some ["X"]) true true Gen.make_release_seq = some none :=
  c18_invalid_table_raises 0 _ _ _ _ (Or.inr (Or.inr ⟨["X"], "X", rfl, by decide, by decide, (exF1, 1), by simp, by decide⟩))

/-- **the sort of the interpretation is stable** (`c01_ties_keep_order`): two particles of one group with the same date
come out in particle order -/
example : runMakeRelease (0 : Int) [([("date", [.str "d", .str "d"]), ("w", [.num 1, .num 2])], 2)] none false false
    Gen.make_release_seq = some (some (["date", "w"], [[.str "d", .num 1], [.str "d", .num 2]])) := by
  rw [Bridge.make_release_seq _ _ _ _ _ (List.cons_ne_nil _ _)]; decide +kernel

/-- `c18_valid_config_accepted` / `c18_invalid_config_raises`: a flat mapping with `seed`, a list with an incomplete
second group -/
example : cfgOutcome Gen.load_config_seq (.flat ["num", "seed", "date", "location", "w"]) =
    some (some (["seed"], [⟨["num", "date", "location", "w"]⟩])) :=
  c18_valid_config_accepted _ (by decide)

example : cfgOutcome Gen.load_config_seq (.list [⟨["date", "location", "num"]⟩, ⟨["num", "date"]⟩]) = some none :=
  c18_invalid_config_raises _ ⟨["num", "date"]⟩ "location" (by decide) (by decide) (by decide)

end Examples

end OnCode

