import LadimProofs.Basic
import Mathlib.Analysis.SpecialFunctions.Exp
import Mathlib.Analysis.SpecialFunctions.Sqrt
import Mathlib.Analysis.SpecialFunctions.Pow.Real
/-!
Hypothesis bundles for the non-field operations, and the proof that `ℝ` with the standard functions
satisfies each of them (so no theorem that assumes a bundle is vacuous, and no axiom is added).
-/
open Ladim

/-- laws of `exp` used by the theorems -/
structure ExpLaws (α : Type) [Field α] [LinearOrder α] [HasExp α] : Prop where
  exp_add : ∀ a b : α, exp (a + b) = exp a * exp b
  exp_zero : exp (0 : α) = 1
  exp_pos : ∀ a : α, 0 < exp a
  exp_mono : ∀ a b : α, a ≤ b → exp a ≤ exp b
  exp_lt : ∀ a b : α, a < b → exp a < exp b

/-- laws of `sqrt` used by the theorems -/
structure SqrtLaws (α : Type) [Field α] [LinearOrder α] [HasSqrt α] : Prop where
  sqrt_nonneg : ∀ a : α, 0 ≤ sqrt a
  sqrt_sq : ∀ a : α, 0 ≤ a → sqrt a * sqrt a = a

namespace SqrtLaws
variable {α : Type} [Field α] [LinearOrder α] [IsStrictOrderedRing α] [HasSqrt α]

theorem lt_sqrt (hS : SqrtLaws α) {a b : α} (hb : 0 ≤ b) (h : a * a < b) : a < sqrt b :=
  lt_of_mul_self_lt_mul_self₀ (hS.sqrt_nonneg b) (by rwa [hS.sqrt_sq b hb])

theorem sqrt_lt (hS : SqrtLaws α) {a b : α} (ha : 0 ≤ a) (hb : 0 ≤ b) (h : b < a * a) : sqrt b < a :=
  lt_of_mul_self_lt_mul_self₀ ha (by rwa [hS.sqrt_sq b hb])

theorem sqrt_lt_sqrt (hS : SqrtLaws α) {a b : α} (ha : 0 ≤ a) (h : a < b) : sqrt a < sqrt b :=
  hS.lt_sqrt (ha.trans h.le) (by rwa [hS.sqrt_sq a ha])

end SqrtLaws

/-- laws of `log` used by the theorems -/
structure LogLaws (α : Type) [Field α] [LinearOrder α] [HasLog α] [HasExp α] : Prop where
  exp_log : ∀ a : α, 0 < a → exp (log a) = a
  log_pos : ∀ a : α, 1 < a → 0 < log a
  log_nonneg : ∀ a : α, 1 ≤ a → 0 ≤ log a

/-- laws of real powers -/
structure RpowLaws (α : Type) [Field α] [LinearOrder α] [HasRpow α] : Prop where
  rpow_pos : ∀ a b : α, 0 < a → 0 < rpow a b
  rpow_nonneg : ∀ a b : α, 0 ≤ a → 0 ≤ rpow a b

/-- bounds of the trigonometric functions -/
structure TrigBounds (α : Type) [Field α] [LinearOrder α] [HasSin α] [HasCos α] : Prop where
  sin_le : ∀ a : α, sin a ≤ 1
  neg_le_sin : ∀ a : α, -1 ≤ sin a
  cos_le : ∀ a : α, cos a ≤ 1
  neg_le_cos : ∀ a : α, -1 ≤ cos a
  sin_sq_add_cos_sq : ∀ a : α, sin a * sin a + cos a * cos a = 1

namespace RealInst
noncomputable instance : HasExp ℝ := ⟨Real.exp⟩
noncomputable instance : HasSqrt ℝ := ⟨Real.sqrt⟩
noncomputable instance : HasLog ℝ := ⟨Real.log⟩
noncomputable instance : HasSin ℝ := ⟨Real.sin⟩
noncomputable instance : HasCos ℝ := ⟨Real.cos⟩
noncomputable instance : HasRpow ℝ := ⟨fun a b => a ^ b⟩

theorem expLaws : ExpLaws ℝ :=
  ⟨Real.exp_add, Real.exp_zero, Real.exp_pos, fun _ _ h => Real.exp_le_exp.mpr h,
   fun _ _ h => Real.exp_lt_exp.mpr h⟩
theorem sqrtLaws : SqrtLaws ℝ := ⟨Real.sqrt_nonneg, fun _ h => Real.mul_self_sqrt h⟩
theorem logLaws : LogLaws ℝ :=
  ⟨fun _ h => Real.exp_log h, fun _ h => Real.log_pos h, fun _ h => Real.log_nonneg h⟩
theorem rpowLaws : RpowLaws ℝ :=
  ⟨fun _ b h => Real.rpow_pos_of_pos h b, fun _ b h => Real.rpow_nonneg h b⟩
theorem trigBounds : TrigBounds ℝ :=
  ⟨Real.sin_le_one, Real.neg_one_le_sin, Real.cos_le_one, Real.neg_one_le_cos,
   fun a => by have := Real.sin_sq_add_cos_sq a; simp only [sq] at this; exact this⟩
end RealInst
