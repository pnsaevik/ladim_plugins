import LadimProofs.Basic
import LadimProofs.InterpLemmas
import LadimModel.Forcing.Nk800
/-!
# C13 — NorKyst-800 forcing: right time weights, transparent cache, valid grid metrics
(the cache theorems are in `C13Buffer.lean`)
-/
open Ladim Ladim.Nk800
set_option linter.unusedVariables false

namespace C13
variable {α : Type} [Field α] [LinearOrder α] [IsStrictOrderedRing α]

/-- FULL STATEMENT (holds for `Weights.forward`): the current at a time a fraction `q` into the hour is
the linear interpolation of the two bracketing hourly fields … -/
theorem interp_is_lerp (v1 v2 q : α) : interpW .forward v1 v2 q = v1 + q * (v2 - v1) := by
  unfold interpW; lits; ring

/-- … equals the stored field at whole hours … -/
theorem interp_whole_hour (v1 v2 : α) : interpW .forward v1 v2 0 = v1 := by
  unfold interpW; lits; ring

/-- … and lies between the two fields -/
theorem interp_between (v1 v2 q : α) (h0 : 0 ≤ q) (h1 : q ≤ 1) :
    min v1 v2 ≤ interpW .forward v1 v2 q ∧ interpW .forward v1 v2 q ≤ max v1 v2 := by
  rw [interp_is_lerp, show v1 + q * (v2 - v1) = (1 - q) * v1 + q * v2 by ring]
  exact convex2_mem h0 h1 ⟨min_le_left _ _, le_max_left _ _⟩ ⟨min_le_right _ _, le_max_right _ _⟩

/-- KNOWN FINDING — the code as it is (`v1*q + v2*(1-q)`) has the weights backward: at a whole hour
(`q = 0`) it returns the field of the *next* hour … -/
theorem backward_whole_hour_fails (v1 v2 : α) : interpW .backward v1 v2 0 = v2 := by
  unfold interpW; lits; ring

/-- … it is the mirror image in time of the correct interpolant (right only at the half hour) -/
theorem backward_is_mirrored (v1 v2 q : α) : interpW .backward v1 v2 q = interpW .forward v1 v2 (1 - q) := by
  unfold interpW; lits; ring

theorem backward_differs (v1 v2 q : α) (hv : v1 ≠ v2) (hq : q ≠ 1 / 2) :
    interpW .backward v1 v2 q ≠ interpW .forward v1 v2 q := by
  unfold interpW; lits
  intro h
  have : (q - 1 / 2) * (v1 - v2) = 0 := by linarith
  rcases mul_eq_zero.mp this with h1 | h1
  · exact hq (sub_eq_zero.1 h1)
  · exact hv (sub_eq_zero.1 h1)

/-- the time weight is in `[0, 1)` and is zero exactly at whole hours -/
theorem hour_fraction_range (t : Int) :
    0 ≤ (hourFraction t).1 ∧ (hourFraction t).1 < (hourFraction t).2 ∧
    ((hourFraction t).1 = 0 ↔ 3600 ∣ t) := by
  unfold hourFraction
  refine ⟨Int.emod_nonneg _ (by norm_num), Int.emod_lt_of_pos _ (by norm_num), ?_⟩
  constructor
  · intro h; exact Int.dvd_of_emod_eq_zero h
  · intro h; exact Int.emod_eq_zero_of_dvd h

/-- the hour tag and the fraction reconstruct the time -/
theorem hour_decomposition (t : Int) : hourOf t * 3600 + (hourFraction t).1 = t := by
  unfold hourOf hourFraction
  rw [Int.fdiv_eq_ediv_of_nonneg _ (by norm_num)]
  show t / 3600 * 3600 + t % 3600 = t
  omega

/-- the time of model step `t` -/
theorem time_of_step (start step t : Int) : timeOfStep start step t = start + step * t := rfl

/-- rounding an exact quotient changes nothing -/
theorem roundDivHalfEven_exact (a b : Int) (hb : 0 < b) (h : b ∣ a) : roundDivHalfEven a b = a / b := by
  unfold roundDivHalfEven
  obtain ⟨k, rfl⟩ := h
  have hr : (b * k).fmod b = 0 := by
    rw [Int.fmod_eq_emod_of_nonneg _ (le_of_lt hb)]; exact Int.mul_emod_right b k
  have hq : (b * k).fdiv b = b * k / b := Int.fdiv_eq_ediv_of_nonneg _ (le_of_lt hb)
  simp only [hr, hq]
  rw [if_pos (by omega)]

/-- **the time of an integrator sub-step is exact** (since the `fix:` commit 686084e): for every start, step
count and time step and for the sub-step fractions 0, 1/2 and 1 the time used by `velocity` is
`start + step·t + step·tstep` to the microsecond … -/
theorem substep_time_exact (start step t num : Int) (hn : num = 0 ∨ num = 1 ∨ num = 2) :
    subTimeUs start step t num 2 = (start + step * t) * 1000000 + step * num * 500000 := by
  unfold subTimeUs timeOfStep
  rw [roundDivHalfEven_exact _ 2 (by norm_num) (by rcases hn with h | h | h <;> subst h <;> omega)]
  omega

/-- … whereas the code before the fix dropped the half second of an odd time step (dt = 45 s, tstep = 1/2:
22 s instead of 22.5 s) -/
theorem substep_time_old_truncates :
    subTimeOldUs 0 45 10 1 2 = 472000000 ∧ subTimeUs 0 45 10 1 2 = 472500000 := by decide

/-- the time weight is in `[0, 1)` and zero exactly at whole hours, also at microsecond resolution -/
theorem hour_fraction_us_range (t : Int) :
    0 ≤ (hourFractionUs t).1 ∧ (hourFractionUs t).1 < (hourFractionUs t).2 ∧
    ((hourFractionUs t).1 = 0 ↔ 3600000000 ∣ t) := by
  unfold hourFractionUs
  refine ⟨Int.emod_nonneg _ (by norm_num), Int.emod_lt_of_pos _ (by norm_num), ?_⟩
  constructor
  · intro h; exact Int.dvd_of_emod_eq_zero h
  · intro h; exact Int.emod_eq_zero_of_dvd h

theorem hour_decomposition_us (t : Int) : hourOfUs t * 3600000000 + (hourFractionUs t).1 = t := by
  unfold hourOfUs hourFractionUs
  rw [Int.fdiv_eq_ediv_of_nonneg _ (by norm_num)]
  show t / 3600000000 * 3600000000 + t % 3600000000 = t
  omega

/-- every position the grid reports as inside (`0.5 < x < xmax - 0.5`, so `1 ≤ round x ≤ xmax - 1`) gets a
valid index into `dx` (`0 … xmax - 2`) with the clamped upper limit `xmax - 2` … -/
theorem metric_index_in_range (xmax r : Int) (h1 : 1 ≤ r) (h2 : r ≤ xmax - 1) (hx : 2 ≤ xmax) :
    0 ≤ metricIndex (xmax - 2) r ∧ metricIndex (xmax - 2) r ≤ xmax - 2 ∧
    (r ≤ xmax - 2 → metricIndex (xmax - 2) r = r) := by
  unfold metricIndex; omega

/-- … whereas with the limit `xmax` (before the `fix:` commit) the outermost in-grid column indexes one
past the end of `dx` (length `xmax - 1`) -/
theorem raw_outermost_fails : metricIndex 5 (5 - 1) = 5 - 1 ∧ ¬ (metricIndex 5 (5 - 1) ≤ 5 - 2) := by decide

/-! ## depth → level index (`np.interp(z, depth, arange(n))`) -/

/-- monotone in depth for strictly increasing tabulated depths -/
theorem z2k_monotone (depth idx : List α) (z₁ z₂ k₁ k₂ : α)
    (hd : List.Pairwise (· < ·) depth) (hi : List.Pairwise (· ≤ ·) idx) (hz : z₁ ≤ z₂)
    (e₁ : interp depth idx z₁ = some k₁) (e₂ : interp depth idx z₂ = some k₂) : k₁ ≤ k₂ :=
  InterpLemmas.interp_mono depth idx z₁ z₂ k₁ k₂ hd hi hz e₁ e₂

/-- exact at the first two tabulated depths (and, by the recursive structure, at every knot: see
`z2k_exact_at_knot`) -/
theorem z2k_exact_first (d0 d1 i0 i1 : α) (ds is : List α) (h : d0 < d1) :
    interp (d0 :: d1 :: ds) (i0 :: i1 :: is) d0 = some i0 := by
  unfold interp; simp [interpGo, h]

/-- exactness at a knot propagates down the table: if `z` is not left of `d1`, interpolating in the
whole table equals interpolating in its tail -/
theorem z2k_tail (d0 d1 i0 i1 : α) (ds is : List α) (z : α) (h01 : d0 < d1) (hz : d1 ≤ z) :
    interp (d0 :: d1 :: ds) (i0 :: i1 :: is) z = interp (d1 :: ds) (i1 :: is) z := by
  unfold interp
  have h0 : ¬ z < d0 := by intro h; linarith
  have h1 : ¬ z < d1 := not_lt.mpr hz
  simp [interpGo, h0, h1]

/-- constant extension below the first and above the last depth -/
theorem z2k_clamps_left (d0 i0 : α) (ds is : List α) (z : α) (h : z < d0) :
    interp (d0 :: ds) (i0 :: is) z = some i0 := by
  unfold interp; simp [h]

end C13
