import LadimModel.Forcing.Nk800Seq
import LadimProofs.C13Buffer
import LadimProofs.Bridge.Runners
/-!
# Bridge (C13) — NorKyst-800 forcing: the hand-written model *is* the statement sequences of the code

The generated sequences of `nk800met/gridforce.py` (`Gen.nk_update_seq`, `Gen.nk_velocity_seq`, `Gen.nk_get_var_seq`,
`Gen.nk_get_var1_seq`, `Gen.nk_sample_metric_seq`, `Gen.nk_sample_depth_seq`), interpreted by
`LadimModel/Forcing/Nk800Seq.lean` (every statement, condition and `return` text must be a known one), are the
functions of `LadimModel/Forcing/Nk800.lean`:

* `nk_update`: `current_time = timeOfStep start step t`;
* `nk_get_var1`: `_get_var` = `Nk800.getVar` (key `(name, hour string)`, frame = hour string), hypothesis `hload`:
  the `load` of the model at this key is the array read of the code (`dset[name][hour of day]` of the dataset of `time`);
* `nk_get_var`: `get_var` = two `_get_var` (at `time`, then at `time + 1 h`, the buffer threaded) and the weight
  `hourFractionUs time`;
* `nk_velocity`: after `update`, the request time is `subTimeUs start step t num den`; `'u'` then `'v'` at that same
  time and the same `k = z2k(z)`;
* `nk_velocity_full`: the whole chain with every callee interpreted, and the time blend `interpW w` for the weights `w`
  that `Gen.nk_interp` shows (`.backward` = the code as it is, known finding F-C13a; `.forward` = the repair);
  `velocityModel_valid`: on a valid buffer that is the blend of the backing-file fields of the hour and the next hour;
* `nk_sample_metric` (hypotheses `xmin = 0`, `ymin = 0`), `nk_sample_depth` (closed form; no model function exists).
-/

open Ladim Ladim.Seq Ladim.Nk800

set_option linter.unusedSimpArgs false
set_option linter.unusedVariables false
set_option linter.unusedSectionVars false
set_option linter.unusedTactic false
set_option linter.unreachableTactic false
namespace Bridge

/-! ### (a) `Forcing.update` -/

theorem nk_update (start step t : Int) (cur : Option Int) :
    updateSeq start step t cur = some (some (some (timeOfStep start step t))) := by
  rw [updateSeq, Gen.nk_update_seq]
  simp only [Run.runStrictRet_exec, Run.guardVal_nil, String.reduceEq, ↓reduceIte, updStep.eq_def]
  rfl

/-! ### (d) `OnlineDatabase._get_var` -/

section
variable {ν φ D : Type} [DecidableEq φ]

theorem nk_get_var1 (getDset : Int → D) (readVar : D → String → Int → ν) (hourStr : Int → φ)
    (load : String × φ → ν) (b : Buffer (String × φ) ν φ) (name : String) (time : Int)
    (hload : load (name, hourStr (hourOfUs time)) = readVar (getDset time) name (hourOfDayUs time)) :
    getVar1Seq getDset readVar hourStr b name time
      = some (some (getVar load Prod.snd b (name, hourStr (hourOfUs time)))) := by
  rw [getVar1Seq, Run.runRet_eq_runFn, Gen.nk_get_var1_seq]
  simp only [Run.runFn_exec, Run.guardVal_nil, String.reduceEq, gv1Step.eq_def, Gv1St.init, Option.map_some]
  cases hc : b.contains (name, hourStr (hourOfUs time)) <;>
  simp only [Run.runFn_exec, Run.runFn_ret, Run.runFn_pass, Run.guardVal_pos, Run.guardVal_neg, Run.guardVal_nil,
    fnStmtKnown, fnGuardKnown, List.all_cons, List.all_nil, String.reduceEq, ↓reduceIte, gv1Atom.eq_def,
    gv1Step.eq_def, gv1Ret.eq_def, Option.map_some, Option.bind_some, Option.isSome_some, Bool.and_self,
    Bool.not_false, Bool.not_true, getVar, hc, hload, Bool.false_eq_true]

end

/-! ### (c) `OnlineDatabase.get_var` -/

theorem hour_fraction_us_eq (time : Int) :
    (time - hourOfUs time * hourUs, hourUs) = hourFractionUs time := by
  unfold hourOfUs hourUs hourFractionUs
  rw [Int.fdiv_eq_ediv_of_nonneg _ (by decide)]
  congr 1
  show time - time / 3600000000 * 3600000000 = time % 3600000000
  omega

theorem hour_of_next (time : Int) : hourOfUs (time + hourUs) = hourOfUs time + 1 := by
  unfold hourOfUs hourUs
  rw [Int.fdiv_eq_ediv_of_nonneg _ (by decide), Int.fdiv_eq_ediv_of_nonneg _ (by decide)]
  omega

section
variable {B V : Type}

theorem callInto_some {σ R : Type} (r : Option (B × R)) (k : B → R → σ) :
    callInto (some r) k = some (r.map (fun p => k p.1 p.2)) := by
  cases r with
  | none => rfl
  | some p => cases p; rfl

theorem nk_get_var (g : B → String → Int → Option (B × V)) (b : B) (name : String) (time : Int) :
    getVarSeq (fun b n t => some (g b n t)) b name time = some (getVarSpec g b name time) := by
  rw [getVarSeq, Run.runRet_eq_runFn, Gen.nk_get_var_seq, getVarSpec]
  rcases h1 : g b name time with _ | r1
  case' some => rcases h2 : g r1.1 name (time + hourUs) with _ | r2
  all_goals
    simp only [Run.runFn_exec, Run.runFn_ret, Run.guardVal_nil, fnStmtKnown, fnGuardKnown, List.all_cons, List.all_nil,
      String.reduceEq, ↓reduceIte, gvStep.eq_def, gvRet.eq_def, callInto_some, Option.map_none, Option.map_some,
      Option.bind_none, Option.bind_some, Option.isSome_some, Bool.and_self, hour_fraction_us_eq, *]

end

/-! ### (b) `Forcing.velocity` -/

section
variable {B G K R X Z : Type}

theorem nk_velocity_cur (cfgStep num den : Int) (z2k : Z → K) (gv : B → String → Int → Option (B × G))
    (interp : G → X → X → K → R) (x y : X) (z : Z) (cur : Option Int) (db : B) :
    velocitySeq cfgStep num den z2k (fun b n t => some (gv b n t)) interp x y z cur db
      = some (cur.bind (fun c =>
          velocitySpec z2k gv interp x y z (c * 1000000 + roundDivHalfEven (cfgStep * num * 1000000) den) db)) := by
  rw [velocitySeq, Run.runRet_eq_runFn, Gen.nk_velocity_seq]
  simp only [Run.runFn_exec, Run.runFn_ret, Run.guardVal_nil, fnStmtKnown, fnGuardKnown, List.all_cons, List.all_nil,
    String.reduceEq, ↓reduceIte, velStep.eq_def, velRet.eq_def, callInto_some, Option.map_some, Option.isSome_some,
    Bool.and_self]
  rcases cur with _ | c
  case' some => rcases h1 : gv db "u" (c * 1000000 + roundDivHalfEven (cfgStep * num * 1000000) den) with _ | r1
  case' some.some =>
    rcases h2 : gv r1.1 "v" (c * 1000000 + roundDivHalfEven (cfgStep * num * 1000000) den) with _ | r2
  all_goals
    simp only [velocitySpec, Option.map_none, Option.map_some, Option.bind_none, Option.bind_some, Option.isSome_some,
      Bool.and_self, ↓reduceIte, *]

theorem nk_velocity (start step t num den : Int) (z2k : Z → K) (gv : B → String → Int → Option (B × G))
    (interp : G → X → X → K → R) (x y : X) (z : Z) (db : B) :
    velocitySeq step num den z2k (fun b n t => some (gv b n t)) interp x y z (some (timeOfStep start step t)) db
      = some (velocitySpec z2k gv interp x y z (subTimeUs start step t num den) db) := by
  rw [nk_velocity_cur]; rfl

end

/-! ### the call chain `velocity → get_var → _get_var` -/

section
variable {ν φ D : Type} [DecidableEq φ]

/-- `get_var` calling the interpreted `_get_var` is `getVarSpec` on the hand-written cached fetch -/
theorem nk_get_var_full (getDset : Int → D) (readVar : D → String → Int → ν) (hourStr : Int → φ)
    (load : String × φ → ν)
    (hload : ∀ n t, load (n, hourStr (hourOfUs t)) = readVar (getDset t) n (hourOfDayUs t))
    (b : Buffer (String × φ) ν φ) (name : String) (time : Int) :
    getVarFull getDset readVar hourStr b name time = some (getVarSpec (fetch load hourStr) b name time) := by
  have hcallee : (fun (b : Buffer (String × φ) ν φ) (n : String) (t : Int) =>
        (getVar1Seq getDset readVar hourStr b n t).map (fun r => r.bind served))
      = (fun b n t => some (fetch load hourStr b n t)) := by
    funext b n t
    rw [nk_get_var1 getDset readVar hourStr load b n t (hload n t)]
    rfl
  unfold getVarFull
  rw [hcallee, nk_get_var]

end

section
variable {α : Type} [Add α] [Sub α] [Mul α] [Div α] [OfScientific α] [HasOfInt α]

/-- the time blend of the generated `interp` is one of the two the model knows: `.backward` = the code as it is (known
finding F-C13a), `.forward` = its repair -/
theorem nk_interp_weights :
    ∃ w : Weights, ∀ v1 v2 q : α, Gen.nk_interp v1 v2 q = interpW w v1 v2 q := by
  first
  | exact ⟨.backward, fun _ _ _ => rfl⟩
  | exact ⟨.forward, fun _ _ _ => rfl⟩

variable {ν φ D K Z : Type} [DecidableEq φ]

/-- for the weights `w` that the generated formula shows -/
theorem nk_velocity_full_of (w : Weights) (hw : ∀ v1 v2 q : α, Gen.nk_interp v1 v2 q = interpW w v1 v2 q)
    (start step t num den : Int) (z2k : Z → K) (getDset : Int → D) (readVar : D → String → Int → ν)
    (hourStr : Int → φ) (load : String × φ → ν)
    (hload : ∀ n t, load (n, hourStr (hourOfUs t)) = readVar (getDset t) n (hourOfDayUs t))
    (sample : ν → K → α → α → α) (x y : α) (z : Z) (b : Buffer (String × φ) ν φ) :
    velocityFull step num den z2k getDset readVar hourStr sample x y z (some (timeOfStep start step t)) b
      = some (velocityModel w z2k load hourStr sample x y z (subTimeUs start step t num den) b) := by
  have hcallee : (getVarFull getDset readVar hourStr : Buffer (String × φ) ν φ → String → Int → _)
      = (fun b n t => some (getVarSpec (fetch load hourStr) b n t)) := by
    funext b n t
    exact nk_get_var_full getDset readVar hourStr load hload b n t
  have hblend : (Gen.nk_interp : α → α → α → α) = interpW w := by
    funext v1 v2 q; exact hw v1 v2 q
  unfold velocityFull velocityModel
  rw [hcallee, hblend, nk_velocity]

/-- `update(t)` followed by `velocity(x, y, z, num/den)`, every callee interpreted from its generated sequence, is the
hand-written chain at the time `subTimeUs start step t num den` with the time weights the generated formula shows -/
theorem nk_velocity_full :
    ∃ w : Weights, (∀ v1 v2 q : α, Gen.nk_interp v1 v2 q = interpW w v1 v2 q) ∧
      ∀ (start step t num den : Int) (z2k : Z → K) (getDset : Int → D) (readVar : D → String → Int → ν)
        (hourStr : Int → φ) (load : String × φ → ν)
        (hload : ∀ n t, load (n, hourStr (hourOfUs t)) = readVar (getDset t) n (hourOfDayUs t))
        (sample : ν → K → α → α → α) (x y : α) (z : Z) (b : Buffer (String × φ) ν φ),
        velocityFull step num den z2k getDset readVar hourStr sample x y z (some (timeOfStep start step t)) b
          = some (velocityModel w z2k load hourStr sample x y z (subTimeUs start step t num den) b) := by
  obtain ⟨w, hw⟩ := nk_interp_weights (α := α)
  exact ⟨w, hw, nk_velocity_full_of w hw⟩

end

/-! ### the chain on a valid buffer: no `KeyError`, every field is the value of the backing file -/

section
variable {ν φ : Type} [DecidableEq φ]

theorem fetch_valid (load : String × φ → ν) (hourStr : Int → φ) (b : Buffer (String × φ) ν φ) (name : String)
    (time : Int) (h : C13.Valid load b) :
    ∃ b', C13.Valid load b' ∧ fetch load hourStr b name time = some (b', load (name, hourStr (hourOfUs time))) := by
  obtain ⟨h1, h2⟩ := C13.getVar_transparent load Prod.snd b (name, hourStr (hourOfUs time)) h
  refine ⟨_, h2, ?_⟩
  unfold fetch served
  rw [h1]; rfl

theorem getVarSpec_valid (load : String × φ → ν) (hourStr : Int → φ) (b : Buffer (String × φ) ν φ) (name : String)
    (time : Int) (h : C13.Valid load b) :
    ∃ b', C13.Valid load b' ∧ getVarSpec (fetch load hourStr) b name time
      = some (b', (load (name, hourStr (hourOfUs time)), load (name, hourStr (hourOfUs time + 1))),
          hourFractionUs time) := by
  obtain ⟨b1, hv1, e1⟩ := fetch_valid load hourStr b name time h
  obtain ⟨b2, hv2, e2⟩ := fetch_valid load hourStr b1 name (time + hourUs) hv1
  refine ⟨b2, hv2, ?_⟩
  unfold getVarSpec
  rw [e1]; simp only [Option.bind_some]
  rw [e2, hour_of_next]; rfl

variable {α : Type} [Add α] [Sub α] [Mul α] [Div α] [OfScientific α] [HasOfInt α] {K Z : Type}

/-- on a valid buffer (`Buffer.empty` is one, and the chain keeps it valid) the modelled `velocity` returns, for `'u'`
and for `'v'`, the blend of the backing-file fields of the hour of `time` and of the next hour, weight
`hourFractionUs time` -/
theorem velocityModel_valid (w : Weights) (z2k : Z → K) (load : String × φ → ν) (hourStr : Int → φ)
    (sample : ν → K → α → α → α) (x y : α) (z : Z) (time : Int) (b : Buffer (String × φ) ν φ)
    (h : C13.Valid load b) :
    ∃ b', C13.Valid load b' ∧ velocityModel w z2k load hourStr sample x y z time b
      = some (b',
          interpArr (interpW w) sample
            ((load ("u", hourStr (hourOfUs time)), load ("u", hourStr (hourOfUs time + 1))), hourFractionUs time)
            x y (z2k z),
          interpArr (interpW w) sample
            ((load ("v", hourStr (hourOfUs time)), load ("v", hourStr (hourOfUs time + 1))), hourFractionUs time)
            x y (z2k z)) := by
  obtain ⟨b1, hv1, e1⟩ := getVarSpec_valid load hourStr b "u" time h
  obtain ⟨b2, hv2, e2⟩ := getVarSpec_valid load hourStr b1 "v" time hv1
  refine ⟨b2, hv2, ?_⟩
  unfold velocityModel velocitySpec
  rw [e1]; simp only [Option.bind_some]
  rw [e2]; rfl

end

/-! ### (e) `Grid.sample_metric`, `Grid.sample_depth` -/

section
variable {α β : Type} [HasRound α] [HasTrunc α]

/-- `xmin = ymin = 0` is what `Grid._init_gridlimits` assigns (not part of the sequence) -/
theorem nk_sample_metric (xmin xmax ymin ymax : Int) (dxArr dyArr : Int → β) (x y : α)
    (hx : xmin = 0) (hy : ymin = 0) :
    sampleMetricSeq xmin xmax ymin ymax dxArr dyArr x y
      = some (some (dxArr (metricIndex (xmax - 2) (roundInt x)), dyArr (metricIndex (ymax - 2) (roundInt y)))) := by
  subst hx hy
  rw [sampleMetricSeq, Run.runRet_eq_runFn, Gen.nk_sample_metric_seq]
  simp only [Run.runFn_exec, Run.runFn_ret, Run.guardVal_nil, String.reduceEq, ↓reduceIte, metStep.eq_def,
    metRet.eq_def, List.all_nil, Option.bind_some, Option.map_some]
  rfl

/-- self-contained (the hand-written model has no `sample_depth`): row `round(y)`, column `round(x)`, no clipping -/
theorem nk_sample_depth (hArr : Int → Int → β) (x y : α) :
    sampleDepthSeq hArr x y = some (some (hArr (roundInt y) (roundInt x))) := by
  rw [sampleDepthSeq, Run.runRet_eq_runFn, Gen.nk_sample_depth_seq]
  simp only [Run.runFn_exec, Run.runFn_ret, Run.guardVal_nil, String.reduceEq, ↓reduceIte, depStep.eq_def,
    depRet.eq_def, List.all_nil, Option.bind_some, Option.map_some]

end
end Bridge
