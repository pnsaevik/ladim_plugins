import LadimModel.IBM.Sequence
/-!
# One statement of the plain runner `Seq.run`, and guards

`Seq.run` (`LadimModel/IBM/Sequence.lean`) has no `return` value and no check of the statements it does not execute.
What one statement does, stated for an arbitrary interpreter as in `LadimProofs/Bridge/Runners.lean` (which explains how
the hypotheses are closed), in two forms: on the program as a list, and with a program counter (`l.drop i`), so that a
fact about the rest of a program can be stated without its text.  `guardVal` is shared by all runners.
-/
open Ladim Ladim.Seq

namespace Bridge.Run
variable {σ : Type} {atom : σ → String → Option Bool} {step : σ → String → String → Option σ}
  {g : List Cond} {c k t : String} {pos : Bool} {rest : List Stmt} {s s' : σ}

/-! ### guards -/

/-- `guardVal`'s two equations with a proof term (not `rfl`), so that `simp` can use them as side conditions -/
theorem guardVal_nil : guardVal atom s [] = some true := by rw [guardVal]

theorem guardVal_cons : guardVal atom s ((pos, c) :: g) =
    match atom s c with
    | none => none
    | some b => if b == pos then guardVal atom s g else some false := by
  rw [guardVal]; rfl

theorem guardVal_pos (h : atom s c = some pos) : guardVal atom s [(pos, c)] = some true := by
  simp only [guardVal, h, beq_self_eq_true, if_true]

theorem guardVal_neg (h : atom s c = some !pos) : guardVal atom s [(pos, c)] = some false := by
  cases pos <;> simp only [guardVal, h] <;> rfl

theorem guardVal_cons_pos (h : atom s c = some pos) : guardVal atom s ((pos, c) :: g) = guardVal atom s g := by
  simp only [guardVal, h, beq_self_eq_true, if_true]

theorem guardVal_cons_neg (h : atom s c = some !pos) : guardVal atom s ((pos, c) :: g) = some false := by
  cases pos <;> simp only [guardVal, h] <;> rfl

/-! ### the three outcomes of a statement

`fnThen r a f` is the `match` of a runner on the outcome `r` of a statement, a guard, a loop or a callee.  It is resolved
by lemmas that are not `rfl`: when `simp` reduces such a `match` itself after rewriting its discriminant, the kernel
checks the step by evaluating the discriminant — the statement on its text, and the sequence of a callee behind it. -/
section fnThen
variable {σ' ρ τ υ : Type}

/-- an unknown text loses the run; `a` when the statement raises (a guard: is false); `f` on the new state -/
def fnThen (r : Option (Option σ')) (a : Option (Option τ)) (f : σ' → Option (Option τ)) : Option (Option τ) :=
  match r with
  | none => none
  | some none => a
  | some (some s') => f s'

variable {a : Option (Option τ)} {f : σ' → Option (Option τ)}

@[simp] theorem fnThen_some {s' : σ'} : fnThen (some (some s')) a f = f s' := by rw [fnThen]

@[simp] theorem fnThen_raise : fnThen (some none : Option (Option σ')) a f = a := by rw [fnThen]

theorem fnThen_ite (c : Prop) [Decidable c] (r r' : Option (Option σ')) :
    fnThen (if c then r else r') a f = if c then fnThen r a f else fnThen r' a f := by
  split <;> rfl

theorem fnThen_map (o : Option ρ) (g : ρ → σ') : fnThen (some (o.map g)) a f = o.elim a fun v => f (g v) := by
  cases o <;> rfl

theorem fnThen_elim (o : Option ρ) (b : Option (Option σ')) (g : ρ → Option (Option σ')) :
    fnThen (o.elim b g) a f = o.elim (fnThen b a f) fun v => fnThen (g v) a f := by
  cases o <;> rfl

end fnThen

/-! ### `run` -/

theorem run_nil : run atom step [] s = some s := rfl

theorem run_step (hg : guardVal atom s g = some true) (hk : (k = "return") = False) (hs : step s k t = some s') :
    run atom step ((g, k, t) :: rest) s = run atom step rest s' := by
  simp only [run, hg, hk, if_false, hs]

theorem run_assign (hg : guardVal atom s g = some true) (hs : step s "assign" t = some s') :
    run atom step ((g, "assign", t) :: rest) s = run atom step rest s' :=
  run_step hg (by decide) hs

theorem run_fail (hg : guardVal atom s g = some true) (hk : (k = "return") = False) (hs : step s k t = none) :
    run atom step ((g, k, t) :: rest) s = none := by
  simp only [run, hg, hk, if_false, hs]

theorem run_return (hg : guardVal atom s g = some true) : run atom step ((g, "return", t) :: rest) s = some s := by
  simp only [run, hg, if_true]

theorem run_skip (hg : guardVal atom s g = some false) : run atom step ((g, k, t) :: rest) s = run atom step rest s := by
  simp only [run, hg]

/-! The same with a program counter: `l.drop i` is the program `l` from statement `i` on, so that a fact about the rest
of a program (for every state: the branches of a configuration switch meet again there) is stated without its text. -/
variable {l : List Stmt} {i : Nat}

theorem run_at_step (hi : l[i]? = some (g, k, t)) (hg : guardVal atom s g = some true) (hk : (k = "return") = False)
    (hs : step s k t = some s') : run atom step (l.drop i) s = run atom step (l.drop (i + 1)) s' := by
  obtain ⟨h, e⟩ := List.getElem?_eq_some_iff.mp hi
  rw [List.drop_eq_getElem_cons h, e, run_step hg hk hs]

theorem run_at_skip (hi : l[i]? = some (g, k, t)) (hg : guardVal atom s g = some false) :
    run atom step (l.drop i) s = run atom step (l.drop (i + 1)) s := by
  obtain ⟨h, e⟩ := List.getElem?_eq_some_iff.mp hi
  rw [List.drop_eq_getElem_cons h, e, run_skip hg]

theorem run_at_assign (hi : l[i]? = some (g, "assign", t)) (hg : guardVal atom s g = some true)
    (hs : step s "assign" t = some s') : run atom step (l.drop i) s = run atom step (l.drop (i + 1)) s' :=
  run_at_step hi hg (by decide) hs

theorem run_at_end (hi : l[i]? = none) : run atom step (l.drop i) s = some s := by
  rw [List.drop_eq_nil_of_le (List.getElem?_eq_none_iff.mp hi)]; rfl

end Bridge.Run
