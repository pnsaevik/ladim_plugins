import LadimModel.IBM.ChemSeq
import LadimProofs.Bridge.Seq
import LadimProofs.Bridge.Runners
/-!
# Bridge (C05, C07, C20) — the methods of the chemicals IBM are the statement sequences of the code

`Gen.chem_*_seq` (guard, kind and text of every statement of `IBM.__init__`, `advect`, `kill_old`, `horzdiff`,
`diffuse_labolle`, `diffuse_const`, `reflect`, `clamp_to_seabed` of `chemicals/ibm.py`, regenerated from the current
source) are interpreted for one particle by `LadimModel/IBM/ChemSeq.lean` (strict runners: every statement, condition
and `return` expression must be a known text, also in branches not taken, in nested functions that are not called and
in a loop body that is not entered).  The order of the method calls in `update_ibm` is `Bridge.chem_update_seq`
(`LadimProofs/Bridge/Seq.lean`); the `chem_call_*` theorems below say that the `call` steps used there are the
interpretations of the method bodies.

* `chem_reflect_seq` = `Chemicals.reflect H z`; `chem_clamp_seq` = `fmin z H`; `chem_advect_seq` =
  `Chemicals.advect dt (depth x y) (wvel x y z) z`; no hypothesis.
* `chem_kill_old_seq`: `(age + dt, alive && age + dt ≤ L)` for EVERY particle when `lifespan = some L` — the generated
  window `Gen.chem_kill_old` (`Bridge.chem_kill_old`, `LadimProofs/Bridge/Age.lean`); the method raises for `None`.
* `chem_diffuse_const_seq`: supply `u :: rest` ↦ `(Chemicals.diffuseConst dt D H u z, rest, 1)`; empty supply: `some none`.
* `chem_diffuse_labolle_seq`: `(Chemicals.diffuseLabolle K vmax dz H (substeps dt vdt fuel 0) us z`, the supply without
  the draws used, their number`)`, hypothesis: the supply has a draw for every sub-step.  Pieces: the bodies of the
  nested functions and the parts of the method around the `while` header are taken from the generated sequence
  (`chemLabZcT`, `chemLabZcF`, `chemLabSk`, `chemLabPre`, `chemLabBody`); `chem_labolle_zcT` / `_zcF` / `chem_z_coarse`
  (the bound `z_coarse` is `Chemicals.zCoarse`, both variants), `chem_labolle_sk`, `chem_labolle_trip` (one trip =
  `Chemicals.labolleSub` of length `min(dt, c + vdt) - c`), `chem_labolle_loop`.
* `chem_horzdiff_seq`: supply `ux :: uy :: rest` ↦ `Chemicals.horzdiffXY` (draw order X then Y, `dx` / `dy` of
  `sample_metric` at the old position), position kept and particle killed outside the grid (`chemHorzSpec`), `rest`,
  2 calls; `chem_compute_diff`: the nested function is `Chemicals.computeDiff`; `chem_horzdiff_seq_short`.
* `chem_ctor_seq`: the constructor is `Seq.chemCtorSpec`; `chem_ctor_atoms`, `chem_ctor_clamp`, `chem_update_of_ctor`:
  the attributes it sets, read by the conditions of `update_ibm` as Python reads them, select the rules of
  `Chemicals.update (a.config)`.

Except for `chem_update_of_ctor` only the operations of the scalar type are used (no field or order laws): the
statements hold for every scalar type, `Float` included.

The runs are walked through by `simp` with the one-statement rules `Run.runFn_exec` / `_ret` / `_pass`
(`LadimProofs/Bridge/Runners.lean`) and the interpreters unfolded by `….eq_def`; a switch of the configuration is split
where the statement it guards is reached.
-/
open Ladim Ladim.Seq Ladim.Chemicals

set_option linter.unusedSimpArgs false
set_option linter.unusedVariables false
set_option linter.unusedSectionVars false
namespace Bridge
variable {α : Type} [Add α] [Sub α] [Mul α] [Div α] [Neg α] [LT α] [DecidableLT α]
  [LE α] [DecidableLE α] [OfScientific α] [HasSqrt α] [HasFloor α] [HasRound α]

/- the runner, one statement at a time (`LadimProofs/Bridge/Runners.lean`) -/
attribute [local simp] Run.runFn_exec Run.runFn_ret Run.runFn_pass Run.runFn_nil Run.guardVal_nil Run.guardVal_cons
  Seq.fnStmtKnown Seq.fnGuardKnown

/-! ### `reflect`, `clamp_to_seabed` -/

theorem chem_reflect_seq (H z : α) : Seq.runChemReflect Gen.chem_reflect_seq H z = some (some (reflect H z)) := by
  simp [Seq.runChemReflect, Gen.chem_reflect_seq, Seq.ChemReflSt.init, Seq.chemReflStep.eq_def]
  rfl

theorem chem_clamp_seq (H z : α) : Seq.runChemClamp Gen.chem_clamp_seq H z = some (some (fmin z H)) := by
  simp [Seq.runChemClamp, Gen.chem_clamp_seq, Seq.chemClampStep.eq_def]

/-- the `call reflect` step of `advect`, `diffuse_const` and `diffuse_labolle` -/
theorem chem_call_reflect {σ : Type} (set : α → σ) (H z : α) :
    Seq.chemLiftZ set (Seq.chemReflectSeq H z) = some (some (set (reflect H z))) := by
  rw [Seq.chemReflectSeq, chem_reflect_seq]; rfl

theorem chem_advect_seq (e : Env α) (dt x y z : α) :
    Seq.runChemAdvect Gen.chem_advect_seq e dt x y z = some (some (advect dt (e.depth x y) (e.wvel x y z) z)) := by
  simp [Seq.runChemAdvect, Gen.chem_advect_seq, Seq.chemAdvStep.eq_def, chem_call_reflect, advect]

theorem chem_kill_old_seq (dt : α) (lifespan : Option α) (age : α) (alive : Bool) :
    Seq.runChemKillOld Gen.chem_kill_old_seq dt lifespan age alive
      = some (lifespan.map (fun L => (age + dt, alive && decide (age + dt ≤ L)))) := by
  cases lifespan <;>
  simp [Seq.runChemKillOld, Gen.chem_kill_old_seq, Seq.chemKillStep.eq_def]

theorem chem_diffuse_const_seq (dt D H u : α) (rest : List α) (z : α) :
    Seq.runChemDiffuseConst Gen.chem_diffuse_const_seq dt D H (u :: rest) z
      = some (some (diffuseConst dt D H u z, rest, 1)) := by
  simp [Seq.runChemDiffuseConst, Gen.chem_diffuse_const_seq, Seq.chemDcStep.eq_def, chem_call_reflect, diffuseConst,
    uniformDW]

theorem chem_diffuse_const_seq_nil (dt D H z : α) :
    Seq.runChemDiffuseConst Gen.chem_diffuse_const_seq dt D H [] z = some none := by
  simp [Seq.runChemDiffuseConst, Gen.chem_diffuse_const_seq, Seq.chemDcStep.eq_def, chem_call_reflect]

/-! ### `horzdiff` -/

/-- the nested `compute_diff` is `Chemicals.computeDiff` on the sampled diffusivity -/
theorem chem_compute_diff (e : Env α) (hmin hmax xx yy zz : α) :
    Seq.chemComputeDiffRun (Seq.chemDefBody [(true, "def compute_diff")] Gen.chem_horzdiff_seq) e hmin hmax xx yy zz
      = some (some (computeDiff hmin hmax (e.hdiff xx yy zz))) := by
  simp [Seq.chemComputeDiffRun, Seq.chemDefBody, Seq.chemStripPrefix, Gen.chem_horzdiff_seq, List.filterMap_cons,
    Seq.chemCdStep.eq_def, Seq.chemCdRet.eq_def, computeDiff]

/-- what the `def compute_diff` statement checks: the body is not empty and made of known statements -/
theorem chem_compute_diff_known (e : Env α) (hmin hmax z : α) :
    (!(Seq.chemDefBody [(true, "def compute_diff")] Gen.chem_horzdiff_seq).isEmpty &&
      (Seq.chemDefBody [(true, "def compute_diff")] Gen.chem_horzdiff_seq).all
        (Seq.fnStmtKnown Seq.chemNoAtom (Seq.chemCdStep e hmin hmax) Seq.chemCdRet (⟨z, z, z, none⟩ : Seq.ChemCdSt α)))
      = true := by
  simp [Seq.chemDefBody, Seq.chemStripPrefix, Gen.chem_horzdiff_seq, List.filterMap_cons, Seq.chemCdStep.eq_def,
    Seq.chemCdRet.eq_def]

/-- what `horzdiff` does to one particle: the predictor / corrector step of the model, undone (and the particle
killed) when it leaves the grid -/
def chemHorzSpec (e : Env α) (hmin hmax dt z ux uy x y : α) (alive : Bool) : α × α × Bool :=
  let r := horzdiffXY (fun xx yy => e.hdiff xx yy z) hmin hmax dt (e.metric x y) (e.metricY x y) ux uy x y
  if e.ingrid r.x2 r.y2 then (r.x2, r.y2, alive) else (x, y, false)

theorem chem_horzdiff_seq (e : Env α) (hmin hmax dt z ux uy : α) (rest : List α) (x y : α) (alive : Bool) :
    Seq.runChemHorzdiff Gen.chem_horzdiff_seq e hmin hmax dt z (ux :: uy :: rest) x y alive
      = some (some ((chemHorzSpec e hmin hmax dt z ux uy x y alive).1, (chemHorzSpec e hmin hmax dt z ux uy x y alive).2.1,
          (chemHorzSpec e hmin hmax dt z ux uy x y alive).2.2, rest, 2)) := by
  have hk := chem_compute_diff_known e hmin hmax z
  have hcd := chem_compute_diff e hmin hmax
  unfold Seq.runChemHorzdiff
  generalize Seq.chemDefBody [(true, "def compute_diff")] Gen.chem_horzdiff_seq = inner at hk hcd ⊢
  simp [Gen.chem_horzdiff_seq, Seq.chemOuter, Seq.ChemHzSt.init, Seq.chemHzStep.eq_def, Seq.chemHzCall,
    Seq.chemLocal, Seq.chemHzMove.eq_def, hk, hcd]
  unfold chemHorzSpec horzdiffXY
  split <;> simp [*]

theorem chem_horzdiff_seq_short (e : Env α) (hmin hmax dt z : α) (us : List α) (x y : α) (alive : Bool)
    (h : us.length < 2) :
    Seq.runChemHorzdiff Gen.chem_horzdiff_seq e hmin hmax dt z us x y alive = some none := by
  have hk := chem_compute_diff_known e hmin hmax z
  have hcd := chem_compute_diff e hmin hmax
  unfold Seq.runChemHorzdiff
  generalize Seq.chemDefBody [(true, "def compute_diff")] Gen.chem_horzdiff_seq = inner at hk hcd ⊢
  match us, h with
  | [], _ =>
    simp [Gen.chem_horzdiff_seq, Seq.chemOuter, Seq.ChemHzSt.init, Seq.chemHzStep.eq_def, Seq.chemHzCall,
      Seq.chemLocal, Seq.chemHzMove.eq_def, hk, hcd]
  | [u], _ =>
    simp [Gen.chem_horzdiff_seq, Seq.chemOuter, Seq.ChemHzSt.init, Seq.chemHzStep.eq_def, Seq.chemHzCall,
      Seq.chemLocal, Seq.chemHzMove.eq_def, hk, hcd]
  | _ :: _ :: _, h => exact absurd h (by simp)

/-! ### `diffuse_labolle` -/

/-- the bodies of `z_coarse` under `if self.vertdiff_dz:` and under `else:`, and the body of `sample_K` -/
abbrev chemLabZcT : List Seq.Stmt :=
  Seq.chemDefBody [(true, "self.vertdiff_dz"), (true, "def z_coarse")] Gen.chem_diffuse_labolle_seq
abbrev chemLabZcF : List Seq.Stmt :=
  Seq.chemDefBody [(false, "self.vertdiff_dz"), (true, "def z_coarse")] Gen.chem_diffuse_labolle_seq
abbrev chemLabSk : List Seq.Stmt := Seq.chemDefBody [(true, "def sample_K")] Gen.chem_diffuse_labolle_seq

/-- the statements of the method itself; those before the loop; the loop body -/
abbrev chemLabOuter : List Seq.Stmt := Seq.chemOuter Seq.chemLabDefs Gen.chem_diffuse_labolle_seq
abbrev chemLabPre : List Seq.Stmt := Seq.chemLoopPre (true, "while current_time < self.dt") chemLabOuter
abbrev chemLabBody : List Seq.Stmt := Seq.chemLoopBody (true, "while current_time < self.dt") chemLabOuter

/-- `z_coarse` under `if self.vertdiff_dz:` is made of known statements and is the mid-point rule of the `dz`-cells -/
theorem chem_labolle_zcT (dz : α) : Seq.chemZcKnown chemLabZcT dz = true ∧
    ∀ zz, Seq.chemZCoarseRun chemLabZcT dz zz
      = some (some (fmax (0.25 * dz) (floor ((zz - 0.5 * dz) / dz) * dz + dz))) := by
  simp [Seq.chemZcKnown, Seq.chemZCoarseRun, Seq.chemDefBody, Seq.chemStripPrefix, Gen.chem_diffuse_labolle_seq,
    List.filterMap_cons, Seq.chemZcStep.eq_def, Seq.chemZcRet.eq_def]

/-- `z_coarse` under `else:` is made of known statements and is the identity -/
theorem chem_labolle_zcF (dz : α) : Seq.chemZcKnown chemLabZcF dz = true ∧
    ∀ zz, Seq.chemZCoarseRun chemLabZcF dz zz = some (some zz) := by
  simp [Seq.chemZcKnown, Seq.chemZCoarseRun, Seq.chemDefBody, Seq.chemStripPrefix, Gen.chem_diffuse_labolle_seq,
    List.filterMap_cons, Seq.chemZcStep.eq_def, Seq.chemZcRet.eq_def]

/-- the function that the executed `def z_coarse` binds is `Chemicals.zCoarse` -/
theorem chem_z_coarse (dz zz : α) :
    Seq.chemZcClosure chemLabZcT chemLabZcF dz zz = some (some (zCoarse dz zz)) := by
  unfold Seq.chemZcClosure zCoarse Seq.chemDzTruthy
  by_cases h : dz < 0.0 ∨ 0.0 < dz <;> simp [h, (chem_labolle_zcT dz).2, (chem_labolle_zcF dz).2]

/-- the nested `sample_K` is made of known statements (what `def sample_K` checks) and is the diffusivity at the
coarse depth, capped -/
theorem chem_labolle_sk (e : Env α) (vmax dz x y : α) :
    (!chemLabSk.isEmpty && chemLabSk.all (Seq.fnStmtKnown Seq.chemNoAtom
      (Seq.chemSkStep e (some (Seq.chemZcClosure chemLabZcT chemLabZcF dz))) (Seq.chemSkRet vmax)
      (⟨x, y, x, none⟩ : Seq.ChemSkSt α))) = true ∧
    ∀ xx yy zz, Seq.chemSampleKRun chemLabSk e vmax (some (Seq.chemZcClosure chemLabZcT chemLabZcF dz)) xx yy zz
      = some (some (fmin (e.vdiff xx yy (zCoarse dz zz)) vmax)) := by
  have hz := chem_z_coarse (α := α) dz
  generalize Seq.chemZcClosure chemLabZcT chemLabZcF dz = zc at hz
  simp [Seq.chemSampleKRun, Seq.chemDefBody, Seq.chemStripPrefix, Gen.chem_diffuse_labolle_seq, List.filterMap_cons,
    Seq.chemSkStep.eq_def, Seq.chemSkRet.eq_def, hz]

/-- the interpretation of the statements of `diffuse_labolle` with the bodies of the nested functions of the
generated sequence -/
abbrev chemLabStepGen (e : Env α) (dt vdt dz vmax x y : α) :=
  Seq.chemLabStep chemLabZcT chemLabZcF chemLabSk e dt vdt dz vmax x y

/-- the state on entry to the loop: `x`, `y`, `H`, the two nested functions and `current_time = 0` are bound -/
def chemLabEntry (e : Env α) (dz x y : α) (us : List α) (z : α) : Seq.ChemLabSt α :=
  ⟨z, us, 0, true, true, some (e.depth x y), some (Seq.chemZcClosure chemLabZcT chemLabZcF dz), true, some 0.0,
    none, none, false, none, none, none⟩

theorem chem_labolle_pre (e : Env α) (dt vdt dz vmax x y : α) (us : List α) (z : α) :
    Seq.runFn (Seq.chemLabAtom dz) (chemLabStepGen e dt vdt dz vmax x y) (fun _ _ => none) (fun s => some (some s))
      chemLabPre (Seq.ChemLabSt.init us z) = some (some (chemLabEntry e dz x y us z)) := by
  have hT := (chem_labolle_zcT dz).1
  have hF := (chem_labolle_zcF dz).1
  have hS := (chem_labolle_sk e vmax dz x y).1
  unfold chemLabStepGen chemLabEntry
  generalize chemLabZcT = zcT at *
  generalize chemLabZcF = zcF at *
  generalize chemLabSk = sk at *
  simp only [chemLabPre, chemLabOuter]
  simp [Seq.chemLoopPre, Seq.chemOuter, Seq.chemLabDefs, Seq.chemInLoop, Gen.chem_diffuse_labolle_seq,
    -List.takeWhile_cons_of_pos, -List.takeWhile_cons_of_neg, List.takeWhile_cons]
  cases h : Seq.chemDzTruthy dz <;>
  simp [Seq.ChemLabSt.init, Seq.chemLabAtom.eq_def, Seq.chemLabStep.eq_def, hT, hF, hS, h]

/-- the state after one trip through the loop body that starts at time `c` with depth `z` and draw `u` -/
def chemLabAfter (e : Env α) (dt vdt dz vmax x y z u : α) (rest : List α) (n : Nat) (c : α) : Seq.ChemLabSt α :=
  let H := e.depth x y
  let nxt := fmin dt (c + vdt)
  let sampleK := fun zz => fmin (e.vdiff x y (zCoarse dz zz)) vmax
  let dW := (u * 2.0 - 1.0) * sqrt (3.0 * (nxt - c))
  let p := z + sqrt (2.0 * sampleK z) * dW
  let p1 := if p < 0.0 then -p else p
  let Z1 := if H < p1 then 2.0 * H - p1 else p1
  ⟨reflect H (z + sqrt (2.0 * sampleK Z1) * dW), rest, n + 1, true, true, some H,
    some (Seq.chemZcClosure chemLabZcT chemLabZcF dz), true, some nxt, some c, some (nxt - c), true, some dW, some Z1,
    some (decide (H < p1))⟩

theorem chemLabAfter_z (e : Env α) (dt vdt dz vmax x y z u : α) (rest : List α) (n : Nat) (c : α) :
    (chemLabAfter e dt vdt dz vmax x y z u rest n c).z
      = labolleSub (e.vdiff x y) vmax dz (e.depth x y) (fmin dt (c + vdt) - c) u z := rfl

/-- one trip through the loop body is one `Chemicals.labolleSub` of length `min(dt, c + vertdiff_dt) - c` -/
theorem chem_labolle_trip (e : Env α) (dt vdt dz vmax x y z u : α) (rest : List α) (n : Nat) (c : α)
    (old ddt : Option α) (zB : Bool) (dW Z1 : Option α) (below : Option Bool) :
    Seq.runFn (Seq.chemLabAtom dz) (chemLabStepGen e dt vdt dz vmax x y) (fun _ _ => none) (fun s => some (some s))
      chemLabBody ⟨z, u :: rest, n, true, true, some (e.depth x y),
        some (Seq.chemZcClosure chemLabZcT chemLabZcF dz), true, some c, old, ddt, zB, dW, Z1, below⟩
      = some (some (chemLabAfter e dt vdt dz vmax x y z u rest n c)) := by
  have hS := (chem_labolle_sk e vmax dz x y).2
  unfold chemLabStepGen chemLabAfter
  generalize Seq.chemZcClosure chemLabZcT chemLabZcF dz = zc at *
  generalize chemLabZcT = zcT at *
  generalize chemLabZcF = zcF at *
  generalize chemLabSk = sk at *
  simp only [chemLabBody, chemLabOuter]
  simp [Seq.chemLoopBody, Seq.chemOuter, Seq.chemLabDefs, Seq.chemInLoop, Gen.chem_diffuse_labolle_seq,
    -List.takeWhile_cons_of_pos, -List.takeWhile_cons_of_neg, List.takeWhile_cons, -List.dropWhile_cons_of_pos,
    -List.dropWhile_cons_of_neg, List.dropWhile_cons, Seq.chemLabStep.eq_def, Seq.chemLabSample, hS,
    chem_call_reflect]

/-- the body statements are known ones in the state on entry (checked even when the loop makes no trip) -/
theorem chem_labolle_known (e : Env α) (dt vdt dz vmax x y : α) (us : List α) (z : α) :
    chemLabBody.all (Seq.fnStmtKnown (Seq.chemLabAtom dz) (chemLabStepGen e dt vdt dz vmax x y)
      (fun _ _ => (none : Option (Option (Seq.ChemLabSt α)))) (chemLabEntry e dz x y us z)) = true := by
  have hS := (chem_labolle_sk e vmax dz x y).2
  unfold chemLabStepGen chemLabEntry
  generalize Seq.chemZcClosure chemLabZcT chemLabZcF dz = zc at *
  generalize chemLabZcT = zcT at *
  generalize chemLabZcF = zcF at *
  generalize chemLabSk = sk at *
  simp only [chemLabBody, chemLabOuter]
  simp [Seq.chemLoopBody, Seq.chemOuter, Seq.chemLabDefs, Seq.chemInLoop, Gen.chem_diffuse_labolle_seq,
    -List.takeWhile_cons_of_pos, -List.takeWhile_cons_of_neg, List.takeWhile_cons, -List.dropWhile_cons_of_pos,
    -List.dropWhile_cons_of_neg, List.dropWhile_cons, Seq.chemLabStep.eq_def, Seq.chemLabSample, hS,
    chem_call_reflect]

/-- the loop, from time `c` on: the trips are the sub-steps `Chemicals.substeps dt vdt fuel c`, each with the next
draw of the supply -/
theorem chem_labolle_loop (e : Env α) (dt vdt dz vmax x y : α) :
    ∀ (fuel : Nat) (z : α) (us : List α) (n : Nat) (c : α) (old ddt : Option α) (zB : Bool) (dW Z1 : Option α)
      (below : Option Bool), (substeps dt vdt fuel c).length ≤ us.length →
    ∃ s', Seq.chemWhile (Seq.chemLabCond dt)
        (Seq.runFn (Seq.chemLabAtom dz) (chemLabStepGen e dt vdt dz vmax x y) (fun _ _ => none)
          (fun s => some (some s)) chemLabBody) fuel
        ⟨z, us, n, true, true, some (e.depth x y), some (Seq.chemZcClosure chemLabZcT chemLabZcF dz), true, some c,
          old, ddt, zB, dW, Z1, below⟩ = some (some s')
      ∧ s'.z = diffuseLabolle (e.vdiff x y) vmax dz (e.depth x y) (substeps dt vdt fuel c) us z
      ∧ s'.us = us.drop (substeps dt vdt fuel c).length
      ∧ s'.calls = n + (substeps dt vdt fuel c).length := by
  intro fuel
  induction fuel with
  | zero =>
    intro z us n c old ddt zB dW Z1 below _
    exact ⟨_, rfl, by simp [substeps, diffuseLabolle], by simp [substeps], by simp [substeps]⟩
  | succ fuel ih =>
    intro z us n c old ddt zB dW Z1 below hlen
    by_cases hc : c < dt
    · have hsub : substeps dt vdt (fuel + 1) c
          = (fmin dt (c + vdt) - c) :: substeps dt vdt fuel (fmin dt (c + vdt)) := by
        simp [substeps, hc]
      rw [hsub] at hlen ⊢
      match us, hlen with
      | [], hlen => exact absurd hlen (by simp)
      | u :: rest, hlen =>
        have hlen' : (substeps dt vdt fuel (fmin dt (c + vdt))).length ≤ rest.length := by
          simpa using hlen
        obtain ⟨s', hs, hz, hu, hn⟩ := ih (chemLabAfter e dt vdt dz vmax x y z u rest n c).z rest (n + 1)
          (fmin dt (c + vdt)) (some c) (some (fmin dt (c + vdt) - c)) true
          (chemLabAfter e dt vdt dz vmax x y z u rest n c).dW (chemLabAfter e dt vdt dz vmax x y z u rest n c).Z1
          (chemLabAfter e dt vdt dz vmax x y z u rest n c).below hlen'
        refine ⟨s', ?_, ?_, ?_, ?_⟩
        · simp only [Seq.chemWhile, Seq.chemLabCond, Option.map_some, hc, decide_true, chem_labolle_trip]
          exact hs
        · rw [hz, chemLabAfter_z]; rfl
        · rw [hu]; rfl
        · rw [hn]; simp [Nat.add_assoc, Nat.add_comm]
    · have hsub : substeps dt vdt (fuel + 1) c = [] := by simp [substeps, hc]
      rw [hsub]
      refine ⟨⟨z, us, n, true, true, some (e.depth x y), some (Seq.chemZcClosure chemLabZcT chemLabZcF dz), true,
        some c, old, ddt, zB, dW, Z1, below⟩, ?_, ?_, ?_, ?_⟩
      · simp only [Seq.chemWhile, Seq.chemLabCond, Option.map_some, hc, decide_false]
      · simp [diffuseLabolle]
      · simp
      · simp

/-- **`diffuse_labolle`**: the sub-step loop of the code is `Chemicals.diffuseLabolle` on the sub-steps
`Chemicals.substeps dt vdt fuel 0`, with one draw of the particle's supply per sub-step -/
theorem chem_diffuse_labolle_seq (e : Env α) (dt vdt dz vmax x y : α) (fuel : Nat) (us : List α) (z : α)
    (h : (substeps dt vdt fuel 0.0).length ≤ us.length) :
    Seq.runChemDiffuseLabolle Gen.chem_diffuse_labolle_seq e dt vdt dz vmax x y fuel us z
      = some (some (diffuseLabolle (e.vdiff x y) vmax dz (e.depth x y) (substeps dt vdt fuel 0.0) us z,
          us.drop (substeps dt vdt fuel 0.0).length, (substeps dt vdt fuel 0.0).length)) := by
  obtain ⟨s', hs, hz, hu, hn⟩ := chem_labolle_loop e dt vdt dz vmax x y fuel z us 0 0.0 none none false none none none h
  have hpre := chem_labolle_pre e dt vdt dz vmax x y us z
  have hk := chem_labolle_known e dt vdt dz vmax x y us z
  have hpost : Seq.chemLoopPost (true, "while current_time < self.dt") chemLabOuter = [] := by
    simp [Seq.chemLoopPost, Seq.chemOuter, Seq.chemLabDefs, Seq.chemInLoop, Gen.chem_diffuse_labolle_seq,
      -List.dropWhile_cons_of_pos, -List.dropWhile_cons_of_neg, List.dropWhile_cons]
  unfold chemLabEntry at hpre hk
  simp only [Seq.runChemDiffuseLabolle, Seq.chemRunWhile]
  rw [hpre]
  simp only [hk, Bool.not_true, Bool.false_eq_true, if_false]
  rw [hs, hpost]
  simp [hz, hu, hn]

/-! ### the `call` steps of the interpreter of `update_ibm` (`Seq.chemStep`; `LadimProofs/Bridge/Seq.lean`) -/

theorem chem_call_clamp (c : Config α) (e : Env α) (d : Draws α) (p : Particle α) :
    Seq.chemStep c e d p "call" "clamp_to_seabed"
      = (Seq.runChemClamp Gen.chem_clamp_seq (e.depth p.x p.y) p.z).join.map (fun z => { p with z := z }) := by
  rw [chem_clamp_seq]; simp [Seq.chemStep]

theorem chem_call_advect (c : Config α) (e : Env α) (d : Draws α) (p : Particle α) :
    Seq.chemStep c e d p "call" "advect"
      = (Seq.runChemAdvect Gen.chem_advect_seq e c.dt p.x p.y p.z).join.map (fun z => { p with z := z }) := by
  rw [chem_advect_seq]; simp [Seq.chemStep]

/-- the particle's vertical draws `d.vert` are its supply: `diffuse_const` takes the first one -/
theorem chem_call_diffuse_const (c : Config α) (e : Env α) (d : Draws α) (p : Particle α) (D u : α) (rest : List α)
    (hmix : c.mix = .const D) (hd : d.vert = u :: rest) :
    Seq.chemStep c e d p "call" "diffuse_const"
      = (Seq.runChemDiffuseConst Gen.chem_diffuse_const_seq c.dt D (e.depth p.x p.y) d.vert p.z).join.map
          (fun r => { p with z := r.1 }) := by
  rw [hd, chem_diffuse_const_seq]; simp [Seq.chemStep, hmix, hd]

/-- the particle's vertical draws `d.vert` are its supply: `diffuse_labolle` takes one per sub-step, in order -/
theorem chem_call_diffuse_labolle (c : Config α) (e : Env α) (d : Draws α) (p : Particle α) (vdt dz vmax : α)
    (hmix : c.mix = .labolle vdt dz vmax) (hlen : (substeps c.dt vdt c.fuel 0.0).length ≤ d.vert.length) :
    Seq.chemStep c e d p "call" "diffuse_labolle"
      = (Seq.runChemDiffuseLabolle Gen.chem_diffuse_labolle_seq e c.dt vdt dz vmax p.x p.y c.fuel d.vert p.z).join.map
          (fun r => { p with z := r.1 }) := by
  rw [chem_diffuse_labolle_seq _ _ _ _ _ _ _ _ _ _ hlen]; simp [Seq.chemStep, hmix]

/-- the particle's supply for `horzdiff` is `d.hx`, then `d.hy` -/
theorem chem_call_horzdiff (c : Config α) (e : Env α) (d : Draws α) (p : Particle α) (hmin hmax : α) (rest : List α)
    (hh : c.horz = some (hmin, hmax)) :
    Seq.chemStep c e d p "call" "horzdiff"
      = (Seq.runChemHorzdiff Gen.chem_horzdiff_seq e hmin hmax c.dt p.z (d.hx :: d.hy :: rest) p.x p.y p.alive).join.map
          (fun r => { p with x := r.1, y := r.2.1, alive := r.2.2.1 }) := by
  rw [chem_horzdiff_seq]
  by_cases hg : e.ingrid (horzdiffXY (fun xx yy => e.hdiff xx yy p.z) hmin hmax c.dt (e.metric p.x p.y)
      (e.metricY p.x p.y) d.hx d.hy p.x p.y).x2 (horzdiffXY (fun xx yy => e.hdiff xx yy p.z) hmin hmax c.dt
      (e.metric p.x p.y) (e.metricY p.x p.y) d.hx d.hy p.x p.y).y2 = true <;>
  simp [Seq.chemStep, hh, chemHorzSpec, hg]

/-- without a lifespan (`None`) the method raises; `update_ibm` does not call it then -/
theorem chem_call_kill_old (c : Config α) (e : Env α) (d : Draws α) (p : Particle α) :
    Seq.chemStep c e d p "call" "kill_old"
      = (Seq.runChemKillOld Gen.chem_kill_old_seq c.dt c.lifespan p.age p.alive).join.map
          (fun r => { p with age := r.1, alive := r.2 }) := by
  rw [chem_kill_old_seq]
  cases h : c.lifespan <;> simp [Seq.chemStep, h]

/-! ### `IBM.__init__` -/

/-- **constructor**: `KeyError` iff there is no `dt`; otherwise the attributes are the configuration values with the
defaults of `Seq.chemCtorSpec`, and two warnings are logged iff the stability number exceeds 1 -/
theorem chem_ctor_seq (inf : α) (cfg : Seq.ChemConf α) :
    Seq.runChemCtor Gen.chem_ctor_seq inf cfg = some (Seq.chemCtorSpec inf cfg) := by
  obtain ⟨ibm, dt⟩ := cfg
  cases dt with
  | none =>
    simp [Seq.runChemCtor, Gen.chem_ctor_seq, Seq.ChemCtorSt.init, Seq.chemCtorStep.eq_def, Seq.chemCtorGet,
      Seq.chemCtorAtom.eq_def, Seq.chemCtorSpec]
  | some dt =>
    -- the eighteen statements outside the `if`
    simp only [Seq.runChemCtor, Gen.chem_ctor_seq, Seq.ChemCtorSt.init, Run.runFn_exec, Run.guardVal_nil,
      Seq.chemCtorStep.eq_def, Seq.chemCtorGet, String.reduceEq, Option.map_some, Seq.chemCtorSpec]
    generalize ibm.getD Seq.ChemIbmConf.empty = ic
    by_cases h : ic.vertdiffMax.getD inf < inf ∧ 0.0 < ic.vertdiffDz.getD 0.0
    · by_cases h' : 1.0 < 6.0 * ic.vertdiffMax.getD inf * ic.vertdiffDt.getD dt
          / (ic.vertdiffDz.getD 0.0 * ic.vertdiffDz.getD 0.0)
      · simp [Seq.chemCtorAtom.eq_def, Seq.chemCtorStep.eq_def, h, h']
        rfl
      · simp [Seq.chemCtorAtom.eq_def, Seq.chemCtorStep.eq_def, h, h']
        rfl
    · simp [Seq.chemCtorAtom.eq_def, Seq.chemCtorStep.eq_def, h]
      rw [if_neg fun hh => h ⟨hh.1, hh.2.1⟩]
      rfl

/-- the `Chemicals.Config` that the attributes stand for switches the rules of `update_ibm` exactly as Python
evaluates the conditions on the attributes (`Seq.chemAtom` is the condition interpreter of `Bridge.chem_update_seq`).
Hypothesis: `vertical_mixing` is not the empty string — for `''` Python takes the `isinstance(self.D, str)` branch
(`diffuse_labolle`) while the truth value of `self.D` is false; the two readings of the text `self.D` differ there,
though no run of `update_ibm` evaluates it. -/
theorem chem_ctor_atoms (a : Seq.ChemAttrs α) (fuel : Nat) (hD : ∀ s, a.D = .name s → s ≠ "") {σ : Type} (s : σ)
    (t : String) : Seq.chemAtom (a.config fuel) a.collision s t = Seq.chemAttrAtom a t := by
  unfold Seq.chemAtom Seq.chemAttrAtom
  split
  · by_cases h : a.landCollision = "reposition" <;> by_cases h' : a.landCollision = "coastal_diffusion" <;>
      simp_all [Seq.ChemAttrs.collision]
  · by_cases h : a.landCollision = "reposition" <;> by_cases h' : a.landCollision = "coastal_diffusion" <;>
      simp_all [Seq.ChemAttrs.collision]
  · simp [Seq.ChemAttrs.config]
  · cases hd : a.D with
    | name n => simp [Seq.ChemAttrs.config, hd]
    | num D => by_cases h : D < 0.0 ∨ 0.0 < D <;> simp [Seq.ChemAttrs.config, hd, h]
  · cases hd : a.D with
    | name n => simp [Seq.ChemAttrs.config, hd, hD n hd]
    | num D => by_cases h : D < 0.0 ∨ 0.0 < D <;> simp [Seq.ChemAttrs.config, hd, h]
  · by_cases h : a.horzdiffType = some "smagorinsky" <;> simp [Seq.ChemAttrs.config, h]
  · simp [Seq.ChemAttrs.config]
  · simp_all

/-- the hypothesis `hclamp` of `Bridge.chem_update_seq` holds for the configuration of the constructor -/
theorem chem_ctor_clamp (a : Seq.ChemAttrs α) (fuel : Nat) :
    (a.config fuel).collisionClamp = decide (a.collision ≠ .other) := rfl

section
variable {β : Type} [Field β] [LinearOrder β] [IsStrictOrderedRing β]
  [HasSqrt β] [HasExp β] [HasLog β] [HasSin β] [HasCos β] [HasAsin β] [HasRpow β] [HasPi β] [HasRound β] [HasFloor β]

/-- constructor → `update_ibm`: for the attributes `a` that `__init__` sets, the statement sequence of `update_ibm`
with its conditions read on the attributes as Python reads them is `Chemicals.update` of the configuration `a.config`
(`Bridge.chem_update_seq` with `chem_ctor_atoms`, `chem_ctor_clamp`); `hstuck`: without a collision handler no
particle is reseeded -/
theorem chem_update_of_ctor (a : Seq.ChemAttrs β) (fuel : Nat) (hD : ∀ s, a.D = .name s → s ≠ "") (e : Env β)
    (d : Draws β) (p : Particle β) (hstuck : a.collision = .other → d.stuck = false) :
    Seq.run (fun _ => Seq.chemAttrAtom a) (Seq.chemStep (a.config fuel) e d) Gen.chem_update_seq p
      = some (update (a.config fuel) e d p) := by
  have h : (fun (_ : Particle β) => Seq.chemAttrAtom a) = Seq.chemAtom (a.config fuel) a.collision := by
    funext s t; exact (chem_ctor_atoms a fuel hD s t).symm
  rw [h]
  exact chem_update_seq _ _ _ _ _ (chem_ctor_clamp a fuel) hstuck
end

end Bridge
