import LadimModel.Release.DatesSeq
import LadimProofs.Bridge.Runners
/-!
# Bridge (C02) — `date_range`: the hand-written date model *is* the statement sequence of the code

`Gen.date_range_seq` (guard, kind and text of every statement of `release/makrel.py :: date_range`, regenerated from the
current source) is interpreted by `LadimModel/Release/DatesSeq.lean`: every statement, the condition and the `return`
expression must be a known text.  `Bridge.date_range`: on a pair of parsed dates the interpretation is
`Dates.dateRange div perSec start stop num` (`modelRange`), where `div` is the divisor that the generated text shows
(`Seq.divSeen`: `max(num - 1, 1)` gives `Dates.divisor`, the form before the `fix:` commit, `num - 1`, gives
`Dates.divisorOld`), `perSec` = ticks per second of the finer of the two units after the cast of `Y M W D h m` to
seconds, `start`/`stop` = the ticks in that unit; numpy returns the values in the unit of `start`, to which the model's
values are brought back exactly (`p1 ∣ perSec`).  A single date (string / object without `__len__`) is the pair of that
date twice; a sequence of another length raises.  Core Lean only (no Mathlib); no hypotheses.
-/

open Ladim Ladim.Seq Ladim.Dates

set_option linter.unusedSimpArgs false
set_option linter.unusedVariables false
namespace Bridge

/-- the units that `date_range` casts to seconds -/
def isCoarse : TUnit → Bool
  | .Y | .M | .W | .D | .h | .m => true
  | _ => false

/-- ticks per second (1 for the coarse units, which never get here) -/
def perSecOf (u : TUnit) : Int := u.perSec?.getD 1

/-- a date after the cast of the coarse units to seconds -/
def fine (toSec : TUnit → Int → Int) (d : Stamp) : Stamp :=
  if isCoarse d.1 then (.s, toSec d.1 d.2) else d

theorem castCoarse_eq (toSec : TUnit → Int → Int) (d : Stamp) :
    castCoarse ["Y", "M", "W", "D", "h", "m"] toSec d = fine toSec d := by
  obtain ⟨u, t⟩ := d
  cases u <;> simp [castCoarse, fine, isCoarse, TUnit.code]

theorem fine_perSec (toSec : TUnit → Int → Int) (d : Stamp) :
    (fine toSec d).1.perSec? = some (perSecOf (fine toSec d).1) := by
  obtain ⟨u, t⟩ := d
  cases u <;> simp [fine, isCoarse, perSecOf, TUnit.perSec?]


/-- the generated text of the `drange` statement is one of the two the model knows -/
theorem div_seen : ∃ dv, divSeen Gen.date_range_seq = some dv := by
  simp only [divSeen, Gen.date_range_seq, List.findSome?_cons_of_isSome, List.findSome?_cons_of_isNone,
    divOfText.eq_def, String.reduceEq, ↓reduceIte, imp_self, Option.isNone_none, Option.isSome_some]
  exact ⟨_, rfl⟩

/-! the statements one by one; the texts are compared by `String.reduceEq`, not by evaluation (see the head of
`Bridge/Runners.lean`).  Where the kernel would still run the comparison (a matcher unfolded on the literal itself), the
matcher is unfolded in the defining equation, on a variable. -/
section steps
variable (toSec : TUnit → Int → Int) (s : DrSt)

theorem atom_single : drAtom s "isinstance(date_span, str) or not hasattr(date_span, '__len__')" =
    some (match s.span with | .str _ => true | .scalar _ => true | .seq _ => false) := by
  have h := drAtom.eq_def s
  unfold drAtom.match_3 at h
  simp only [h, ↓reduceDIte, String.reduceEq]; rfl

theorem step_dup : drStep toSec s "assign" "date_span = [date_span] * 2" =
    some (match s.span with
      | .str d => some { s with span := .seq [d, d] }
      | .scalar d => some { s with span := .seq [d, d] }
      | .seq _ => none) := by
  unfold drStep drStep.match_13; simp only [↓reduceDIte, String.reduceEq]; rfl

theorem step_unpack : drStep toSec s "assign" "start, stop = [np.datetime64(d) for d in date_span]" =
    some (match s.span with
      | .seq [a, b] => some { s with start := a, stop := b }
      | _ => none) := by
  unfold drStep drStep.match_13; simp only [↓reduceDIte, String.reduceEq]; rfl

theorem step_coarse : drStep toSec s "assign" "coarse = ('Y', 'M', 'W', 'D', 'h', 'm')" =
    some (some { s with coarse := ["Y", "M", "W", "D", "h", "m"] }) := by
  unfold drStep drStep.match_13; simp only [↓reduceDIte, String.reduceEq]

theorem step_cast : drStep toSec s "assign" "start, stop = [d.astype('datetime64[s]') if np.datetime_data(d.dtype)[0] in coarse else d for d in (start, stop)]" =
    some (some { s with start := castCoarse s.coarse toSec s.start, stop := castCoarse s.coarse toSec s.stop }) := by
  unfold drStep drStep.match_13; simp only [↓reduceDIte, String.reduceEq]

theorem step_dt : drStep toSec s "assign" "dt = (stop - start).astype('timedelta64[s]')" =
    some (match s.start.1.perSec?, s.stop.1.perSec? with
      | some p1, some p2 => some { s with dt := diffSeconds p1 s.start.2 p2 s.stop.2 }
      | _, _ => none) := by
  unfold drStep drStep.match_13; simp only [↓reduceDIte, String.reduceEq]; rfl

theorem step_drange_maxOne : drStep toSec s "assign" "drange = start + np.arange(num) * dt / max(num - 1, 1)" =
    some (match s.start.1.perSec? with
      | some p1 => some { s with drange := (s.start.1, drangeTicks (DivVariant.maxOne.div s.num) p1 s.start.2 s.dt s.num) }
      | none => none) := by
  have hd := divOfText.eq_def
  unfold divOfText.match_1 at hd
  unfold drStep drStep.match_13; simp only [hd, ↓reduceDIte, String.reduceEq]; rfl

theorem step_drange_plain : drStep toSec s "assign" "drange = start + np.arange(num) * dt / (num - 1)" =
    some (match s.start.1.perSec? with
      | some p1 => some { s with drange := (s.start.1, drangeTicks (DivVariant.plain.div s.num) p1 s.start.2 s.dt s.num) }
      | none => none) := by
  have hd := divOfText.eq_def
  unfold divOfText.match_1 at hd
  unfold drStep drStep.match_13; simp only [hd, ↓reduceDIte, String.reduceEq]; rfl

theorem ret_tolist {ρ : Type} (render : TUnit → Option Int → ρ) : drRet render s "drange.astype(str).tolist()" =
    some (some (s.drange.2.map (render s.drange.1))) := by
  unfold drRet drRet.match_1; simp only [↓reduceDIte, String.reduceEq]

end steps

/-- every text of the sequence is a known one in every state, so the run is the plain one -/
theorem run_plain {ρ : Type} (toSec : TUnit → Int → Int) (render : TUnit → Option Int → ρ) (span : DateArg) (num : Nat) :
    dateRangeSeq toSec render span num =
      Run.runPlain drAtom (drStep toSec) (drRet render) (fun _ => none) Gen.date_range_seq (DrSt.init span num) := by
  refine Run.runRet_eq_runPlain (fun s => ?_) _
  simp only [Gen.date_range_seq, List.all_cons, List.all_nil, stmtKnown, guardKnown, String.reduceEq, ↓reduceIte,
    atom_single, step_dup, step_unpack, step_coarse, step_cast, step_dt, step_drange_maxOne, step_drange_plain,
    ret_tolist, Option.isSome_some, Bool.and_self]

/-- the run on a pair of dates -/
theorem run_pair {ρ : Type} (dv : DivVariant) (h : divSeen Gen.date_range_seq = some dv)
    (toSec : TUnit → Int → Int) (render : TUnit → Option Int → ρ) (a b : Stamp) (num : Nat) :
    dateRangeSeq toSec render (.seq [a, b]) num =
      some (some ((drangeTicks (dv.div num) (perSecOf (fine toSec a).1) (fine toSec a).2
        (diffSeconds (perSecOf (fine toSec a).1) (fine toSec a).2 (perSecOf (fine toSec b).1) (fine toSec b).2) num).map
          (render (fine toSec a).1))) := by
  simp only [divSeen, Gen.date_range_seq, List.findSome?_cons_of_isSome, List.findSome?_cons_of_isNone,
    divOfText.eq_def, String.reduceEq, ↓reduceIte, imp_self, Option.isNone_none, Option.isSome_some,
    Option.some.injEq] at h
  subst h
  rw [run_plain, Gen.date_range_seq]
  simp only [Run.runPlain_exec, Run.runPlain_ret, Run.runPlain_pass, Run.guardVal_neg, Run.guardVal_nil,
    String.reduceEq, Bool.not_true, DrSt.init, atom_single, step_unpack, step_coarse, step_cast, step_dt,
    step_drange_maxOne, step_drange_plain, ret_tolist, castCoarse_eq, fine_perSec]

/-- a single date given as a string is duplicated -/
theorem run_str {ρ : Type} (toSec : TUnit → Int → Int) (render : TUnit → Option Int → ρ) (d : Stamp) (num : Nat) :
    dateRangeSeq toSec render (.str d) num = dateRangeSeq toSec render (.seq [d, d]) num := by
  rw [run_plain, run_plain, Gen.date_range_seq]
  simp only [Run.runPlain_exec, Run.runPlain_pass, Run.guardVal_pos, Run.guardVal_neg, String.reduceEq, Bool.not_true,
    DrSt.init, atom_single, step_dup]

/-- a single date given as an object without `__len__` is duplicated -/
theorem run_scalar {ρ : Type} (toSec : TUnit → Int → Int) (render : TUnit → Option Int → ρ) (d : Stamp) (num : Nat) :
    dateRangeSeq toSec render (.scalar d) num = dateRangeSeq toSec render (.seq [d, d]) num := by
  rw [run_plain, run_plain, Gen.date_range_seq]
  simp only [Run.runPlain_exec, Run.runPlain_pass, Run.guardVal_pos, Run.guardVal_neg, String.reduceEq, Bool.not_true,
    DrSt.init, atom_single, step_dup]

/-- a sequence that does not have exactly two dates: the unpacking raises -/
theorem run_not_two {ρ : Type} (toSec : TUnit → Int → Int) (render : TUnit → Option Int → ρ) (ds : List Stamp)
    (num : Nat) (h2 : ds.length ≠ 2) :
    dateRangeSeq toSec render (.seq ds) num = some none := by
  rw [run_plain, Gen.date_range_seq]
  match ds, h2 with
  | [], _ | [_], _ | _ :: _ :: _ :: _, _ =>
    simp only [Run.runPlain_exec, Run.runPlain_pass, Run.guardVal_neg, Run.guardVal_nil, String.reduceEq,
      Bool.not_true, DrSt.init, atom_single, step_unpack]


/-! ### the arithmetic of the statements is the hand-written `Dates.dateRange` -/

/-- of two units, each number of ticks per second divides the larger one -/
theorem perSec_dvd (u v : TUnit) :
    perSecOf u * (max (perSecOf u) (perSecOf v) / perSecOf u) = max (perSecOf u) (perSecOf v) ∧
    0 < max (perSecOf u) (perSecOf v) / perSecOf u := by
  cases u <;> cases v <;> decide

/-- `start + arange(num) * dt / div` with `dt = (stop - start).astype('timedelta64[s]')`, in ticks of the unit of
`start` (`p1` per second), is the model's `dateRange` in ticks of the finer unit (`pf = max p1 p2` per second), scaled
back exactly -/
theorem drangeTicks_eq (div : Nat → Int) (p1 t1 p2 t2 : Int) (num : Nat)
    (hd : p1 * (max p1 p2 / p1) = max p1 p2) (hk : 0 < max p1 p2 / p1) :
    drangeTicks (div num) p1 t1 (diffSeconds p1 t1 p2 t2) num =
      (dateRange div (max p1 p2) (t1 * (max p1 p2 / p1)) (t2 * (max p1 p2 / p2)) num).map
        (Option.map (· / (max p1 p2 / p1))) := by
  unfold drangeTicks dateRange
  rw [List.map_map]
  apply List.map_congr_left
  intro i _
  show _ = Option.map _ (releaseTime div _ _ _ num i)
  unfold releaseTime
  have hs : spanSeconds (max p1 p2) (t1 * (max p1 p2 / p1)) (t2 * (max p1 p2 / p2)) = diffSeconds p1 t1 p2 t2 := rfl
  rw [hs, Option.map_map]
  congr 1
  funext q
  show t1 + q * p1 = (t1 * (max p1 p2 / p1) + q * max p1 p2) / (max p1 p2 / p1)
  generalize max p1 p2 / p1 = k at hd hk
  rw [← hd, ← Int.mul_assoc, ← Int.add_mul, Int.mul_ediv_cancel _ (by omega)]


/-- the hand-written model of `date_range` on a pair of dates: `Dates.dateRange` in ticks of the finer of the two units
(after the cast of the coarse units to seconds), every element brought back — exactly — to the unit of `start`, in which
numpy returns it, and rendered -/
def modelRange {ρ : Type} (dv : DivVariant) (toSec : TUnit → Int → Int) (render : TUnit → Option Int → ρ)
    (a b : Stamp) (num : Nat) : List ρ :=
  let a' := fine toSec a
  let b' := fine toSec b
  let p1 := perSecOf a'.1
  let p2 := perSecOf b'.1
  let pf := max p1 p2
  (dateRange dv.div pf (a'.2 * (pf / p1)) (b'.2 * (pf / p2)) num).map (fun o => render a'.1 (o.map (· / (pf / p1))))

/-- for the divisor `dv` that the generated text shows -/
theorem date_range_of {ρ : Type} (dv : DivVariant) (h : divSeen Gen.date_range_seq = some dv)
    (toSec : TUnit → Int → Int) (render : TUnit → Option Int → ρ) (a b : Stamp) (num : Nat) :
    dateRangeSeq toSec render (.seq [a, b]) num = some (some (modelRange dv toSec render a b num)) := by
  obtain ⟨hd, hk⟩ := perSec_dvd (fine toSec a).1 (fine toSec b).1
  rw [run_pair dv h, drangeTicks_eq dv.div _ _ _ _ num hd hk]
  simp [modelRange, List.map_map, Function.comp_def]

/-- **the interpretation of the generated statement sequence of `date_range` is the hand-written `Dates.dateRange`**,
with the divisor that the generated text shows (`max(num - 1, 1)`: `Dates.divisor`; `num - 1`: `Dates.divisorOld`):
on a pair of dates it returns `modelRange`; a single date (a string, or an object without `__len__`) is the pair of
that date twice; a sequence of another length raises.  No hypothesis on the dates, on `num`, on the cast `toSec` of the
coarse units or on the renderer. -/
theorem date_range :
    ∃ dv, divSeen Gen.date_range_seq = some dv ∧
      ∀ {ρ : Type} (toSec : TUnit → Int → Int) (render : TUnit → Option Int → ρ) (num : Nat),
        (∀ a b, dateRangeSeq toSec render (.seq [a, b]) num = some (some (modelRange dv toSec render a b num))) ∧
        (∀ d, dateRangeSeq toSec render (.str d) num = some (some (modelRange dv toSec render d d num))) ∧
        (∀ d, dateRangeSeq toSec render (.scalar d) num = some (some (modelRange dv toSec render d d num))) ∧
        (∀ ds, ds.length ≠ 2 → dateRangeSeq toSec render (.seq ds) num = some none) := by
  obtain ⟨dv, h⟩ := div_seen
  refine ⟨dv, h, fun toSec render num => ⟨fun a b => date_range_of dv h toSec render a b num, fun d => ?_, fun d => ?_,
    fun ds h2 => run_not_two toSec render ds num h2⟩⟩
  · rw [run_str, date_range_of dv h]
  · rw [run_scalar, date_range_of dv h]

/-! ### corollaries in the model's own terms -/

theorem perSecOf_pos (u : TUnit) : 0 < perSecOf u := by cases u <;> decide

/-- both dates have the same unit `u` after the cast (the usual case: two strings of the same format): the result is
`Dates.dateRange` with `perSec` of that unit, on the ticks as they are -/
theorem date_range_same_unit {ρ : Type} (dv : DivVariant) (h : divSeen Gen.date_range_seq = some dv)
    (toSec : TUnit → Int → Int) (render : TUnit → Option Int → ρ) (a b : Stamp) (num : Nat) (u : TUnit)
    (ha : (fine toSec a).1 = u) (hb : (fine toSec b).1 = u) :
    dateRangeSeq toSec render (.seq [a, b]) num =
      some (some ((dateRange dv.div (perSecOf u) (fine toSec a).2 (fine toSec b).2 num).map (render u))) := by
  have hp := perSecOf_pos u
  have h1 : perSecOf u / perSecOf u = 1 := Int.ediv_self (by omega)
  rw [date_range_of dv h]
  simp [modelRange, ha, hb, Int.max_self, h1]

/-- both dates in seconds or coarser (the model's `perSec = 1`) -/
theorem date_range_seconds {ρ : Type} (dv : DivVariant) (h : divSeen Gen.date_range_seq = some dv)
    (toSec : TUnit → Int → Int) (render : TUnit → Option Int → ρ) (a b : Stamp) (num : Nat)
    (ha : isCoarse a.1 = true ∨ a.1 = .s) (hb : isCoarse b.1 = true ∨ b.1 = .s) :
    dateRangeSeq toSec render (.seq [a, b]) num =
      some (some ((dateRange dv.div 1 (fine toSec a).2 (fine toSec b).2 num).map (render .s))) := by
  have fs : ∀ d : Stamp, (isCoarse d.1 = true ∨ d.1 = .s) → (fine toSec d).1 = .s := by
    intro d hd
    obtain ⟨u, t⟩ := d
    cases u <;> simp [fine, isCoarse] at hd ⊢
  exact date_range_same_unit dv h toSec render a b num .s (fs a ha) (fs b hb)

/-- a single date with the divisor `max(num - 1, 1)`: that date (cast to seconds when coarse) for every particle -/
theorem date_range_single {ρ : Type} (h : divSeen Gen.date_range_seq = some .maxOne)
    (toSec : TUnit → Int → Int) (render : TUnit → Option Int → ρ) (d : Stamp) (num : Nat) :
    dateRangeSeq toSec render (.scalar d) num =
      some (some (List.replicate num (render (fine toSec d).1 (some (fine toSec d).2)))) := by
  rw [run_scalar, date_range_same_unit .maxOne h toSec render d d num _ rfl rfl]
  have hz : ∀ i : Nat, releaseTime divisor (perSecOf (fine toSec d).1) (fine toSec d).2 (fine toSec d).2 num i
      = some (fine toSec d).2 := by
    intro i
    have hne : divisor num ≠ 0 := by unfold divisor; omega
    simp [releaseTime, tdivNaT, spanSeconds, hne]
  have hf : releaseTime divisor (perSecOf (fine toSec d).1) (fine toSec d).2 (fine toSec d).2 num
      = fun _ => some (fine toSec d).2 := funext hz
  simp [dateRange, DivVariant.div, hf, Function.comp_def, List.map_const']

/-- the numpy renderer at seconds is the model's `renderISO` -/
theorem renderStamp_seconds (t : Int) : renderStamp .s (some t) = renderISO t := rfl


/-- the same as a disjunction over the two divisors -/
theorem date_range_or :
    (∀ {ρ : Type} (toSec : TUnit → Int → Int) (render : TUnit → Option Int → ρ) (a b : Stamp) (num : Nat),
        dateRangeSeq toSec render (.seq [a, b]) num = some (some (modelRange .maxOne toSec render a b num))) ∨
    (∀ {ρ : Type} (toSec : TUnit → Int → Int) (render : TUnit → Option Int → ρ) (a b : Stamp) (num : Nat),
        dateRangeSeq toSec render (.seq [a, b]) num = some (some (modelRange .plain toSec render a b num))) := by
  obtain ⟨dv, h⟩ := div_seen
  cases dv
  · exact Or.inl (fun toSec render a b num => date_range_of _ h toSec render a b num)
  · exact Or.inr (fun toSec render a b num => date_range_of _ h toSec render a b num)

/-! non-vacuity (numpy meaning of the parameters; the values are those of the Python function) -/
section examples
/-- two days given as dates (unit `D`), three particles -/
example : dateRangeSeq coarseToSec renderStamp (.seq [(.D, 10957), (.D, 10958)]) 3 =
    some (some ["2000-01-01T00:00:00", "2000-01-01T12:00:00", "2000-01-02T00:00:00"]) := by
  obtain ⟨dv, h⟩ := div_seen
  rw [run_pair dv h]
  cases dv <;> decide +kernel
/-- a reversed span of 1.5 s in milliseconds: `dt` is floored to -2 s (not truncated to -1 s) -/
example : dateRangeSeq coarseToSec (fun u t => (u, t)) (.seq [(.ms, 1500), (.ms, 0)]) 3 =
    some (some [(.ms, some 1500), (.ms, some 500), (.ms, some (-500))]) := by
  obtain ⟨dv, h⟩ := div_seen
  rw [run_pair dv h]
  cases dv <;> decide
/-- `stop` finer than `start`: the result has the unit of `start` -/
example : dateRangeSeq coarseToSec (fun u t => (u, t)) (.seq [(.D, 0), (.ms, 1500)]) 3 =
    some (some [(.s, some 0), (.s, some 0), (.s, some 1)]) := by
  obtain ⟨dv, h⟩ := div_seen
  rw [run_pair dv h]
  cases dv <;> decide
/-- a single date, one particle -/
example : dateRangeSeq coarseToSec renderStamp (.str (.D, 10957)) 1 = some (some ["2000-01-01T00:00:00"]) := by
  obtain ⟨dv, h⟩ := div_seen
  rw [run_str, run_pair dv h]
  simp only [divSeen, Gen.date_range_seq, List.findSome?_cons_of_isSome, List.findSome?_cons_of_isNone,
    divOfText.eq_def, String.reduceEq, ↓reduceIte, imp_self, Option.isNone_none, Option.isSome_some,
    Option.some.injEq] at h
  subst h
  decide +kernel
end examples

end Bridge
