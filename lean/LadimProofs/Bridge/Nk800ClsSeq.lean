import LadimModel.Forcing.Nk800ClsSeq
import LadimProofs.C13Buffer
import LadimProofs.Bridge.NkSeq
/-!
# Bridge (C13) — the classes of `nk800met/gridforce.py`: `Buffer`, `OnlineDatabase`, `Grid`, `Forcing`

The generated statement sequences, interpreted by `LadimModel/Forcing/Nk800ClsSeq.lean` (strict runner `nkcRun`: every
statement, condition and `return` text must be a known one; an `if` condition is evaluated once per block), are the
functions of the hand-written model `LadimModel/Forcing/Nk800.lean`:

* `nk_buffer_ctor` = `Buffer.empty`; `nk_buffer_prune`, `nk_buffer_push` = `Buffer.prune`, `Buffer.push` **on keyed
  buffers** (`nkcKeyed`: every key of `buf` has a frame tag in `fidx`); on a buffer that is not keyed the code raises
  `KeyError` (`self.fidx[k]`) where the model drops the entry (`nk_prune_unkeyed_example`).  `nkcKeyed_empty`,
  `nkcKeyed_push`, `nkcKeyed_prune`: every buffer made by `Buffer()` and `push` is keyed.  `nk_buffer_getitem` =
  `Buffer.get?`, `nk_buffer_contains` = `Buffer.contains` (no hypotheses).
* `C13Buffer` on the interpreted class: `nk_buffer_push_served` (after `push(k, v, frame)`: `k in buffer`,
  `buffer[k] = v`), `nk_buffer_history` (`Buffer()` + any history of `push`es = the model's history, never raises, two
  live frames), `nk_buffer_prune_live` (after `prune` every entry carries a live frame tag).
* `nk_get_dset` = `Nk800.getVar` (key = formatted file name, value = `nc.Dataset(name)`, frame = day string) on keyed
  buffers; `nk_get_dset_gen` all outcomes; `nk_get_dset_valid` (`C13.getVar_transparent` on the interpreted method).
* `nk_request_dset`: sequential effect of the worker thread (the interleaving is not modelled).
* `nk_db_ctor`, `nk_db_close`, `nk_db_close_twice`, `nk_db_del`, `nk_forcing_close`.
* `Grid`: `nk_init_gridlimits`, `nk_ingrid` (+ `nk_ingrid_iff` over an ordered field), `nk_grid_z2k` / `nk_forcing_z2k`
  = `Ladim.interp depth (0 … n-1)` (+ `nk_z2k_clamps_left`, `nk_z2k_first`), `nk_ll2xy` (+ `nk_ll2xy_grid`),
  `nk_atsea` (+ `nk_atsea_grid`), `nk_init_proj` — self-contained closed forms (the model has no such functions; `z2k`
  is the model's `interp`).
* constructors: `nk_grid_ctor`, `nk_grid_ctor_no_gridforce`, `nk_grid_ctor_no_start`, `nk_forcing_ctor`,
  `nk_forcing_ctor_no_time` (closed forms), `nk_grid_ctor_full` (every callee interpreted).
-/
open Ladim Ladim.Seq Ladim.Nk800

set_option linter.unusedSimpArgs false
set_option linter.unusedVariables false
set_option linter.unusedSectionVars false
set_option linter.auxLemma false
namespace Bridge

theorem nkcCall_some {σ R : Type} (r : Option R) (k : R → σ) : nkcCall (some r) k = some (r.map k) := by
  cases r <;> rfl

section runner
variable {σ : Type}

/-- one unguarded statement of `nkcGo` -/
theorem nkcGo_plain (atom : σ → String → Option (Option Bool)) (step : σ → String → String → Option (Option σ))
    (k t : String) (rest : List Stmt) (op : List (String × Bool)) (s : σ) :
    nkcGo atom step (([], k, t) :: rest) op s =
      Run.fnThen (step s k t) (if rest.all (nkcKnown atom step s) then some none else none) fun s' =>
        if k = "return" then (if rest.all (nkcKnown atom step s') then some (some s') else none)
        else nkcGo atom step rest [] s' := by
  rw [nkcGo]
  rcases h : step s k t with _ | _ | s' <;> simp [nkcKnown, nkcGuard, Run.fnThen, h]

theorem nkcGo_nil (atom : σ → String → Option (Option Bool)) (step : σ → String → String → Option (Option σ))
    (op : List (String × Bool)) (s : σ) : nkcGo atom step [] op s = some (some s) := by
  rw [nkcGo]

end runner

/-! ### class `Buffer` -/

section
variable {κ ν φ : Type} [DecidableEq κ] [DecidableEq φ]

/-- `Buffer()`: two empty frame slots, two empty dicts -/
theorem nk_buffer_ctor : (nkcBufferCtorSeq : Option (Option (Buffer κ ν φ))) = some (some Buffer.empty) := by
  simp [nkcBufferCtorSeq, Gen.nk_buffer_ctor_seq, nkcRun, nkcGo, nkcKnown, nkcGuard, nkcNoAtom, nkcBufCtorStep,
    nkcNeed, returned, NkcBufCtorSt.obj, Buffer.empty, List.replicate]

theorem nkcFilterRaise_eq {β γ : Type} (q : β → Option γ) (g : γ → Bool) (l : List β) :
    nkcFilterRaise (fun x => (q x).map g) l
      = if l.all (fun x => (q x).isSome) then
          some (l.filter (fun x => match q x with | some f => g f | none => false))
        else none := by
  induction l with
  | nil => rfl
  | cons x xs ih =>
    unfold nkcFilterRaise
    rw [ih]
    cases hx : q x with
    | none => simp [hx]
    | some f =>
      by_cases hall : xs.all (fun x => (q x).isSome) = true
      · cases hg : g f <;> simp [hx, hall, hg, List.filter_cons]
      · simp [hx, hall]

theorem nk_buffer_prune (b : Buffer κ ν φ) :
    nkcPruneSeq b = some (if nkcKeyed b then some b.prune else none) := by
  have h := nkcFilterRaise_eq (fun kv : κ × ν => lookup b.fidx kv.1) (fun f => b.fidxList.contains (some f)) b.buf
  simp only [List.contains_eq_mem] at h
  by_cases hk : nkcKeyed b = true
  · have hk' := hk
    unfold nkcKeyed at hk'
    rw [if_pos hk'] at h
    simp [nkcPruneSeq, Gen.nk_buffer_prune_seq, nkcRun, nkcGo, nkcKnown, nkcGuard, nkcNoAtom, nkcPruneStep, h, hk,
      Buffer.prune]
    rfl
  · have hk' := hk
    unfold nkcKeyed at hk'
    rw [if_neg hk'] at h
    simp [nkcPruneSeq, Gen.nk_buffer_prune_seq, nkcRun, nkcGo, nkcKnown, nkcGuard, nkcNoAtom, nkcPruneStep, h, hk]


/-- a buffer that is not keyed (it cannot arise from `Buffer()` and `push`): the code raises, the model's `prune` drops
the entry silently -/
theorem nk_prune_unkeyed_example :
    nkcPruneSeq (⟨[none, none], [("a", 1)], []⟩ : Buffer String Nat String) = some none ∧
    (⟨[none, none], [("a", 1)], []⟩ : Buffer String Nat String).prune = ⟨[none, none], [], []⟩ := by
  constructor
  · rw [nk_buffer_prune]; rfl
  · rfl

theorem nkcKeyed_fidxList (b : Buffer κ ν φ) (l : List (Option φ)) :
    nkcKeyed ({ b with fidxList := l } : Buffer κ ν φ) = nkcKeyed b := rfl

theorem nk_buffer_push (b : Buffer κ ν φ) (k : κ) (v : ν) (f : φ) :
    nkcPushSeq b k v f
      = some (if b.fidxList.contains (some f) || nkcKeyed b then some (b.push k v f) else none) := by
  have hcallee : (nkcPruneSeq : Buffer κ ν φ → _) = fun b => some (if nkcKeyed b then some b.prune else none) := by
    funext b; exact nk_buffer_prune b
  unfold nkcPushSeq
  rw [hcallee]
  cases hc : b.fidxList.contains (some f)
  · have hc' : ¬ some f ∈ b.fidxList := by simpa using hc
    cases hk : nkcKeyed b
    · simp [nkcPushWith, Gen.nk_buffer_push_seq, nkcRun, nkcGo, nkcKnown, nkcGuard, nkcPushAtom, nkcPushStep, hc, hc',
        hk, nkcKeyed_fidxList]
    · simp [nkcPushWith, Gen.nk_buffer_push_seq, nkcRun, nkcGo, nkcKnown, nkcGuard, nkcPushAtom, nkcPushStep, hc, hc',
        hk, nkcKeyed_fidxList, Buffer.push]
  · have hc' : some f ∈ b.fidxList := by simpa using hc
    simp [nkcPushWith, Gen.nk_buffer_push_seq, nkcRun, nkcGo, nkcKnown, nkcGuard, nkcPushAtom, nkcPushStep, hc, hc',
      Buffer.push]


theorem nk_buffer_getitem (b : Buffer κ ν φ) (item : κ) : nkcGetitemSeq b item = some (b.get? item) := by
  cases h : lookup b.buf item <;>
  simp [nkcGetitemSeq, Gen.nk_buffer_getitem_seq, nkcRun, nkcGo, nkcKnown, nkcGuard, nkcNoAtom, nkcGetitemStep,
    returned, Buffer.get?, h]

theorem nk_buffer_contains (b : Buffer κ ν φ) (item : κ) :
    nkcContainsSeq b item = some (some (b.contains item)) := by
  simp [nkcContainsSeq, Gen.nk_buffer_contains_seq, nkcRun, nkcGo, nkcKnown, nkcGuard, nkcNoAtom, nkcContainsStep,
    returned, Buffer.contains]

/-! #### the invariant under which `prune` does not raise -/

theorem nkcKeyed_iff (b : Buffer κ ν φ) :
    nkcKeyed b = true ↔ ∀ kv ∈ b.buf, ∃ f, lookup b.fidx kv.1 = some f := by
  unfold nkcKeyed
  rw [List.all_eq_true]
  constructor
  · intro h kv hkv; exact Option.isSome_iff_exists.mp (h kv hkv)
  · intro h kv hkv; exact Option.isSome_iff_exists.mpr (h kv hkv)

theorem nkcKeyed_empty : nkcKeyed (Buffer.empty : Buffer κ ν φ) = true := rfl

theorem nkc_lookup_filter_of {β : Type} (l : List (κ × β)) (p : κ × β → Bool) (k : κ) (f : β)
    (h : lookup l k = some f) (hp : p (k, f) = true) : lookup (l.filter p) k = some f := by
  induction l with
  | nil => simp [C13.lookup_nil] at h
  | cons q l ih =>
    rw [C13.lookup_cons] at h
    by_cases hq : q.1 = k
    · rw [if_pos hq] at h
      have hqe : q = (k, f) := by
        cases q; simp only [Option.some.injEq] at h hq; subst h; subst hq; rfl
      rw [hqe, List.filter_cons, if_pos hp, C13.lookup_cons, if_pos rfl]
    · rw [if_neg hq] at h
      rw [List.filter_cons]
      split
      · rw [C13.lookup_cons, if_neg hq]; exact ih h
      · exact ih h

/-- after `prune` every entry has a frame tag, and the tag is one of the live ones -/
theorem nkc_prune_entries_live (b : Buffer κ ν φ) :
    ∀ kv ∈ b.prune.buf, ∃ f, lookup b.prune.fidx kv.1 = some f ∧ some f ∈ b.prune.fidxList := by
  intro kv hkv
  have hm := List.mem_filter.mp hkv
  cases hl : lookup b.fidx kv.1 with
  | none => have := hm.2; simp [hl] at this
  | some f =>
    have hc : b.fidxList.contains (some f) = true := by have := hm.2; simpa [hl] using this
    refine ⟨f, ?_, ?_⟩
    · exact nkc_lookup_filter_of b.fidx _ kv.1 f hl hc
    · show some f ∈ b.fidxList
      simpa using hc

theorem nkcKeyed_prune (b : Buffer κ ν φ) : nkcKeyed b.prune = true := by
  rw [nkcKeyed_iff]
  intro kv hkv
  obtain ⟨f, hf, _⟩ := nkc_prune_entries_live b kv hkv
  exact ⟨f, hf⟩

theorem nkc_mem_assign_key {β : Type} (l : List (κ × β)) (k : κ) (v : β) (q : κ × β) (hq : q ∈ assign l k v) :
    q.1 = k ∨ ∃ q' ∈ l, q'.1 = q.1 := by
  unfold assign at hq
  split at hq
  · obtain ⟨q', hq', e⟩ := List.mem_map.mp hq
    by_cases hk : q'.1 = k
    · left; simp [hk] at e; rw [← e]
    · right; simp [hk] at e; exact ⟨q', hq', by rw [e]⟩
  · rcases List.mem_append.mp hq with h | h
    · right; exact ⟨q, h, rfl⟩
    · left; simp at h; rw [h]

theorem nkcKeyed_prePush (b : Buffer κ ν φ) (f : φ) (h : nkcKeyed b = true) : nkcKeyed (C13.prePush b f) = true := by
  unfold C13.prePush
  split
  · exact h
  · exact nkcKeyed_prune _

theorem nkcKeyed_push (b : Buffer κ ν φ) (k : κ) (v : ν) (f : φ) (h : nkcKeyed b = true) :
    nkcKeyed (b.push k v f) = true := by
  have hp := (nkcKeyed_iff _).mp (nkcKeyed_prePush b f h)
  rw [C13.push_eq, nkcKeyed_iff]
  intro kv hkv
  show ∃ g, lookup (assign (C13.prePush b f).fidx k f) kv.1 = some g
  by_cases hk : kv.1 = k
  · exact ⟨f, by rw [hk]; exact C13.lookup_assign_self _ k f⟩
  · rw [C13.lookup_assign_other _ k kv.1 f hk]
    rcases nkc_mem_assign_key _ k v kv hkv with h1 | ⟨q', hq', e⟩
    · exact absurd h1 hk
    · rw [← e]; exact hp q' hq'


/-! #### `C13Buffer` on the interpreted class -/

/-- on a keyed buffer (every buffer built by `Buffer()` and `push` is one) the interpreted `push` does not raise and is
the `push` of the model; afterwards the key is in the buffer and is served with the value pushed; keyed again -/
theorem nk_buffer_push_served (b : Buffer κ ν φ) (k : κ) (v : ν) (f : φ) (h : nkcKeyed b = true) :
    nkcPushSeq b k v f = some (some (b.push k v f)) ∧
    nkcContainsSeq (b.push k v f) k = some (some true) ∧
    nkcGetitemSeq (b.push k v f) k = some (some v) ∧
    nkcKeyed (b.push k v f) = true := by
  refine ⟨?_, ?_, ?_, nkcKeyed_push b k v f h⟩
  · rw [nk_buffer_push, h]; simp
  · rw [nk_buffer_contains, (C13.contains_iff _ k).mpr ⟨v, C13.get_push_self b k v f⟩]
  · rw [nk_buffer_getitem, C13.get_push_self]

/-- a history of `push`es on the interpreted class -/
def nkcPushAll : Buffer κ ν φ → List (κ × ν × φ) → Option (Option (Buffer κ ν φ))
  | b, [] => some (some b)
  | b, r :: rest =>
    match nkcPushSeq b r.1 r.2.1 r.2.2 with
    | some (some b') => nkcPushAll b' rest
    | o => o

theorem nkcPushAll_keyed (reqs : List (κ × ν × φ)) (b : Buffer κ ν φ) (h : nkcKeyed b = true) :
    nkcPushAll b reqs = some (some (reqs.foldl (fun b r => b.push r.1 r.2.1 r.2.2) b)) ∧
    nkcKeyed (reqs.foldl (fun b r => b.push r.1 r.2.1 r.2.2) b) = true := by
  induction reqs generalizing b with
  | nil => exact ⟨rfl, h⟩
  | cons r rest ih =>
    obtain ⟨h1, _, _, h4⟩ := nk_buffer_push_served b r.1 r.2.1 r.2.2 h
    rw [nkcPushAll, h1, List.foldl_cons]
    exact ih _ h4

theorem nkc_foldl_push_two_frames (reqs : List (κ × ν × φ)) (b : Buffer κ ν φ) (h : b.fidxList.length = 2) :
    (reqs.foldl (fun b r => b.push r.1 r.2.1 r.2.2) b).fidxList.length = 2 := by
  induction reqs generalizing b with
  | nil => exact h
  | cons r rest ih => rw [List.foldl_cons]; exact ih _ (C13.push_two_live_frames b r.1 r.2.1 r.2.2 h)

/-- FULL STATEMENT (capacity, on the code's statement sequences): `Buffer()` followed by any history of `push`es, all
interpreted from the generated sequences, never raises, is the history of the model's `push` from `Buffer.empty`, and
has exactly two live frame tags -/
theorem nk_buffer_history (reqs : List (κ × ν × φ)) :
    ∃ b0 : Buffer κ ν φ, nkcBufferCtorSeq = some (some b0) ∧
      nkcPushAll b0 reqs = some (some (reqs.foldl (fun b r => b.push r.1 r.2.1 r.2.2) Buffer.empty)) ∧
      (reqs.foldl (fun b r => b.push r.1 r.2.1 r.2.2) (Buffer.empty : Buffer κ ν φ)).fidxList.length = 2 :=
  ⟨Buffer.empty, nk_buffer_ctor, (nkcPushAll_keyed reqs _ nkcKeyed_empty).1,
    nkc_foldl_push_two_frames reqs _ C13.empty_live_frames⟩

/-- eviction: the interpreted `prune` (on a keyed buffer) keeps only entries whose frame tag is one of the live ones -/
theorem nk_buffer_prune_live (b : Buffer κ ν φ) (h : nkcKeyed b = true) :
    ∃ b', nkcPruneSeq b = some (some b') ∧
      ∀ kv ∈ b'.buf, ∃ f, lookup b'.fidx kv.1 = some f ∧ some f ∈ b'.fidxList := by
  refine ⟨b.prune, ?_, nkc_prune_entries_live b⟩
  rw [nk_buffer_prune, h]; rfl

end

/-! ### `OnlineDatabase.get_dset` -/

section
variable {κ D φ : Type} [DecidableEq κ] [DecidableEq φ]

/-- closed form of the run of `get_dset` for callees that are known functions (`pushF … = none`: `push` raises) -/
theorem nkcGetDsetWith_eq (contF : Buffer κ D φ → κ → Bool)
    (pushF : Buffer κ D φ → κ → D → φ → Option (Buffer κ D φ)) (getF : Buffer κ D φ → κ → Option D)
    (fmt : Int → κ) (dayStr : Int → φ) (openDs : κ → D) (b : Buffer κ D φ) (day : Int) :
    nkcGetDsetWith (fun b k => some (some (contF b k))) (fun b k v f => some (pushF b k v f))
        (fun b k => some (getF b k)) fmt dayStr openDs b day
      = some (if contF b (fmt day) then some (b, getF b (fmt day), false)
              else (pushF b (fmt day) (openDs (fmt day)) (dayStr day)).map
                (fun b' => (b', getF b' (fmt day), true))) := by
  cases hc : contF b (fmt day)
  · cases hp : pushF b (fmt day) (openDs (fmt day)) (dayStr day)
    · simp [nkcGetDsetWith, Gen.nk_get_dset_seq, nkcRun, nkcGo, nkcKnown, nkcGuard, nkcDsAtom, nkcDsStep, nkcNeed,
        nkcCall_some, returned, hc, hp]
    · simp [nkcGetDsetWith, Gen.nk_get_dset_seq, nkcRun, nkcGo, nkcKnown, nkcGuard, nkcDsAtom, nkcDsStep, nkcNeed,
        nkcCall_some, returned, hc, hp]
  · simp [nkcGetDsetWith, Gen.nk_get_dset_seq, nkcRun, nkcGo, nkcKnown, nkcGuard, nkcDsAtom, nkcDsStep, nkcNeed,
        nkcCall_some, returned, hc]

/-- `get_dset` with the three interpreted `Buffer` methods, all outcomes: it raises exactly when the file is not in
the buffer, its day is a new frame and the buffer is not keyed (the `KeyError` of `prune`) -/
theorem nk_get_dset_gen (fmt : Int → κ) (dayStr : Int → φ) (openDs : κ → D) (b : Buffer κ D φ) (day : Int) :
    nkcGetDsetSeq fmt dayStr openDs b day
      = some (if b.contains (fmt day) || (b.fidxList.contains (some (dayStr day)) || nkcKeyed b) then
                some (getVar openDs (fun _ => dayStr day) b (fmt day))
              else none) := by
  have h1 : (nkcContainsSeq : Buffer κ D φ → κ → _) = fun b k => some (some (b.contains k)) := by
    funext b k; exact nk_buffer_contains b k
  have h2 : (nkcPushSeq : Buffer κ D φ → κ → D → φ → _)
      = fun b k v f => some (if b.fidxList.contains (some f) || nkcKeyed b then some (b.push k v f) else none) := by
    funext b k v f; exact nk_buffer_push b k v f
  have h3 : (nkcGetitemSeq : Buffer κ D φ → κ → _) = fun b k => some (b.get? k) := by
    funext b k; exact nk_buffer_getitem b k
  unfold nkcGetDsetSeq
  rw [h1, h2, h3, nkcGetDsetWith_eq]
  unfold getVar
  cases hc : b.contains (fmt day)
  · cases hp : (b.fidxList.contains (some (dayStr day)) || nkcKeyed b) <;> simp [hc, hp]
  · simp [hc]

/-- **`get_dset`** is `Nk800.getVar` on the buffer of open data sets: key = the formatted file name, value =
`nc.Dataset(name)`, frame tag = the day string.  Hypothesis: the buffer is keyed (true from `Buffer()` on). -/
theorem nk_get_dset (fmt : Int → κ) (dayStr : Int → φ) (openDs : κ → D) (b : Buffer κ D φ) (day : Int)
    (h : nkcKeyed b = true) :
    nkcGetDsetSeq fmt dayStr openDs b day = some (some (getVar openDs (fun _ => dayStr day) b (fmt day))) ∧
    nkcKeyed (getVar openDs (fun _ => dayStr day) b (fmt day)).1 = true := by
  constructor
  · rw [nk_get_dset_gen, h]; simp
  · unfold getVar
    split
    · exact h
    · exact nkcKeyed_push _ _ _ _ h

/-- on a valid keyed buffer `get_dset` returns the data set of the file of that day, opened at most once while it stays
in the buffer (`C13.getVar_transparent`) -/
theorem nk_get_dset_valid (fmt : Int → κ) (dayStr : Int → φ) (openDs : κ → D) (b : Buffer κ D φ) (day : Int)
    (h : nkcKeyed b = true) (hv : C13.Valid openDs b) :
    ∃ b' opened, nkcGetDsetSeq fmt dayStr openDs b day = some (some (b', some (openDs (fmt day)), opened)) ∧
      opened = !b.contains (fmt day) ∧ nkcKeyed b' = true ∧ C13.Valid openDs b' := by
  obtain ⟨h1, h2⟩ := nk_get_dset fmt dayStr openDs b day h
  obtain ⟨h3, h4⟩ := C13.getVar_transparent openDs (fun _ => dayStr day) b (fmt day) hv
  have h5 := C13.getVar_reads_iff_miss openDs (fun _ => dayStr day) b (fmt day)
  refine ⟨(getVar openDs (fun _ => dayStr day) b (fmt day)).1, (getVar openDs (fun _ => dayStr day) b (fmt day)).2.2,
    ?_, h5, h2, h4⟩
  rw [h1, ← h3]

end

/-! ### `OnlineDatabase.request_dset` -/

section
variable {B D : Type}

theorem nk_request_body :
    nkcDefBody "request" Gen.nk_request_dset_seq = [([], "return", "when_finished(self.get_dset(time))")] := by
  decide

/-- **`request_dset`**, the worker thread run to completion at `th.start()` (the interleaving is not modelled): the
sequential effect is one `get_dset(time)` on the database and one call of `when_finished` with the data set; the started
thread is returned.  If `get_dset` raises (`g db = none`) the thread dies, the callback is not called, and the caller
does not notice. -/
theorem nk_request_dset (g : B → Option (B × D)) (db : B) :
    nkcRequestDsetSeq (fun b => some (g b)) db
      = some (some (match g db with
                    | some r => ⟨r.1, true, true, true, false, [r.2], true⟩
                    | none => ⟨db, true, true, true, true, [], true⟩)) := by
  unfold nkcRequestDsetSeq
  rw [nk_request_body]
  cases h : g db <;>
  simp [Gen.nk_request_dset_seq, nkcRun, nkcGo, nkcKnown, nkcGuard, nkcNoAtom, nkcReqAtom, nkcReqStep, nkcReqBodyStep,
    nkcCall_some, h]

end

/-! ### `OnlineDatabase.__init__`, `close`, `__del__` -/

section
variable {κ D φ κ' ν' φ' : Type} [DecidableEq κ] [DecidableEq φ] [DecidableEq κ'] [DecidableEq φ']

/-- `pattern or self.default_database` -/
def nkcPatternOr (pattern : Option String) (dflt : String) : String :=
  match pattern with
  | none => dflt
  | some p => if p = "" then dflt else p

/-- **`OnlineDatabase(pattern)`**: two empty buffers; the pattern is the default one for `None` and for `''` -/
theorem nk_db_ctor (pattern : Option String) (dflt : String) :
    (nkcDbCtorSeq pattern dflt : Option (Option (NkcDb κ D φ (Buffer κ' ν' φ'))))
      = some (some ⟨some Buffer.empty, Buffer.empty, nkcPatternOr pattern dflt⟩) := by
  unfold nkcDbCtorSeq
  rw [nk_buffer_ctor, nk_buffer_ctor]
  simp [nkcDbCtorWith, Gen.nk_db_ctor_seq, nkcRun, nkcGo, nkcKnown, nkcGuard, nkcNoAtom, nkcDbCtorStep, nkcCall,
    returned, NkcDbCtorSt.obj, nkcPatternOr]
  rfl

end

section
variable {κ D φ V : Type}
open Loops

def nkcCloseHdr : String := "for dset in self._dset_buf.buf.values()"
def nkcCloseBody : List Stmt := [([(true, nkcCloseHdr)], "expr", "dset.close()")]

theorem nkcClose_loop (b : Buffer κ D φ) :
    ∀ (m i : Nat) (s : NkcCloseSt κ D φ V), s.db.dsetBuf = some b → i + m = b.buf.length →
      ∃ d, iterate (fun s i => runBody nkcCloseI nkcCloseBody (nkcCloseI.bind s nkcCloseHdr i)) m i s
        = some (some ⟨s.db, d, s.closed ++ (b.buf.drop i).map (·.2)⟩) := by
  intro m
  induction m with
  | zero =>
    intro i s hs him
    refine ⟨s.dset, ?_⟩
    have : b.buf.drop i = [] := List.drop_eq_nil_of_le (by omega)
    rw [this]; simp [iterate]
  | succ m ih =>
    intro i s hs him
    have hi : i < b.buf.length := by omega
    have h1 : runBody nkcCloseI nkcCloseBody (nkcCloseI.bind s nkcCloseHdr i)
        = some (some ⟨s.db, some b.buf[i].2, s.closed ++ [b.buf[i].2]⟩) := by
      simp [runBody, nkcCloseBody, nkcCloseHdr, guardEnter, nkcCloseI, hs, hi]
    obtain ⟨d, h2⟩ := ih (i + 1) ⟨s.db, some b.buf[i].2, s.closed ++ [b.buf[i].2]⟩ hs (by omega)
    refine ⟨d, ?_⟩
    simp only [iterate, h1]
    rw [h2, List.drop_eq_getElem_cons hi]
    simp only [List.map_cons, List.append_assoc, List.singleton_append]

/-- **`close()`** on an open database: every data set of the buffer is closed, in the order of the dict, and
`_dset_buf` is `None` afterwards (`_vars_buf` and `pattern` stay) -/
theorem nk_db_close (db : NkcDb κ D φ V) (b : Buffer κ D φ) (h : db.dsetBuf = some b) :
    nkcDbCloseSeq db = some (some ({ db with dsetBuf := none }, b.buf.map (·.2))) := by
  have hrun : Loops.run nkcCloseI Gen.nk_db_close_seq (⟨db, none, []⟩ : NkcCloseSt κ D φ V)
      = runBlocks nkcCloseI [.loop nkcCloseHdr nkcCloseBody, .plain ([], "assign", "self._dset_buf = None")]
          ⟨db, none, []⟩ := rfl
  have hg : outerGuard (nkcCloseI (κ := κ) (D := D) (φ := φ) (V := V)).isLoop nkcCloseBody = [] := rfl
  have ht : (nkcCloseI.trips (⟨db, none, []⟩ : NkcCloseSt κ D φ V) nkcCloseHdr) = b.buf.length := by
    simp [nkcCloseI, h]
  obtain ⟨d, hl⟩ := nkcClose_loop (V := V) b b.buf.length 0 ⟨db, none, []⟩ h (by omega)
  unfold nkcDbCloseSeq
  rw [hrun]
  simp only [runBlocks, hg, guardEnter, ht, hl]
  simp [nkcCloseI]

/-- a second `close()` (what `__del__` does after an explicit `close()`) raises: `None.buf` -/
theorem nk_db_close_twice (db : NkcDb κ D φ V) (h : db.dsetBuf = none) : nkcDbCloseSeq db = some none := by
  have hrun : Loops.run nkcCloseI Gen.nk_db_close_seq (⟨db, none, []⟩ : NkcCloseSt κ D φ V)
      = runBlocks nkcCloseI [.loop nkcCloseHdr nkcCloseBody, .plain ([], "assign", "self._dset_buf = None")]
          ⟨db, none, []⟩ := rfl
  have hg : outerGuard (nkcCloseI (κ := κ) (D := D) (φ := φ) (V := V)).isLoop nkcCloseBody = [] := rfl
  have ht : (nkcCloseI.trips (⟨db, none, []⟩ : NkcCloseSt κ D φ V) nkcCloseHdr) = 1 := by
    simp [nkcCloseI, h]
  have h1 : runBody nkcCloseI nkcCloseBody (nkcCloseI.bind (⟨db, none, []⟩ : NkcCloseSt κ D φ V) nkcCloseHdr 0)
      = some none := by
    simp [runBody, nkcCloseBody, nkcCloseHdr, guardEnter, nkcCloseI, h]
  unfold nkcDbCloseSeq
  rw [hrun]
  simp only [runBlocks, hg, guardEnter, ht, iterate, h1]
  rfl

/-- **`__del__`** is `close` -/
theorem nk_db_del {S : Type} (close : S → Option (Option S)) (s : S) : nkcDbDelSeq close s = close s := by
  rcases h : close s with _ | _ | s' <;>
  simp [nkcDbDelSeq, Gen.nk_db_del_seq, nkcRun, nkcGo, nkcKnown, nkcGuard, nkcNoAtom, nkcDelStep, h]

/-- **`Forcing.close`** does nothing (the two databases are only closed by `__del__`) -/
theorem nk_forcing_close {S : Type} (s : S) : nkcForcingCloseSeq s = some (some s) := rfl

end

/-! ### `Grid._init_gridlimits`, `ingrid`, `z2k`, `ll2xy`, `atsea`, `_init_proj` -/

/-- **`_init_gridlimits`**: `xmin = ymin = 0`, `xmax`, `ymax` = the sizes of the dimensions `X`, `Y` -/
theorem nk_init_gridlimits (dimX dimY : Int) :
    nkcInitGridlimitsSeq dimX dimY = some (some ⟨0, dimX, 0, dimY⟩) := by
  simp [nkcInitGridlimitsSeq, Gen.nk_init_gridlimits_seq, nkcRun, nkcGo, nkcKnown, nkcGuard, nkcNoAtom, nkcLimStep,
    returned, NkcLimSt.obj]

section
variable {α : Type}

/-- **`ingrid`** (closed form): the four strict comparisons, half a cell inside the limits -/
theorem nk_ingrid [Add α] [Sub α] [LT α] [DecidableLT α] [OfScientific α] [HasOfInt α] (l : NkcLimits) (x y : α) :
    nkcIngridSeq l x y
      = some (some (((decide (ofInt l.xmin + 0.5 < x) && decide (x < ofInt l.xmax - 0.5))
          && decide (ofInt l.ymin + 0.5 < y)) && decide (y < ofInt l.ymax - 0.5))) := by
  simp [nkcIngridSeq, Gen.nk_ingrid_seq, nkcRun, nkcGo, nkcKnown, nkcGuard, nkcNoAtom, nkcIngridStep, returned]

/-- **`z2k`** of `Grid` and of `Forcing` (the same two statements): `np.interp` of the depth in the table of the level
depths against the level numbers `0 … n-1` — a fractional level index, not rounded, constant outside the table
(`Ladim.interp`; `C13.z2k_monotone`, `z2k_exact_first`, `z2k_tail`, `z2k_clamps_left` are theorems about it); an empty
table raises -/
theorem nk_grid_z2k [Add α] [Sub α] [Mul α] [Div α] [LT α] [DecidableLT α] [HasOfInt α] (depth : List α) (k : α) :
    nkcZ2kSeq Gen.nk_grid_z2k_seq depth k = some (interp depth (nkcArange depth.length) k) := by
  cases h : interp depth (nkcArange depth.length) k <;>
  simp [nkcZ2kSeq, Gen.nk_grid_z2k_seq, nkcRun, nkcGo, nkcKnown, nkcGuard, nkcNoAtom, nkcZ2kStep, nkcNeed, returned, h]

theorem nk_forcing_z2k [Add α] [Sub α] [Mul α] [Div α] [LT α] [DecidableLT α] [HasOfInt α] (depth : List α) (k : α) :
    nkcZ2kSeq Gen.nk_forcing_z2k_seq depth k = some (interp depth (nkcArange depth.length) k) := by
  cases h : interp depth (nkcArange depth.length) k <;>
  simp [nkcZ2kSeq, Gen.nk_forcing_z2k_seq, nkcRun, nkcGo, nkcKnown, nkcGuard, nkcNoAtom, nkcZ2kStep, nkcNeed, returned,
    h]

/-- **`ll2xy`**: the projected coordinates divided by the metric of cell `(0, 0)` -/
theorem nk_ll2xy [Div α] (transform : α → α → α × α) (m : Option (α × α)) (lon lat : α) :
    nkcLl2xySeq transform (some m) lon lat
      = some (m.map (fun d => ((transform lon lat).1 / d.1, (transform lon lat).2 / d.2))) := by
  cases m <;>
  simp [nkcLl2xySeq, Gen.nk_ll2xy_seq, nkcRun, nkcGo, nkcKnown, nkcGuard, nkcLlAtom, nkcLlStep, nkcCall, returned]

/-- with the interpreted `sample_metric` and the limits of `_init_gridlimits` on a grid of at least 2 × 2 cells -/
theorem nk_ll2xy_grid [Div α] (transform : α → α → α × α) (dimX dimY : Int) (dxArr dyArr : Int → α) (lon lat : α)
    (hx : 2 ≤ dimX) (hy : 2 ≤ dimY) :
    nkcLl2xySeq transform (nkcMetric00 ⟨0, dimX, 0, dimY⟩ dxArr dyArr) lon lat
      = some (some ((transform lon lat).1 / dxArr 0, (transform lon lat).2 / dyArr 0)) := by
  have hm : nkcMetric00 ⟨0, dimX, 0, dimY⟩ dxArr dyArr = some (some (dxArr 0, dyArr 0)) := by
    unfold nkcMetric00
    rw [@nk_sample_metric Int α ⟨id⟩ ⟨id⟩ 0 dimX 0 dimY dxArr dyArr 0 0 rfl rfl]
    have h1 : metricIndex (dimX - 2) 0 = 0 := by unfold metricIndex; omega
    have h2 : metricIndex (dimY - 2) 0 = 0 := by unfold metricIndex; omega
    simp [roundInt, HasRound.round, HasTrunc.trunc, h1, h2]
  rw [hm, nk_ll2xy]; rfl

/-- **`atsea`**: strictly deeper than 5 -/
theorem nk_atsea [LT α] [DecidableLT α] [HasOfInt α] (h : Option α) :
    nkcAtseaSeq (some h) = some (h.map (fun h => decide (ofInt 5 < h))) := by
  cases h <;>
  simp [nkcAtseaSeq, Gen.nk_atsea_seq, nkcRun, nkcGo, nkcKnown, nkcGuard, nkcNoAtom, nkcAtseaStep, nkcCall, returned]

/-- with the interpreted `sample_depth`: the depth of the cell `(round y, round x)` -/
theorem nk_atsea_grid {β : Type} [HasRound α] [HasTrunc α] [LT β] [DecidableLT β] [HasOfInt β]
    (hArr : Int → Int → β) (x y : α) :
    nkcAtseaSeq (sampleDepthSeq hArr x y) = some (some (decide (ofInt 5 < hArr (roundInt y) (roundInt x)))) := by
  rw [nk_sample_depth, nk_atsea]; rfl

end

section
variable {D P C T : Type}

/-- **`_init_proj`**: the grid's CRS from the `proj4` attribute of `projection_stere`, WGS84 = EPSG 4326, both
transformers with `always_xy=True`; `to_wgs84` goes grid → WGS84, `from_wgs84` the other way -/
theorem nk_init_proj (proj4Of : D → P) (fromProj4 : P → C) (fromEpsg : Int → C) (mkTransformer : C → C → T) (dset : D) :
    nkcInitProjSeq proj4Of fromProj4 fromEpsg mkTransformer dset
      = some (some (mkTransformer (fromProj4 (proj4Of dset)) (fromEpsg 4326),
                    mkTransformer (fromEpsg 4326) (fromProj4 (proj4Of dset)))) := by
  simp [nkcInitProjSeq, Gen.nk_init_proj_seq, nkcRun, nkcGo, nkcKnown, nkcGuard, nkcNoAtom, nkcProjStep, nkcNeed,
    returned, NkcProjSt.obj]

end

/-! ### the constructors of `Grid` and `Forcing` -/

section
variable {τ Db D Pr H α G : Type} [Sub α]

/-- **`Grid(config)`** when every callee succeeds.  Configuration keys: `config['gridforce']` must exist, its
`input_file` is optional (default `None`, i.e. the default database of `OnlineDatabase`); `config['start_time']` must
exist.  The grid owns a database of its own; `get_dset` is called once, for the start time; projection, limits and the
four arrays of `dvars` come from that data set. -/
theorem nk_grid_ctor (cfg : NkcConfig τ) (dbCtor : Option String → Option (Option Db))
    (getDset : Db → τ → Option (Option (Db × D))) (initProj : D → Option (Option Pr))
    (initLimits : D → Option (Option NkcLimits)) (readH : D → H) (readDepth readX readY : D → List α)
    (server : Option String) (t0 : τ) (db db' : Db) (d : D) (pr : Pr) (l : NkcLimits)
    (hg : cfg.gridforce = some server) (ht : cfg.startTime = some t0)
    (hdb : dbCtor server = some (some db)) (hds : getDset db t0 = some (some (db', d)))
    (hpr : initProj d = some (some pr)) (hl : initLimits d = some (some l)) :
    nkcGridCtorSeq cfg dbCtor getDset initProj initLimits readH readDepth readX readY
      = some (some ⟨db', pr, l, ⟨readH d, readDepth d, nkcDiff (readX d), nkcDiff (readY d)⟩⟩) := by
  have e := nkcGridCtorStep.eq_def cfg dbCtor getDset initProj initLimits readH readDepth readX readY
  unfold nkcGridCtorStep.match_5 at e
  simp [nkcGridCtorSeq, Gen.nk_grid_ctor_seq, nkcRun, nkcGo_plain, nkcGo_nil, Run.fnThen_some, nkcKnown, nkcNoAtom, e,
    nkcNeed, nkcCall, returned, NkcGridCtorSt.obj, nkcDvarsOf, hg, ht, hdb, hds, hpr, hl]

/-- no `gridforce` in the configuration: `KeyError` at the first statement -/
theorem nk_grid_ctor_no_gridforce (cfg : NkcConfig τ) (dbCtor : Option String → Option (Option Db))
    (getDset : Db → τ → Option (Option (Db × D))) (initProj : D → Option (Option Pr))
    (initLimits : D → Option (Option NkcLimits)) (readH : D → H) (readDepth readX readY : D → List α)
    (hg : cfg.gridforce = none) :
    nkcGridCtorSeq cfg dbCtor getDset initProj initLimits readH readDepth readX readY = some none := by
  have e := nkcGridCtorStep.eq_def cfg dbCtor getDset initProj initLimits readH readDepth readX readY
  unfold nkcGridCtorStep.match_5 at e
  simp [nkcGridCtorSeq, Gen.nk_grid_ctor_seq, nkcRun, nkcGo, nkcKnown, nkcGuard, nkcNoAtom, e, nkcNeed,
    returned, hg]

/-- no `start_time` in the configuration: `KeyError` at the third statement (after the database object is made) -/
theorem nk_grid_ctor_no_start (cfg : NkcConfig τ) (dbCtor : Option String → Option (Option Db))
    (getDset : Db → τ → Option (Option (Db × D))) (initProj : D → Option (Option Pr))
    (initLimits : D → Option (Option NkcLimits)) (readH : D → H) (readDepth readX readY : D → List α)
    (server : Option String) (db : Db)
    (hg : cfg.gridforce = some server) (ht : cfg.startTime = none) (hdb : dbCtor server = some (some db)) :
    nkcGridCtorSeq cfg dbCtor getDset initProj initLimits readH readDepth readX readY = some none := by
  have e := nkcGridCtorStep.eq_def cfg dbCtor getDset initProj initLimits readH readDepth readX readY
  unfold nkcGridCtorStep.match_5 at e
  simp [nkcGridCtorSeq, Gen.nk_grid_ctor_seq, nkcRun, nkcGo, nkcKnown, nkcGuard, nkcNoAtom, e, nkcNeed, nkcCall,
    returned, hg, ht, hdb]

/-- **`Forcing(config, grid)`** when every callee succeeds.  Keys: `start_time`, `dt`, `gridforce` (its `input_file`
optional).  `current_time` is `None` (until `update`); the forcing opens a database of its own (a second one, next to
the grid's) and reads the same four arrays. -/
theorem nk_forcing_ctor (cfg : NkcConfig τ) (grid : G) (dbCtor : Option String → Option (Option Db))
    (getDset : Db → τ → Option (Option (Db × D))) (readH : D → H) (readDepth readX readY : D → List α)
    (server : Option String) (t0 : τ) (dt : Int) (db db' : Db) (d : D)
    (hg : cfg.gridforce = some server) (ht : cfg.startTime = some t0) (hdt : cfg.dt = some dt)
    (hdb : dbCtor server = some (some db)) (hds : getDset db t0 = some (some (db', d))) :
    nkcForcingCtorSeq cfg grid dbCtor getDset readH readDepth readX readY
      = some (some ⟨t0, dt, none, grid, db', ⟨readH d, readDepth d, nkcDiff (readX d), nkcDiff (readY d)⟩⟩) := by
  have e := nkcForcingCtorStep.eq_def cfg grid dbCtor getDset readH readDepth readX readY
  unfold nkcForcingCtorStep.match_3 at e
  simp [nkcForcingCtorSeq, Gen.nk_forcing_ctor_seq, nkcRun, nkcGo_plain, nkcGo_nil, Run.fnThen_some, Run.fnThen_raise, nkcKnown, nkcNoAtom, e,
    nkcNeed, nkcCall, returned, NkcForcingCtorSt.obj, nkcDvarsOf, hg, ht, hdt, hdb, hds]

/-- no `start_time` or no `dt`: `KeyError` at the first statement -/
theorem nk_forcing_ctor_no_time (cfg : NkcConfig τ) (grid : G) (dbCtor : Option String → Option (Option Db))
    (getDset : Db → τ → Option (Option (Db × D))) (readH : D → H) (readDepth readX readY : D → List α)
    (h : cfg.startTime = none ∨ cfg.dt = none) :
    nkcForcingCtorSeq cfg grid dbCtor getDset readH readDepth readX readY = some none := by
  have e := nkcForcingCtorStep.eq_def cfg grid dbCtor getDset readH readDepth readX readY
  unfold nkcForcingCtorStep.match_3 at e
  rcases h with h | h
  · simp [nkcForcingCtorSeq, Gen.nk_forcing_ctor_seq, nkcRun, nkcGo, nkcKnown, nkcGuard, nkcNoAtom, e, nkcNeed,
      returned, h]
  · cases ht : cfg.startTime <;>
    simp [nkcForcingCtorSeq, Gen.nk_forcing_ctor_seq, nkcRun, nkcGo, nkcKnown, nkcGuard, nkcNoAtom, e, nkcNeed,
      returned, h, ht]

end

/-! ### `Grid(config)` from scratch: every callee interpreted from its generated sequence -/

section
variable {κ D φ κ' ν' φ' : Type} [DecidableEq κ] [DecidableEq φ] [DecidableEq κ'] [DecidableEq φ']

/-- `db.get_dset(time)` on an open database with a keyed, valid buffer of data sets: the data set of the file of the
day; the buffer stays keyed and valid -/
theorem nk_db_get_dset {V : Type} (fmt : String → Int → κ) (dayStr : Int → φ) (openDs : κ → D)
    (db : NkcDb κ D φ V) (b : Buffer κ D φ) (day : Int) (h : db.dsetBuf = some b) (hk : nkcKeyed b = true)
    (hv : C13.Valid openDs b) :
    ∃ b', nkcDbGetDset fmt dayStr openDs db day
        = some (some ({ db with dsetBuf := some b' }, openDs (fmt db.pattern day))) ∧
      b' = (getVar openDs (fun _ => dayStr day) b (fmt db.pattern day)).1 ∧ nkcKeyed b' = true ∧
      C13.Valid openDs b' := by
  obtain ⟨h1, h2⟩ := nk_get_dset (fmt db.pattern) dayStr openDs b day hk
  obtain ⟨h3, h4⟩ := C13.getVar_transparent openDs (fun _ => dayStr day) b (fmt db.pattern day) hv
  refine ⟨_, ?_, rfl, h2, h4⟩
  unfold nkcDbGetDset
  rw [h]
  simp only [h1]
  generalize getVar openDs (fun _ => dayStr day) b (fmt db.pattern day) = r at h3
  obtain ⟨r1, r2, r3⟩ := r
  simp only at h3
  subst h3
  rfl

variable {τ P C T H α : Type} [Sub α]

/-- **`Grid(config)`**, all callees interpreted (`OnlineDatabase(…)` with `Buffer()`, `get_dset` with the `Buffer`
methods, `_init_proj`, `_init_gridlimits`).  Hypotheses: the two configuration keys exist.  The database pattern is
`input_file`, or the default database when `input_file` is missing, `None` or empty; exactly one file — that of the
start day — is opened and is the only entry of the data-set buffer (frame tag = the day); limits `0 … dim`. -/
theorem nk_grid_ctor_full (cfg : NkcConfig τ) (dflt : String) (fmt : String → Int → κ) (dayStr : Int → φ)
    (openDs : κ → D) (dayOf : τ → Int) (proj4Of : D → P) (fromProj4 : P → C) (fromEpsg : Int → C)
    (mkTransformer : C → C → T) (dimX dimY : D → Int) (readH : D → H) (readDepth readX readY : D → List α)
    (server : Option String) (t0 : τ) (hg : cfg.gridforce = some server) (ht : cfg.startTime = some t0) :
    let pattern := nkcPatternOr server dflt
    let pat := fmt pattern (dayOf t0)
    let d := openDs pat
    nkcGridCtorSeq cfg (fun p => (nkcDbCtorSeq p dflt : Option (Option (NkcDb κ D φ (Buffer κ' ν' φ')))))
        (fun db t => nkcDbGetDset fmt dayStr openDs db (dayOf t))
        (nkcInitProjSeq proj4Of fromProj4 fromEpsg mkTransformer)
        (fun d => nkcInitGridlimitsSeq (dimX d) (dimY d)) readH readDepth readX readY
      = some (some ⟨⟨some ((Buffer.empty : Buffer κ D φ).push pat d (dayStr (dayOf t0))), Buffer.empty, pattern⟩,
          (mkTransformer (fromProj4 (proj4Of d)) (fromEpsg 4326), mkTransformer (fromEpsg 4326) (fromProj4 (proj4Of d))),
          ⟨0, dimX d, 0, dimY d⟩, ⟨readH d, readDepth d, nkcDiff (readX d), nkcDiff (readY d)⟩⟩) := by
  intro pattern pat d
  obtain ⟨b', h1, h2, _, _⟩ := nk_db_get_dset (V := Buffer κ' ν' φ') fmt dayStr openDs
    ⟨some Buffer.empty, Buffer.empty, pattern⟩ Buffer.empty (dayOf t0) rfl nkcKeyed_empty (C13.valid_empty openDs)
  have hb : b' = (Buffer.empty : Buffer κ D φ).push pat d (dayStr (dayOf t0)) := by rw [h2]; rfl
  rw [hb] at h1
  exact nk_grid_ctor cfg _ _ _ _ readH readDepth readX readY server t0 _ _ d _ _ hg ht (nk_db_ctor server dflt) h1
    (nk_init_proj proj4Of fromProj4 fromEpsg mkTransformer d) (nk_init_gridlimits (dimX d) (dimY d))

end

/-! ### `ingrid`, `z2k` over an ordered field -/

section
variable {α : Type} [Field α] [LinearOrder α] [IsStrictOrderedRing α] [HasOfInt α]

/-- with the limits of `_init_gridlimits`: inside = at least half a cell away from the outermost grid points -/
theorem nk_ingrid_iff (hof : ∀ i : Int, (ofInt i : α) = (i : α)) (dimX dimY : Int) (x y : α) :
    nkcIngridSeq ⟨0, dimX, 0, dimY⟩ x y = some (some true) ↔
      (1 / 2 < x ∧ x < (dimX : α) - 1 / 2) ∧ (1 / 2 < y ∧ y < (dimY : α) - 1 / 2) := by
  have h05 : (0.5 : α) = 1 / 2 := by norm_num
  rw [nk_ingrid]
  simp only [Option.some.injEq, Bool.and_eq_true, decide_eq_true_eq, hof, h05, Int.cast_zero, zero_add]
  tauto

theorem nkcArange_succ (n : Nat) : (nkcArange (n + 1) : List α) = ofInt 0 :: (List.range n).map (fun i => ofInt (Int.ofNat (i + 1))) := by
  unfold nkcArange
  rw [List.range_succ_eq_map, List.map_cons, List.map_map]
  rfl

/-- clipping of `z2k` above the first level: a depth shallower than the first tabulated depth gets level `0` -/
theorem nk_z2k_clamps_left (d0 : α) (ds : List α) (k : α) (h : k < d0) :
    nkcZ2kSeq Gen.nk_grid_z2k_seq (d0 :: ds) k = some (some (ofInt 0)) := by
  rw [nk_grid_z2k, List.length_cons, nkcArange_succ, C13.z2k_clamps_left d0 _ ds _ k h]

/-- exact at the first level -/
theorem nk_z2k_first (d0 d1 : α) (ds : List α) (h : d0 < d1) :
    nkcZ2kSeq Gen.nk_grid_z2k_seq (d0 :: d1 :: ds) d0 = some (some (ofInt 0)) := by
  rw [nk_grid_z2k, List.length_cons, List.length_cons, nkcArange_succ, List.range_succ_eq_map, List.map_cons,
    C13.z2k_exact_first d0 d1 _ _ ds _ h]

end

end Bridge
