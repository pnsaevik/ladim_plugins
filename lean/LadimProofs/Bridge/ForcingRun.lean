import LadimProofs.Bridge.Forcing
import LadimProofs.C06Main
/-!
# Bridge (C06, C14) — the C06 theorem, stated for the interpreted code

`Seq.codeRun` runs the *generated* statement sequences of `Forcing` (initialisation, then the update loop for every
step of a schedule).  The theorem below composes `Bridge.forcing_init`, `Bridge.forcing_step(_explicit)` with
`C06.velocity_any_schedule`: for every strictly increasing schedule of non-negative steps, the velocity carried by the
interpreted code is the linear-in-time interpolation of the two enclosing frames, and (C14) the vertical velocity it
carries is the image of that velocity under a linear `compute_w`.
-/
open Ladim

set_option linter.unusedSectionVars false
set_option linter.unusedVariables false
namespace Bridge
variable {α : Type} [Field α] [LinearOrder α] [IsStrictOrderedRing α]

open Seq

/-- the loop of `Forcing.update` on the interpreted code is the loop of the closed forms, as long as every forcing
step met on the way has a successor -/
theorem codeSteps_eq (fr : Roms.Frames α) (cw : α → α) : ∀ (n : Nat) (start : Int) (s : FSt α),
    (∀ t, start ≤ t → t < start + n → fr.steps.contains (t - 1) = true →
      (Roms.nextStep fr.steps (t - 1)).isSome = true) →
    codeSteps fr cw s start n = some (stepsExplicit fr cw s start n)
  | 0, start, s, _ => rfl
  | n + 1, start, s, h => by
    have h1 := forcing_step_explicit fr cw start s (h start le_rfl (by push_cast; omega))
    have h2 := codeSteps_eq fr cw n (start + 1) (stepExplicit fr cw start s)
      (fun t h1 h2 => h t (by omega) (by push_cast; omega))
    show (run (stepAtom fr start) (stepStep fr cw start) Gen.forcing_step_seq s).bind
      (fun s' => codeSteps fr cw s' (start + 1) n) = _
    rw [h1]
    exact h2

/-- … and the loop of closed forms is `Roms.updateRange` -/
theorem stepsExplicit_roms (fr : Roms.Frames α) (cw : α → α) : ∀ (n : Nat) (start l : Int) (s : FSt α),
    ∃ l', (stepsExplicit fr cw s start n).roms l' = Roms.updateRange fr (s.roms l) start n
  | 0, start, l, s => ⟨l, rfl⟩
  | n + 1, start, l, s => by
    obtain ⟨l', h⟩ := stepsExplicit_roms fr cw n (start + 1) start (stepExplicit fr cw start s)
    refine ⟨l', ?_⟩
    rw [stepExplicit_roms fr cw start l s] at h
    exact h

/-- `stepsExplicit` composes -/
theorem stepsExplicit_add (fr : Roms.Frames α) (cw : α → α) : ∀ (m : Nat) (s : FSt α) (a : Int) (k : Nat),
    stepsExplicit fr cw (stepsExplicit fr cw s a m) (a + m) k = stepsExplicit fr cw s a (m + k)
  | 0, s, a, k => by simp [stepsExplicit]
  | m + 1, s, a, k => by
    have ih := stepsExplicit_add fr cw m (stepExplicit fr cw a s) (a + 1) k
    rw [show m + 1 + k = (m + k) + 1 by omega]
    show stepsExplicit fr cw (stepsExplicit fr cw (stepExplicit fr cw a s) (a + 1) m) (a + ((m + 1 : Nat) : Int)) k
      = stepsExplicit fr cw (stepExplicit fr cw a s) (a + 1) (m + k)
    rw [← ih]
    congr 1
    push_cast; ring

/-- one call of `Forcing.update(t)` -/
theorem codeUpdate_eq (fr : Roms.Frames α) (cw : α → α) (s : FSt α) (l t : Int) (hlt : l < t)
    (hnext : ∀ x, x ≤ t → fr.steps.contains (x - 1) = true → (Roms.nextStep fr.steps (x - 1)).isSome = true) :
    codeUpdate fr cw ⟨s, l⟩ t = some ⟨stepsExplicit fr cw s (l + 1) (t - l).toNat, t⟩ := by
  unfold codeUpdate
  rw [if_pos hlt, codeSteps_eq fr cw _ _ _ (fun x h1 h2 => hnext x (by omega))]
  rfl

/-- every call of a schedule -/
theorem codeFold_eq (fr : Roms.Frames α) (cw : α → α) (T : Int)
    (hnext : ∀ x, x ≤ T → fr.steps.contains (x - 1) = true → (Roms.nextStep fr.steps (x - 1)).isSome = true) :
    ∀ (sched : List Int) (s : FSt α) (l : Int), List.Pairwise (· < ·) sched → (∀ x ∈ sched, l < x) →
      sched.getLast? = some T →
      sched.foldlM (codeUpdate fr cw) ⟨s, l⟩ = some ⟨stepsExplicit fr cw s (l + 1) (T - l).toNat, T⟩
  | [], s, l, _, _, hT => by simp at hT
  | [t], s, l, _, hx, hT => by
    simp at hT; subst hT
    have hlt := hx t (by simp)
    simp only [List.foldlM_cons, List.foldlM_nil]
    rw [codeUpdate_eq fr cw s l t hlt hnext]
    rfl
  | t :: t2 :: rest, s, l, hp, hx, hT => by
    have hlt := hx t (by simp)
    have hp' := (List.pairwise_cons.mp hp).2
    have ht : ∀ x ∈ t2 :: rest, t < x := (List.pairwise_cons.mp hp).1
    rw [List.getLast?_cons_cons] at hT
    have hTt : t < T := ht T (List.mem_of_getLast? hT)
    have ih := codeFold_eq fr cw T hnext (t2 :: rest) (stepsExplicit fr cw s (l + 1) (t - l).toNat) t hp' ht hT
    rw [List.foldlM_cons, codeUpdate_eq fr cw s l t hlt (fun x hx => hnext x (by omega))]
    show List.foldlM (codeUpdate fr cw) _ (t2 :: rest) = _
    rw [ih]
    have := stepsExplicit_add fr cw (t - l).toNat s (l + 1) (T - t).toNat
    rw [show l + 1 + ((t - l).toNat : Int) = t + 1 by omega,
      show (t - l).toNat + (T - t).toNat = (T - l).toNat by omega] at this
    rw [this]

/-- after `_remaining_initialization` the vertical velocity fields are the images of the horizontal ones, in every case
in which the initialisation succeeds -/
theorem forcing_init_W (fr : Roms.Frames α) (cw : α → α) (z : α) (s0 : FSt α) (st0 : Roms.St α)
    (hinit : Roms.init .stepdiff .next fr = some st0)
    (h : run (initAtom fr) (initStep fr cw) Gen.forcing_init_seq (FSt.blank z) = some s0) (hl : LinearW cw) :
    WInv cw s0 := by
  cases hp : Roms.prestepOf fr.steps with
  | some p =>
    obtain ⟨nx, hn, _⟩ := C06.init_prestep .stepdiff .next fr st0 p hp hinit
    obtain ⟨s, hrun, _, hW⟩ := forcing_init_prestep fr cw z p nx hp hn
    rw [hrun] at h
    cases h
    exact hW hl
  | none =>
    obtain ⟨s1, rest, heq, _⟩ := C06.init_on_frame .stepdiff .next fr st0 hp hinit
    obtain ⟨s, hrun, _, hW⟩ := forcing_init_on_frame fr cw z s1 rest hp heq
    rw [hrun] at h
    cases h
    exact hW hl

theorem code_velocity_any_schedule (fr : Roms.Frames α) (cw : α → α) (z : α)
    (hs : C06.Sorted fr.steps) (hinit : (Roms.init .stepdiff .next fr).isSome = true)
    (sched : List Int) (hp : List.Pairwise (· < ·) sched) (h0 : ∀ x ∈ sched, 0 ≤ x) (T : Int)
    (hT : sched.getLast? = some T) (n n' : Int) (hb : C06.Bracket fr.steps T n n') :
    ∃ c, codeRun fr cw z sched = some c ∧ c.last = T ∧ c.st.U = C06.lerp fr T n n' ∧
      (LinearW cw → c.st.W = cw c.st.U) := by
  obtain ⟨st0, hst0⟩ := Option.isSome_iff_exists.mp hinit
  have hi := forcing_init fr cw z
  rw [hst0] at hi
  obtain ⟨s0, hrun, hroms⟩ := Option.map_eq_some_iff.mp hi
  have hT0 := h0 T (List.mem_of_getLast? hT)
  obtain ⟨hb1, hb2, hb3⟩ := hb
  have hn'mem := (C06.nextStep_spec fr.steps hs n n' hb1).2.1
  have hnext : ∀ x, x ≤ T → fr.steps.contains (x - 1) = true →
      (Roms.nextStep fr.steps (x - 1)).isSome = true := by
    intro x hx hc
    obtain ⟨m, hm⟩ := C06.nextStep_of_mem fr.steps hs (x - 1) ((C06.contains_iff _ _).mp hc)
      ⟨n', hn'mem, by omega⟩
    rw [hm]; rfl
  have hfold := codeFold_eq fr cw T hnext sched s0 (-1) hp (fun x hx => by have := h0 x hx; omega) hT
  rw [show (-1 : Int) + 1 = 0 from rfl, show (T - -1).toNat = T.toNat + 1 by omega] at hfold
  refine ⟨⟨stepsExplicit fr cw s0 0 (T.toNat + 1), T⟩, ?_, rfl, ?_, ?_⟩
  · show (run (initAtom fr) (initStep fr cw) Gen.forcing_init_seq (FSt.blank z)).bind _ = _
    rw [hrun]
    exact hfold
  · obtain ⟨l', hl'⟩ := stepsExplicit_roms fr cw (T.toNat + 1) 0 (-1) s0
    rw [hroms] at hl'
    have hU : (stepsExplicit fr cw s0 0 (T.toNat + 1)).U = (Roms.updateRange fr st0 0 (T.toNat + 1)).U :=
      congrArg Roms.St.U hl'
    have e : ((T.toNat : Nat) : Int) = T := Int.toNat_of_nonneg hT0
    have hv := (C06.velocity_consecutive .stepdiff .next fr st0 hs hst0 T.toNat n n'
      (by rw [e]; exact ⟨hb1, hb2, hb3⟩)).1
    rw [e] at hv
    exact hU.trans hv
  · intro hl
    exact (forcing_steps_W fr cw hl _ _ s0 (forcing_init_W fr cw z s0 st0 hst0 hrun hl)).1

end Bridge
