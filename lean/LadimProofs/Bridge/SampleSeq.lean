import LadimModel.Grid.SampleSeq
import LadimProofs.Bridge.Runners
/-!
# Bridge (C15) — grid sampling: the hand-written model *is* the statement sequences of the code

The generated sequences of `chemicals/gridforce.py` (`_clamp_index`, `z2s`, `sample3D`, `sample3DUV`,
`Forcing.velocity / field / vertdiff / horzdiff / wvel`, `Grid.ingrid / atsea / sample_depth / sample_metric / xy2ll`)
and of `sedimentation/gridforce.py` (`Grid.sample_depth / xy2ll`), interpreted by `LadimModel/Grid/SampleSeq.lean`
(every statement, condition and `return` text must be a known one, also in the branch not taken; a callee with a
generated sequence of its own is interpreted from that sequence), are the functions of `LadimModel/Grid/Sample.lean`:

* `chem_clamp_index`  : `_clamp_index(I, J, shape) = (clampIdx shape[1] I, clampIdx shape[0] J)`;
* `chem_z2s`          : `z2s = (z2sK col Z, z2sA col Z zero)` on the column of the cell `clampIdx` of the rounded
  coordinates — hypothesis `2 ≤ kmax` (`chem_z2s_spec`: the closed form on the array reads, no hypothesis);
* `chem_sample3D`     : bilinear = `trilinear` at the offsets relative to the *clamped* corner (`chem_sample3D_gen`: the
  generated windows `Gen.sample3D_offsets`, `Gen.sample3D_weights`); nearest = the read at `clampIdx` of the rounded
  coordinates;
* `chem_sample3DUV`   : `U` at `(X + 0.5, round Y)`, `V` at `(round X, Y + 0.5)`;
* `chem_forcing_velocity`, `chem_forcing_field`, `chem_forcing_wvel`, `chem_forcing_vertdiff`, `chem_forcing_horzdiff`
  (`horzdiffValue`): the closed forms `…Spec` on the array reads, no hypothesis; `…_model`: the same with the
  hand-written `z2sK` / `z2sA` for `z2s` (hypothesis: at least two levels), `chem_forcing_vertdiff_model` with
  `cellIndex`, `vertdiffLevel`, `vertdiffValue`;
* `chem_grid_ingrid` (`GridSample.ingrid`), `chem_grid_atsea`, `chem_grid_sample_depth`, `chem_grid_sample_metric`
  (`cellIndex`), `chem_grid_xy2ll`, `sed_grid_sample_depth`, `sed_grid_xy2ll` (self-contained closed forms).

Only the operations of the scalar type are used (no field or order laws): the statements hold for every scalar type,
`Float` included.  An interpretation is run statement by statement (`Bridge.Run`, where it is said how a statement
text is matched); at a call of a function with a sequence of its own the callee's theorem is rewritten into the step,
so that every generated sequence is interpreted once.  The closed form then holds by unfolding (`rfl`).
-/
open Ladim Ladim.Seq Ladim.SampleSeq Ladim.GridSample

set_option linter.unusedSectionVars false
set_option linter.unusedVariables false
namespace Bridge

/-! ### (a) `_clamp_index` -/

/-- `_clamp_index(I, J, shape)`: each axis clamped to its own length — `shape[1]` for `I`, `shape[0]` for `J` -/
theorem chem_clamp_index (I J : Int) (shape : Nat × Nat) :
    clampIndexSeq I J shape = some (some (clampIdx shape.2 I, clampIdx shape.1 J)) := by
  delta clampIndexSeq Gen.chem_clamp_index_seq ciStep ciStep.match_1 ciRet ciRet.match_1
  repeat rw [Run.runRet_assign rfl (by simp only [String.reduceEq, ↓reduceDIte]; rfl)]
  exact Run.runRet_return rfl (by simp only [↓reduceDIte]; rfl) rfl

section
variable {α : Type} [Add α] [Sub α] [Mul α] [Div α] [Neg α] [LT α] [DecidableLT α]
  [LE α] [DecidableLE α] [OfScientific α] [HasRound α] [HasTrunc α] [HasOfInt α]

/-! ### (b) `z2s` -/

/-- the closed form on the array reads; no hypothesis -/
theorem chem_z2s_spec (zr : Arr3 α) (X Y : Coord α) (Z : α) :
    z2sSeq zr X Y Z = some (some (z2sSpec zr X Y Z)) := by
  delta z2sSeq Gen.chem_z2s_seq z2sStep z2sStep.match_1 z2sRet z2sRet.match_1
  repeat rw [Run.runRet_assign rfl (by simp only [String.reduceEq, ↓reduceDIte, chem_clamp_index]; rfl)]
  exact Run.runRet_return rfl (by simp only [↓reduceDIte]; rfl) rfl

theorem ss_col_length (F : Arr3 α) (j i : Int) : (F.col j i).length = F.kmax := by
  simp [Arr3.col]

theorem ss_col_getD (F : Arr3 α) (j i : Int) (n : Nat) (zero : α) (h : n < F.kmax) :
    (F.col j i).getD n zero = F.get (n : Int) j i := by
  simp [Arr3.col, List.getD_eq_getElem?_getD, h]

theorem ss_level_cast (c n : Nat) (h : 2 ≤ n) :
    (((min (max c 1) (n - 1) : Nat) : Int) = min (max (c : Int) 1) ((n : Int) - 1))
      ∧ min (max c 1) (n - 1) < n ∧ min (max c 1) (n - 1) - 1 < n
      ∧ (((min (max c 1) (n - 1) - 1 : Nat) : Int) = ((min (max c 1) (n - 1) : Nat) : Int) - 1) := by
  omega

/-- the closed form is the hand-written `z2sK` / `z2sA` on the column `z_rho[:, J, I]` (`z2sModel`) when the array has
at least two levels (for `kmax = 1` the code reads `z_rho[-1]`, for `kmax = 0` it raises) -/
theorem chem_z2s_model (zr : Arr3 α) (X Y : Coord α) (Z zero : α) (hk : 2 ≤ zr.kmax) :
    z2sSpec zr X Y Z = z2sModel zero zr X Y Z := by
  obtain ⟨h1, h2, h3, h4⟩ :=
    ss_level_cast (countBelow (zr.col (clampIdx zr.jmax Y.around) (clampIdx zr.imax X.around)) Z) zr.kmax hk
  unfold z2sSpec z2sModel z2sA z2sK
  simp only [ss_col_length]
  rw [ss_col_getD zr _ _ _ zero h2, ss_col_getD zr _ _ _ zero h3, h4, h1]

/-- `z2s(z_rho, X, Y, Z)`: the cell `I = clampIdx shape[2] (around X)`, `J = clampIdx shape[1] (around Y)`;
`K = z2sK` (the count of levels below `-Z`, clipped to `[1, kmax - 1]`) and `A = z2sA` (clipped to `[0, 1]`) of the
column `z_rho[:, J, I]` -/
theorem chem_z2s (zr : Arr3 α) (X Y : Coord α) (Z zero : α) (hk : 2 ≤ zr.kmax) :
    z2sSeq zr X Y Z = some (some
      (((z2sK (zr.col (clampIdx zr.jmax Y.around) (clampIdx zr.imax X.around)) Z : Nat) : Int),
        z2sA (zr.col (clampIdx zr.jmax Y.around) (clampIdx zr.imax X.around)) Z zero)) := by
  rw [chem_z2s_spec, chem_z2s_model zr X Y Z zero hk]
  rfl

/-- the level is inside the array, with a level below it -/
theorem chem_z2s_level_range (zr : Arr3 α) (X Y : Coord α) (Z : α) (hk : 2 ≤ zr.kmax) :
    1 ≤ (z2sSpec zr X Y Z).1 ∧ (z2sSpec zr X Y Z).1 ≤ (zr.kmax : Int) - 1 := by
  unfold z2sSpec
  simp only
  omega

/-! ### (c) `sample3D` -/

theorem chem_sample3D_bilinear (F : Arr3 α) (X Y : α) (K : Int) (A : α) :
    sample3DSeq F X Y K A true = some (some (sample3DSpec F X Y K A true)) := by
  delta sample3DSeq Gen.chem_sample3D_seq s3Step s3Step.match_1 s3Ret s3Ret.match_1 s3Atom s3Atom.match_1
  repeat rw [Run.runRet_assign (Run.guardVal_pos (by simp only [↓reduceDIte]))
    (by simp only [String.reduceEq, ↓reduceDIte]; rfl)]
  refine Run.runRet_return (Run.guardVal_pos (by simp only [↓reduceDIte])) (by simp only [↓reduceDIte]; rfl) ?_
  iterate 3 refine Run.allKnown_cons (Run.stmtKnown_assign rfl
    (by simp only [String.reduceEq, ↓reduceDIte, chem_clamp_index]; rfl)) ?_
  exact Run.allKnown_cons (Run.stmtKnown_return rfl (by simp only [String.reduceEq, ↓reduceDIte]; rfl)) rfl

theorem chem_sample3D_nearest (F : Arr3 α) (X Y : α) (K : Int) (A : α) :
    sample3DSeq F X Y K A false = some (some (sample3DSpec F X Y K A false)) := by
  delta sample3DSeq Gen.chem_sample3D_seq s3Step s3Step.match_1 s3Ret s3Ret.match_1 s3Atom s3Atom.match_1
  repeat rw [Run.runRet_skip_assign (by simp only [↓reduceDIte, Bool.not_true])
    (by simp only [String.reduceEq, ↓reduceDIte]; rfl)]
  rw [Run.runRet_skip_return (by simp only [↓reduceDIte, Bool.not_true]) (by simp only [↓reduceDIte]; rfl)]
  repeat rw [Run.runRet_assign rfl (by simp only [String.reduceEq, ↓reduceDIte, chem_clamp_index]; rfl)]
  exact Run.runRet_return rfl (by simp only [String.reduceEq, ↓reduceDIte]; rfl) rfl

/-- `sample3D(F, X, Y, K, A, method)`.  `method == 'bilinear'`: the corner `I = clip(int X, 0, shape[2] - 2)`,
`J = clip(int Y, 0, shape[1] - 2)` first, the offsets `P = clip(X - I, 0, 1)`, `Q = clip(Y - J, 0, 1)` relative to that
clamped corner, `trilinear P Q A` of the reads `F[K, J, I] … F[K-1, J+1, I+1]`.  Otherwise: the read
`F[K, clampIdx shape[1] (round Y), clampIdx shape[2] (round X)]`. -/
theorem chem_sample3D (F : Arr3 α) (X Y : α) (K : Int) (A : α) (bilinear : Bool) :
    sample3DSeq F X Y K A bilinear = some (some (sample3DSpec F X Y K A bilinear)) := by
  cases bilinear
  · exact chem_sample3D_nearest F X Y K A
  · exact chem_sample3D_bilinear F X Y K A

/-- the bilinear branch in the generated statement windows `Gen.sample3D_offsets`, `Gen.sample3D_weights` -/
theorem chem_sample3D_gen (F : Arr3 α) (X Y : α) (K : Int) (A : α) :
    sample3DSpec F X Y K A true =
      Gen.sample3D_weights
        (Gen.sample3D_offsets X Y (ofInt (corner F.imax X)) (ofInt (corner F.jmax Y))).1
        (Gen.sample3D_offsets X Y (ofInt (corner F.imax X)) (ofInt (corner F.jmax Y))).2 A
        (F.get K (corner F.jmax Y) (corner F.imax X)) (F.get K (corner F.jmax Y + 1) (corner F.imax X))
        (F.get K (corner F.jmax Y) (corner F.imax X + 1)) (F.get K (corner F.jmax Y + 1) (corner F.imax X + 1))
        (F.get (K - 1) (corner F.jmax Y) (corner F.imax X)) (F.get (K - 1) (corner F.jmax Y + 1) (corner F.imax X))
        (F.get (K - 1) (corner F.jmax Y) (corner F.imax X + 1))
        (F.get (K - 1) (corner F.jmax Y + 1) (corner F.imax X + 1)) := by
  rfl

/-- the corner and its neighbour are inside an axis of length `≥ 2`, whatever the position -/
theorem chem_sample3D_corner_range (n : Nat) (x : α) (h : 2 ≤ n) :
    0 ≤ corner n x ∧ corner n x + 1 ≤ (n : Int) - 1 := by
  unfold corner
  omega

/-- the corner is `clampIdx` on the axis without its last node -/
theorem chem_sample3D_corner_clamp (n : Nat) (x : α) (h : 1 ≤ n) : corner n x = clampIdx (n - 1) (trunc x) := by
  unfold corner clampIdx
  omega

/-! ### (d) `sample3DUV` -/

/-- `sample3DUV`: `U` sampled at `(X + 0.5, round Y)`, `V` at `(round X, Y + 0.5)`, both with the same `K`, `A` -/
theorem chem_sample3DUV (U V : Arr3 α) (X Y : α) (K : Int) (A : α) (bilinear : Bool) :
    sample3DUVSeq U V X Y K A bilinear = some (some (sample3DUVSpec U V X Y K A bilinear)) := by
  delta sample3DUVSeq Gen.chem_sample3DUV_seq uvRet uvRet.match_1
  exact Run.runRet_return rfl (by simp only [↓reduceDIte, chem_sample3D]; rfl) rfl

/-! ### (e) `Grid` -/

/-- `Grid.ingrid` is `GridSample.ingrid` -/
theorem chem_grid_ingrid (g : GridEnv α) (X Y : α) :
    ingridSeq g X Y = some (some (GridSample.ingrid g.xmin g.xmax g.ymin g.ymax X Y)) := by
  delta ingridSeq Gen.chem_grid_ingrid_seq ingridRet ingridRet.match_1
  exact Run.runRet_return rfl (by simp only [↓reduceDIte]; rfl) rfl

/-- `Grid.atsea`: the mask at the particle's own cell, clamped to the nearest edge cell -/
theorem chem_grid_atsea (g : GridEnv α) (X Y : α) :
    atseaSeq g X Y = some (some (decide (0.0 < g.M.atCell g.i0 g.j0 X Y))) := by
  delta atseaSeq Gen.chem_grid_atsea_seq cellStep cellStep.match_1 atseaRet atseaRet.match_1
  repeat rw [Run.runRet_assign rfl (by simp only [String.reduceEq, ↓reduceDIte, chem_clamp_index]; rfl)]
  exact Run.runRet_return rfl (by simp only [↓reduceDIte]; rfl) rfl

/-- `Grid.sample_depth`: `H[cellIndex jmax j0 Y, cellIndex imax i0 X]` -/
theorem chem_grid_sample_depth (g : GridEnv α) (X Y : α) :
    sampleDepthSeq g X Y = some (some (g.H.atCell g.i0 g.j0 X Y)) := by
  delta sampleDepthSeq Gen.chem_grid_sample_depth_seq cellStep cellStep.match_1 depthRet depthRet.match_1
  repeat rw [Run.runRet_assign rfl (by simp only [String.reduceEq, ↓reduceDIte, chem_clamp_index]; rfl)]
  exact Run.runRet_return rfl (by simp only [↓reduceDIte]; rfl) rfl

/-- `Grid.sample_metric`: `dx` at the clamped cell, for both directions -/
theorem chem_grid_sample_metric (g : GridEnv α) (X Y : α) :
    sampleMetricSeq g X Y = some (some (g.dx.atCell g.i0 g.j0 X Y, g.dx.atCell g.i0 g.j0 X Y)) := by
  delta sampleMetricSeq Gen.chem_grid_sample_metric_seq cellStep cellStep.match_1 metricRet metricRet.match_1
  repeat rw [Run.runRet_assign rfl (by simp only [String.reduceEq, ↓reduceDIte, chem_clamp_index]; rfl)]
  exact Run.runRet_return rfl (by simp only [↓reduceDIte]; rfl) rfl

/-- chemicals `Grid.xy2ll`: the local coordinates clipped to `[0, nextafter(n - 1, 0)]` (self-contained closed form;
`sample2D` and `nextafter` are parameters) -/
theorem chem_grid_xy2ll {β : Type} (nextafter0 : α → α) (sample2D : Arr2 α → α → α → β) (g : GridEnv α) (X Y : α) :
    xy2llSeq nextafter0 sample2D g X Y = some (some (xy2llSpec nextafter0 sample2D g X Y)) := by
  delta xy2llSeq Gen.chem_grid_xy2ll_seq llStep llStep.match_1 llRet llRet.match_1
  repeat rw [Run.runRet_assign rfl (by simp only [String.reduceEq, ↓reduceDIte]; rfl)]
  exact Run.runRet_return rfl (by simp only [↓reduceDIte]; rfl) rfl

/-- sedimentation `Grid.sample_depth`: `map_coordinates(H, [Y - j0, X - i0], order=1, mode='nearest')` — row
coordinate first (self-contained closed form; `map_coordinates` with these options is a parameter) -/
theorem sed_grid_sample_depth {β : Type} (mapNearest : Arr2 α → α → α → β) (g : GridEnv α) (X Y : α) :
    sedSampleDepthSeq mapNearest g X Y = some (some (mapNearest g.H (Y - ofInt g.j0) (X - ofInt g.i0))) := by
  delta sedSampleDepthSeq Gen.sed_grid_sample_depth_seq sedDepthStep sedDepthStep.match_1 sedDepthRet
    sedDepthRet.match_1
  rw [Run.runRet_step rfl (by simp only [String.reduceEq]) (by simp only [↓reduceDIte]; rfl)]
  repeat rw [Run.runRet_assign rfl (by simp only [String.reduceEq, ↓reduceDIte]; rfl)]
  exact Run.runRet_return rfl (by simp only [↓reduceDIte]; rfl) rfl

/-- with the reference meaning of `map_coordinates(…, order=1, mode='nearest')`: `GridSample.bilinear` in the cell of the
position clamped to the array -/
theorem sed_grid_sample_depth_ref (g : GridEnv α) (X Y : α) :
    sedSampleDepthSeq mapNearestRef g X Y = some (some (mapNearestRef g.H (Y - ofInt g.j0) (X - ofInt g.i0))) :=
  sed_grid_sample_depth mapNearestRef g X Y

/-- sedimentation `Grid.xy2ll`: the global coordinates clipped to `[i0, nextafter(i0 + n - 1, 0)]`, then the parent's
`xy2ll` (self-contained closed form) -/
theorem sed_grid_xy2ll {β : Type} (nextafter0 : α → α) (superXy2ll : α → α → β) (g : GridEnv α) (X Y : α) :
    sedXy2llSeq nextafter0 superXy2ll g X Y = some (some (sedXy2llSpec nextafter0 superXy2ll g X Y)) := by
  delta sedXy2llSeq Gen.sed_grid_xy2ll_seq sedLlStep sedLlStep.match_1 sedLlRet sedLlRet.match_1
  rw [Run.runRet_step rfl (by simp only [String.reduceEq]) (by simp only [↓reduceDIte]; rfl)]
  repeat rw [Run.runRet_assign rfl (by simp only [String.reduceEq, ↓reduceDIte]; rfl)]
  exact Run.runRet_return rfl (by simp only [↓reduceDIte]; rfl) rfl

/-! ### (f) `Forcing` -/

/-- `Forcing.velocity`: see `velocitySpec` — `z2s(z_w, X - i0, Y - j0, Z)`, `A := 1`, the guard `K ≥ kmax - 1`
(`K := kmax - 2`, `A := 0`), `U + tstep * dU` only for `tstep ≥ 0.001`, `sample3DUV` at `X - i0`, `Y - j0` -/
theorem chem_forcing_velocity (g : GridEnv α) (attr : String → Arr3 α) (X Y Z tstep : α) (bilinear : Bool) :
    velocitySeq g attr X Y Z tstep bilinear = some (some (velocitySpec g attr X Y Z tstep bilinear)) := by
  delta velocitySeq Gen.chem_forcing_velocity_seq velStep velStep.match_1 velRet velRet.match_1 velAtom velAtom.match_1
  iterate 7 rw [Run.runRet_assign rfl (by simp only [String.reduceEq, ↓reduceDIte, chem_z2s_spec]; rfl)]
  by_cases h : tstep < 0.001
  · iterate 2 rw [Run.runRet_assign (Run.guardVal_pos (by simp only [↓reduceDIte, decide_eq_true h]))
      (by simp only [String.reduceEq, ↓reduceDIte]; rfl)]
    iterate 2 rw [Run.runRet_skip_assign (by simp only [↓reduceDIte, decide_eq_true h, Bool.not_false])
      (by simp only [String.reduceEq, ↓reduceDIte]; rfl)]
    refine (Run.runRet_return rfl (by simp only [↓reduceDIte, chem_sample3DUV]; rfl) rfl).trans ?_
    simp only [velocitySpec, velocitySpecWith, if_pos h]
    rfl
  · iterate 2 rw [Run.runRet_skip_assign (by simp only [↓reduceDIte, decide_eq_false h, Bool.not_true])
      (by simp only [String.reduceEq, ↓reduceDIte]; rfl)]
    iterate 2 rw [Run.runRet_assign (Run.guardVal_pos (by simp only [↓reduceDIte, decide_eq_false h]))
      (by simp only [String.reduceEq, ↓reduceDIte]; rfl)]
    refine (Run.runRet_return rfl (by simp only [↓reduceDIte, chem_sample3DUV]; rfl) rfl).trans ?_
    simp only [velocitySpec, velocitySpecWith, if_neg h]
    rfl

/-- the level `velocity` samples at, and the one below it, are inside a field with `kmax - 1` levels -/
theorem chem_forcing_velocity_level_range (g : GridEnv α) (X Y Z : α) (hk : 3 ≤ g.z_w.kmax) :
    let K0 := (z2sSpec g.z_w (.real (X - ofInt g.i0)) (.real (Y - ofInt g.j0)) Z).1
    let K := if decide ((g.z_w.kmax : Int) - 1 ≤ K0) then (g.z_w.kmax : Int) - 2 else K0
    1 ≤ K ∧ K ≤ (g.z_w.kmax : Int) - 2 := by
  have h := chem_z2s_level_range g.z_w (.real (X - ofInt g.i0)) (.real (Y - ofInt g.j0)) Z (by omega)
  simp only [decide_eq_true_eq]
  split <;> omega

/-- `Forcing.field`: `z2s` on `z_r` at `X - i0`, `Y - j0`; nearest sampling of `self[name]` there -/
theorem chem_forcing_field (g : GridEnv α) (attr : String → Arr3 α) (name : String) (X Y Z : α) :
    fieldSeq g attr name X Y Z = some (some (fieldSpec g attr name X Y Z)) := by
  delta fieldSeq Gen.chem_forcing_field_seq fieldStep fieldStep.match_1 fieldRet fieldRet.match_1
  repeat rw [Run.runRet_assign rfl (by simp only [String.reduceEq, ↓reduceDIte, chem_z2s_spec]; rfl)]
  exact Run.runRet_return rfl (by simp only [↓reduceDIte, chem_sample3D]; rfl) rfl

/-- `Forcing.wvel`: `z2s` on `z_w` at `X - i0`, `Y - j0`; `W` sampled at `round(X - i0)`, `round(Y - j0)`; for
`tstep ≥ 0.001` the stored `self['W']` itself is advanced by `tstep * dW` (`F += …` on the array object) -/
theorem chem_forcing_wvel (g : GridEnv α) (attr : String → Arr3 α) (X Y Z tstep : α) (bilinear : Bool) :
    wvelSeq g attr X Y Z tstep bilinear = some (some (wvelSpec g attr X Y Z tstep bilinear)) := by
  delta wvelSeq Gen.chem_forcing_wvel_seq wvelStep wvelStep.match_1 wvelRet wvelRet.match_1 wvelAtom wvelAtom.match_1
  iterate 4 rw [Run.runRet_assign rfl (by simp only [String.reduceEq, ↓reduceDIte, chem_z2s_spec]; rfl)]
  by_cases h : (0.001 : α) ≤ tstep
  · rw [Run.runRet_assign (Run.guardVal_pos (by simp only [↓reduceDIte, decide_eq_true h]))
      (by simp only [String.reduceEq, ↓reduceDIte]; rfl)]
    refine (Run.runRet_return rfl (by simp only [↓reduceDIte, chem_sample3D]; rfl) rfl).trans ?_
    simp only [wvelSpec, wvelSpecWith, if_pos h]
    rfl
  · rw [Run.runRet_skip_assign (by simp only [↓reduceDIte, decide_eq_false h, Bool.not_true])
      (by simp only [String.reduceEq, ↓reduceDIte]; rfl)]
    refine (Run.runRet_return rfl (by simp only [↓reduceDIte, chem_sample3D]; rfl) rfl).trans ?_
    simp only [wvelSpec, wvelSpecWith, if_neg h]
    rfl

/-- with `tstep < 0.001` (the default `tstep = 0`) the stored field is not changed -/
theorem chem_forcing_wvel_pure (g : GridEnv α) (attr : String → Arr3 α) (X Y Z tstep : α) (bilinear : Bool)
    (h : ¬ (0.001 : α) ≤ tstep) : (wvelSpec g attr X Y Z tstep bilinear).2 = attr "W" := by
  unfold wvelSpec wvelSpecWith
  simp only [if_neg h]

/-- `Forcing.vertdiff`: the closed form on the array reads (`vertdiffSpec`), no hypothesis -/
theorem chem_forcing_vertdiff (g : GridEnv α) (attr : String → Arr3 α) (name : String) (X Y Z : α) :
    vertdiffSeq g attr name X Y Z = some (some (vertdiffSpec g attr name X Y Z)) := by
  delta vertdiffSeq Gen.chem_forcing_vertdiff_seq vdStep vdStep.match_1 vdRet vdRet.match_1
  repeat rw [Run.runRet_assign rfl
    (by simp only [String.reduceEq, ↓reduceDIte, chem_clamp_index, chem_z2s_spec]; rfl)]
  exact Run.runRet_return rfl (by simp only [↓reduceDIte]; rfl) rfl

theorem ss_clampIdx_idem (n : Nat) (i : Int) : clampIdx n (clampIdx n i) = clampIdx n i := by
  unfold clampIdx
  omega

/-- `Forcing.vertdiff`: `I = cellIndex` (`int32(round X) - i0`: round first, then subtract; clamped with `H.shape`),
`z2s` on the column `z_w[:, J, I]`, `K_nearest = vertdiffLevel (len Cs_w) K A`, the value floored at 0
(`vertdiffValue`).  Hypotheses: `z_w` has at least two levels and the horizontal shape of `H`. -/
theorem chem_forcing_vertdiff_model (g : GridEnv α) (attr : String → Arr3 α) (name : String) (X Y Z zero : α)
    (hk : 2 ≤ g.z_w.kmax) (hj : g.z_w.jmax = g.H.jmax) (hi : g.z_w.imax = g.H.imax) :
    vertdiffSeq g attr name X Y Z = some (some
      (vertdiffValue ((attr name).get
        (vertdiffLevel g.nCsw
          (z2sK (g.z_w.col (cellIndex g.H.jmax g.j0 Y) (cellIndex g.H.imax g.i0 X)) Z)
          (z2sA (g.z_w.col (cellIndex g.H.jmax g.j0 Y) (cellIndex g.H.imax g.i0 X)) Z zero))
        (cellIndex g.H.jmax g.j0 Y) (cellIndex g.H.imax g.i0 X)))) := by
  rw [chem_forcing_vertdiff]
  unfold vertdiffSpec vertdiffSpecWith
  simp only [chem_z2s_model g.z_w _ _ Z zero hk, z2sModel, Coord.around, hj, hi, cellIndex, ss_clampIdx_idem]
  unfold vertdiffValue vertdiffLevel
  rw [Int.max_comm, Int.min_comm]

/-- `Forcing.horzdiff`: see `horzdiffSpec` — the stencil cell clipped to `[0, imax - 2] × [0, jmax - 2]`, `z2s` on `z_r`
there, `horzdiffValue` (the Smagorinsky value; zero where the particle's own cell is land) -/
theorem chem_forcing_horzdiff (g : GridEnv α) (attr : String → Arr3 α) (X Y Z : α) :
    horzdiffSeq g attr X Y Z = some (some (horzdiffSpec g attr X Y Z)) := by
  delta horzdiffSeq Gen.chem_forcing_horzdiff_seq hdStep hdStep.match_1 hdRet hdRet.match_1
  repeat rw [Run.runRet_assign rfl (by simp only [String.reduceEq, ↓reduceDIte, chem_z2s_spec, chem_grid_atsea]; rfl)]
  exact Run.runRet_return rfl (by simp only [↓reduceDIte]; rfl) rfl

/-- the stencil `I, I + 1` is inside an axis of length `≥ 2`, whatever the position -/
theorem chem_forcing_horzdiff_stencil_range (n : Nat) (i : Int) (h : 2 ≤ n) :
    0 ≤ max 0 (min ((n : Int) - 2) i) ∧ max 0 (min ((n : Int) - 2) i) + 1 ≤ (n : Int) - 1 := by
  omega

/-! ### (f') the `Forcing` methods with the hand-written `z2sK` / `z2sA` (`z2sModel zero`) for `z2s` -/

theorem chem_forcing_velocity_model (g : GridEnv α) (attr : String → Arr3 α) (X Y Z tstep zero : α) (bilinear : Bool)
    (hk : 2 ≤ g.z_w.kmax) :
    velocitySeq g attr X Y Z tstep bilinear
      = some (some (velocitySpecWith (z2sModel zero) g attr X Y Z tstep bilinear)) := by
  rw [chem_forcing_velocity]
  unfold velocitySpec velocitySpecWith
  simp only [chem_z2s_model g.z_w _ _ Z zero hk]

theorem chem_forcing_field_model (g : GridEnv α) (attr : String → Arr3 α) (name : String) (X Y Z zero : α)
    (hk : 2 ≤ g.z_r.kmax) :
    fieldSeq g attr name X Y Z = some (some (fieldSpecWith (z2sModel zero) g attr name X Y Z)) := by
  rw [chem_forcing_field]
  unfold fieldSpec fieldSpecWith
  simp only [chem_z2s_model g.z_r _ _ Z zero hk]

theorem chem_forcing_wvel_model (g : GridEnv α) (attr : String → Arr3 α) (X Y Z tstep zero : α) (bilinear : Bool)
    (hk : 2 ≤ g.z_w.kmax) :
    wvelSeq g attr X Y Z tstep bilinear = some (some (wvelSpecWith (z2sModel zero) g attr X Y Z tstep bilinear)) := by
  rw [chem_forcing_wvel]
  unfold wvelSpec wvelSpecWith
  simp only [chem_z2s_model g.z_w _ _ Z zero hk]

theorem chem_forcing_horzdiff_model (g : GridEnv α) (attr : String → Arr3 α) (X Y Z zero : α)
    (hk : 2 ≤ g.z_r.kmax) :
    horzdiffSeq g attr X Y Z = some (some (horzdiffSpecWith (z2sModel zero) g attr X Y Z)) := by
  rw [chem_forcing_horzdiff]
  unfold horzdiffSpec horzdiffSpecWith
  simp only [chem_z2s_model g.z_r _ _ Z zero hk]

end
end Bridge
