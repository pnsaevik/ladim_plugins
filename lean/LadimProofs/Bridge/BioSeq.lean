import LadimProofs.Basic
import LadimProofs.Bridge.Runners
import LadimModel.IBM.BioSeq
/-!
# Bridge (C05, C07, C09, C16, C20) — the biological IBMs: the whole `update_ibm` sequence *is* the hand-written update

`Gen.lice_update_seq`, `Gen.egg_update_seq`, `Gen.larvae_update_seq`, `Gen.saithe_update_seq`, `Gen.vps_update_seq`
(guard, kind and text of every statement, regenerated from /repo on every run) are interpreted on ONE particle by
`LadimModel/IBM/BioSeq.lean` (`runProc`: every statement and condition, taken or not, must be a known text; variables
are unbound until assigned; the random numbers are taken from one supply in the order of the requests, which are
logged).  The theorems say: the interpretation returns exactly the hand-written whole-particle update

* `lice_update_seq`   : `Bio.liceUpdate`, first draw = uniform `state_rand`, second = normal (only if
  `self.vertical_diffusion`), forcing / light read at the old position;
* `egg_update_seq`    : `Bio.eggZ` and `Bio.degreeDayAge` (with `self.dt`);
* `larvae_update_seq` : `Bio.larvaUpdate` with `clipEggs = true` (for `self.growth = growth_cod_larvae`,
  `self.length = weight_to_length`); the draw is made iff `self.D` is nonzero;
* `saithe_update_seq` : `Bio.larvaUpdate` with `clipEggs = false`, desired light `1.0`, UNDER `min_depth ≤ max_depth`
  (code: `np.clip` = min∘max, model: max∘min — they differ when `max_depth < min_depth`); `spread()` comes before
  growth and before `grid.lonlat`, after the forcing reads;  `saithe_update_seq_hardcoded`: the `__init__` constants;
* `vps_update_seq`    : `Bio.vpsUpdate` for `self.max_age = 2**30`.

The only laws of the scalar type that are used: `z * (-1) = -z` (lice, egg), the order laws for the two clip forms
(saithe), `30 ≤ 60` and `1e-4 ≠ 0` (saithe constants); everything else is by running the sequence — `exp`, `rpow`,
`sqrt`, `narrow`, … are arbitrary functions.  Each sequence is run once: its texts are matched in one pass, with the
state a variable (`Bridge.Run.runProc_eq_runEff`), and the run of the effects is evaluated for every value of the
switches its guards read; the theorems about one value of a switch are instances.

Statements that no generated window covered and that are pinned only here:
* lice: `state['super'] *= self.mortality_factor`; the two `forcing.field` reads; `lon, lat = grid.lonlat(..)`;
  `light0 = surface_light(..)`; `Eb = light0 * np.exp(-self.k * state.Z)`; `state_rand = np.random.rand(..)`; the guard
  `self.vertical_diffusion`, `rand = np.random.normal(..)`, `W += rand * (2 * self.D / self.dt) ** 0.5`; `state['Z'] = Z`;
  and the data flow between the windows (`nauplie` / `alive` use the NEW age, `Eb` the OLD depth).
* egg: `state = ..`, `forcing = ..`, `egg_diam = self.egg_diam`; the forcing reads; `temp, salt, buoy = (..)`; the guard,
  `rand = ..` and `W += rand * (2 * self.D / self.dt) ** 0.5`.
* larvae / saithe: the forcing reads; `W = np.zeros(.., dtype=np.float32)` (from here on every store into `W` and
  `W * self.dt` is rounded to binary32: the model's `narrow`); `T, S = ..`; `W[is_egg] = sinkvel_egg(..)` (which
  library function gets which argument); `lon, lat = ..`; `Z_larvae = ..`; `Eb = light(.., depth=Z_larvae,
  extinction_coef=self.k)`; `length = 0.001 * ..`; `W[~is_egg] = self.swim_speed * length * np.sign(Eb - ..)`; the guard
  `self.D` and `W += np.random.normal(..) * np.sqrt(2 * self.D / self.dt)`; `state['Z'] = Z`; saithe also `self.grid = ..`
  / `self.state = ..` / `self.forcing = ..`, the guard `self.extra_spreading` with the call `spread`, `desired_light = 1`.
* vps: `self.grid = ..` / `self.state = ..` / `self.forcing = ..`; `state['Z'] = np.random.uniform(0, self.max_depth, ..)`;
  `x = ..`, `y = ..`, `u, v = self.forcing.forcing.fish_velocity(x, y)`.
-/
open Ladim Ladim.BioSeq Bridge.Run

set_option linter.unusedSectionVars false
set_option linter.unusedVariables false
set_option linter.unusedSimpArgs false
set_option linter.auxLemma false
namespace Bridge
variable {α : Type} [Field α] [LinearOrder α] [IsStrictOrderedRing α]
  [HasSqrt α] [HasExp α] [HasLog α] [HasSin α] [HasCos α] [HasAsin α] [HasRpow α] [HasPi α] [HasNarrow α]

/-- a run seen through a view `f` of its final state: the final state exists and has that view -/
theorem of_map_view_some {σ β : Type} {r : Option (Option σ)} {f : σ → β} {b : β}
    (h : r.map (Option.map f) = some (some b)) : ∃ s, r = some (some s) ∧ f s = b := by
  rcases r with _ | _ | s
  · cases h
  · cases h
  · exact ⟨s, rfl, Option.some.inj (Option.some.inj h)⟩

theorem of_map_view_none {σ β : Type} {r : Option (Option σ)} {f : σ → β}
    (h : r.map (Option.map f) = some none) : r = some none := by
  rcases r with _ | _ | s
  · cases h
  · rfl
  · cases h

/-! ### salmon lice -/

/-- the run for either value of `self.vertical_diffusion` and any supply of numbers after the first -/
theorem lice_run (mf k sv D dt sdt : α) (vd : Bool) (ft fs : α → α → α → α) (l0 : α → α → α) (x y : α)
    (p : Bio.Lice α) (r : α) (tl : List α) :
    (liceRun ⟨mf, k, sv, D, dt, sdt, vd, ft, fs, l0⟩ x y p (r :: tl)).map
        (Option.map fun s => (s.particle, s.rng.log, s.rng.supply, s.x, s.y))
      = match vd, tl with
        | false, _ => some (some (Bio.liceUpdate D dt sdt mf k sv (ft x y p.z) (fs x y p.z) (l0 x y) r none p,
            [.uniform], tl, x, y))
        | true, [] => some none
        | true, xi :: rest => some (some (Bio.liceUpdate D dt sdt mf k sv (ft x y p.z) (fs x y p.z) (l0 x y) r
            (some xi) p, [.uniform, .normal], rest, x, y)) := by
  delta liceRun Gen.lice_update_seq LiceSt.init liceStep liceStep.match_1
  rw [runProc_eq_runEff]
  simp only [List.map_cons, List.map_nil, String.reduceEq, decide_false, ↓reduceDIte, mul_neg_one_lit, Bio.liceUpdate,
    Bio.mirrorCap]
  cases vd
  · eq_refl
  · cases tl <;> eq_refl

/-- **salmon lice**: the interpretation of `Gen.lice_update_seq` on one particle is `Bio.liceUpdate`, with the forcing
read at the old position, the FIRST number of the supply as the uniform `state_rand` and the SECOND as the normal draw
of the mixing term (asked for only when `self.vertical_diffusion`) -/
theorem lice_update_seq (e : LiceEnv α) (x y : α) (p : Bio.Lice α) (r xi : α) (rest : List α) :
    (liceRun e x y p (r :: xi :: rest)).map (Option.map fun s => (s.particle, s.rng.log, s.rng.supply, s.x, s.y))
      = some (some (Bio.liceUpdate e.D e.dt e.stateDt e.mortFactor e.k e.swimVel (e.temp x y p.z) (e.salt x y p.z)
          (e.light0 x y) r (if e.vertDiff then some xi else none) p,
          if e.vertDiff then [.uniform, .normal] else [.uniform],
          if e.vertDiff then rest else xi :: rest, x, y)) := by
  obtain ⟨mf, k, sv, D, dt, sdt, vd, ft, fs, l0⟩ := e
  cases vd <;> exact lice_run mf k sv D dt sdt _ ft fs l0 x y p r (xi :: rest)

/-- the order of the draws: with mixing on, one number is not enough (the second request raises) … -/
theorem lice_one_draw_raises (mf k sv D dt sdt : α) (ft fs : α → α → α → α) (l0 : α → α → α) (x y : α)
    (p : Bio.Lice α) (r : α) :
    liceRun ⟨mf, k, sv, D, dt, sdt, true, ft, fs, l0⟩ x y p [r] = some none :=
  of_map_view_none (lice_run mf k sv D dt sdt true ft fs l0 x y p r [])

/-! ### egg -/

/-- the run for either value of `self.vertical_diffusion` and any supply of numbers -/
theorem egg_run (D dt diam : α) (vd : Bool) (ft fs : α → α → α → α) (x y z age buoy : α) (draws : List α) :
    (eggRun ⟨D, dt, diam, vd, ft, fs⟩ x y z age buoy draws).map
        (Option.map fun s => (s.z, s.age, s.eggBuoy, s.rng.log, s.rng.supply, s.x, s.y))
      = match vd, draws with
        | false, _ => some (some (Bio.eggZ D dt diam (ft x y z) (fs x y z) buoy none z,
            Bio.degreeDayAge age (ft x y z) dt, buoy, [], draws, x, y))
        | true, [] => some none
        | true, xi :: rest => some (some (Bio.eggZ D dt diam (ft x y z) (fs x y z) buoy (some xi) z,
            Bio.degreeDayAge age (ft x y z) dt, buoy, [.normal], rest, x, y)) := by
  delta eggRun Gen.egg_update_seq EggSt.init eggStep eggStep.match_1
  rw [runProc_eq_runEff]
  simp only [List.map_cons, List.map_nil, String.reduceEq, decide_false, ↓reduceDIte, mul_neg_one_lit]
  cases vd
  · eq_refl
  · cases draws <;> eq_refl

theorem egg_run_diff (D dt diam : α) (ft fs : α → α → α → α) (x y z age buoy xi : α) (rest : List α) :
    ∃ s, eggRun ⟨D, dt, diam, true, ft, fs⟩ x y z age buoy (xi :: rest) = some (some s) ∧
      s.z = Bio.eggZ D dt diam (ft x y z) (fs x y z) buoy (some xi) z ∧
      s.age = Bio.degreeDayAge age (ft x y z) dt ∧ s.rng = ⟨rest, [.normal]⟩ ∧ s.x = x ∧ s.y = y ∧ s.eggBuoy = buoy := by
  obtain ⟨s, hs, hv⟩ := of_map_view_some (egg_run D dt diam true ft fs x y z age buoy (xi :: rest))
  simp only [Prod.mk.injEq] at hv
  obtain ⟨hz, ha, hb, hl, hp, hx, hy⟩ := hv
  exact ⟨s, hs, hz, ha, by rw [← hl, ← hp], hx, hy, hb⟩

theorem egg_run_nodiff (D dt diam : α) (ft fs : α → α → α → α) (x y z age buoy : α) (rest : List α) :
    ∃ s, eggRun ⟨D, dt, diam, false, ft, fs⟩ x y z age buoy rest = some (some s) ∧
      s.z = Bio.eggZ D dt diam (ft x y z) (fs x y z) buoy none z ∧
      s.age = Bio.degreeDayAge age (ft x y z) dt ∧ s.rng = ⟨rest, []⟩ ∧ s.x = x ∧ s.y = y ∧ s.eggBuoy = buoy := by
  obtain ⟨s, hs, hv⟩ := of_map_view_some (egg_run D dt diam false ft fs x y z age buoy rest)
  simp only [Prod.mk.injEq] at hv
  obtain ⟨hz, ha, hb, hl, hp, hx, hy⟩ := hv
  exact ⟨s, hs, hz, ha, by rw [← hl, ← hp], hx, hy, hb⟩

/-- **egg**: the interpretation of `Gen.egg_update_seq` on one particle is `Bio.eggZ` (depth) and `Bio.degreeDayAge`
(age, with `self.dt` and the temperature read at the OLD position); the normal draw is asked for only when
`self.vertical_diffusion` -/
theorem egg_update_seq (e : EggEnv α) (x y z age buoy xi : α) (rest : List α) :
    (eggRun e x y z age buoy (xi :: rest)).map
        (Option.map fun s => (s.z, s.age, s.eggBuoy, s.rng.log, s.rng.supply, s.x, s.y))
      = some (some (Bio.eggZ e.D e.dt e.eggDiam (e.temp x y z) (e.salt x y z) buoy
            (if e.vertDiff then some xi else none) z,
          Bio.degreeDayAge age (e.temp x y z) e.dt, buoy,
          if e.vertDiff then [.normal] else [],
          if e.vertDiff then rest else xi :: rest, x, y)) := by
  obtain ⟨D, dt, diam, vd, ft, fs⟩ := e
  cases vd <;> exact egg_run D dt diam _ ft fs x y z age buoy (xi :: rest)

/-! ### larvae -/

local macro "egg_cases" h:ident : tactic => `(tactic|
  (simp only [$h:ident, decide_true, decide_false, Bool.not_true, Bool.not_false, if_true, if_false, Bool.false_eq_true,
      Bool.and_false, Bool.and_true, Bool.true_and, Bool.false_and]))

/-- **larvae**: the interpretation of `Gen.larvae_update_seq` on one particle, with the species defaults
`growth_cod_larvae` / `weight_to_length` for the configured callables `self.growth` / `self.length`, is
`Bio.larvaUpdate` with `clipEggs = true`; forcing and surface light are read at the old position; the only draw (normal)
is asked for iff `self.D` is nonzero -/
theorem larvae_update_seq (e : LarvaEnv α) (hg : e.growth = Gen.larvae_growth)
    (hl : e.length = Gen.larvae_weight_to_length) (x y buoy : α) (p : Bio.Larva α) (xi : α) (rest : List α) :
    (larvaeRun e x y buoy p (xi :: rest)).map
        (Option.map fun s => (s.particle, s.rng.log, s.rng.supply, s.x, s.y, s.eggBuoy))
      = some (some (Bio.larvaUpdate { e.c with clipEggs := true } (e.temp x y p.z) (e.salt x y p.z) buoy (e.light0 x y)
            (if Bio.isZeroS e.c.D then none else some xi) p,
          if Bio.isZeroS e.c.D then [] else [.normal],
          if Bio.isZeroS e.c.D then xi :: rest else rest, x, y, buoy)) := by
  obtain ⟨c, ft, fs, l0, g, len, ex, sp⟩ := e
  simp only at hg hl
  subst hg hl
  dsimp only [larvaeRun]
  generalize Bio.isZeroS c.D = zeroD
  unfold Gen.larvae_update_seq LarvaSt.init
  delta larvaeStep larvaeStep.match_1 larvaCommon larvaCommon.match_1
  rw [runProc_eq_runEff]
  simp only [List.map_cons, List.map_nil, String.reduceEq, decide_false, ↓reduceDIte]
  -- the statements up to `is_egg = …` are run first, so that the egg / larva alternative is a boolean variable in the
  -- rest of the run and in `Bio.larvaUpdate`; the rest is evaluated for each value of it and of the guard `self.D`
  iterate 3 rw [runEff_step rfl rfl]
  unfold Bio.larvaUpdate
  generalize decide (p.age ≤ c.hatchDay) = isEgg
  cases zeroD <;> cases isEgg <;> eq_refl

/-! ### saithe -/

/-- `np.clip(z, lo, hi)` is `max(min(z, hi), lo)` when `lo ≤ hi` (and only then: for `hi < lo` the first is `hi`, the
second `lo`) -/
theorem npclip_eq_clipDepth (lo hi z : α) (h : lo ≤ hi) : fmin (fmax z lo) hi = fmax (fmin z hi) lo := by
  unfold fmin fmax
  split_ifs <;> first | rfl | (exfalso; linarith)

/-- … and the hypothesis cannot be dropped: for `min_depth = 60`, `max_depth = 30` a larva at depth 0 is put to 30 by
the code (`np.clip`) and to 60 by the model (`Bio.clipDepth`) -/
theorem clip_forms_differ :
    fmin (fmax (0.0 : Rat) 60.0) 30.0 = 30.0 ∧ Bio.clipDepth (60.0 : Rat) 30.0 0.0 = 60.0 := by
  norm_num [fmin, fmax, Bio.clipDepth]

/-- **saithe**: the interpretation of `Gen.saithe_update_seq` on one particle is `Bio.larvaUpdate` with
`clipEggs = false` and desired light `1.0`, PROVIDED `min_depth ≤ max_depth` (the code clips larvae with `np.clip`, the
model with `max(min(·, max_depth), min_depth)`).  `spread` (when `self.extra_spreading`) moves the particle
horizontally BEFORE growth: temperature and salinity are those of the old position, the surface light is that of the
NEW horizontal position. -/
theorem saithe_update_seq (e : LarvaEnv α) (hband : e.c.minDepth ≤ e.c.maxDepth)
    (x y buoy : α) (p : Bio.Larva α) (xi : α) (rest : List α) :
    (saitheRun e x y buoy p (xi :: rest)).map
        (Option.map fun s => (s.particle, s.rng.log, s.rng.supply, s.x, s.y, s.eggBuoy))
      = some (some (Bio.larvaUpdate { e.c with clipEggs := false, desired := 1.0 } (e.temp x y p.z) (e.salt x y p.z) buoy
            (if e.extraSpreading then e.light0 (e.spread x y).1 (e.spread x y).2 else e.light0 x y)
            (if Bio.isZeroS e.c.D then none else some xi) p,
          if Bio.isZeroS e.c.D then [] else [.normal],
          if Bio.isZeroS e.c.D then xi :: rest else rest,
          if e.extraSpreading then (e.spread x y).1 else x,
          if e.extraSpreading then (e.spread x y).2 else y, buoy)) := by
  obtain ⟨c, ft, fs, l0, g, len, ex, sp⟩ := e
  dsimp only [saitheRun] at hband ⊢
  generalize Bio.isZeroS c.D = zeroD
  unfold Gen.saithe_update_seq LarvaSt.init
  delta saitheStep saitheStep.match_1 larvaCommon larvaCommon.match_1
  rw [runProc_eq_runEff]
  -- for a larva the clip of the code is turned into the one of the model
  simp only [List.map_cons, List.map_nil, String.reduceEq, decide_false, ↓reduceDIte, npclip_eq_clipDepth _ _ _ hband]
  -- as for larvae; `self.extra_spreading` is one more guard
  iterate 6 rw [runEff_step rfl rfl]
  unfold Bio.larvaUpdate
  generalize decide (p.age ≤ c.hatchDay) = isEgg
  cases zeroD <;> cases ex <;> cases isEgg <;> eq_refl

/-- the attributes that `saithe/ibm.py :: IBM.__init__` hard-codes (`__init__` is not part of the sequence) -/
def saitheCfg (dt stateDt : α) : Bio.LarvaCfg α :=
  ⟨60.0, 9.3e-2, 0.2, 1.0, 30.0, 60.0, 0.2, 1.0e-4, dt, stateDt, 0.0011, false⟩

/-- with the hard-coded attributes the band hypothesis holds and the normal draw is always made -/
theorem saithe_update_seq_hardcoded (e : LarvaEnv α) (dt sdt : α) (hc : e.c = saitheCfg dt sdt)
    (x y buoy : α) (p : Bio.Larva α) (xi : α) (rest : List α) :
    (saitheRun e x y buoy p (xi :: rest)).map
        (Option.map fun s => (s.particle, s.rng.log, s.rng.supply, s.x, s.y, s.eggBuoy))
      = some (some (Bio.larvaUpdate (saitheCfg dt sdt) (e.temp x y p.z) (e.salt x y p.z) buoy
            (if e.extraSpreading then e.light0 (e.spread x y).1 (e.spread x y).2 else e.light0 x y) (some xi) p,
          [.normal], rest,
          if e.extraSpreading then (e.spread x y).1 else x,
          if e.extraSpreading then (e.spread x y).2 else y, buoy)) := by
  have hband : e.c.minDepth ≤ e.c.maxDepth := by rw [hc]; simp only [saitheCfg]; norm_num
  have hD : Bio.isZeroS e.c.D = false := by
    rw [hc]; simp only [saitheCfg, Bio.isZeroS]; norm_num
  rw [saithe_update_seq e hband, hD, hc]
  rfl

/-! ### vps -/

theorem feq_zero (a : α) : Gen.feq a 0.0 = Bio.isZeroS a := by
  simp only [Gen.feq, Bio.isZeroS, Bool.not_or]

theorem vps_run_core (md dt ma : α) (fv : α → α → α × α) (x y : α) (p : Bio.Vps α) (u : α) (rest : List α) :
    ∃ s, vpsRun ⟨md, dt, ma, fv⟩ x y p (u :: rest) = some (some s) ∧
      s.particle = ⟨Bio.vpsZ md u, p.age + dt,
        (p.alive && decide (p.age + dt < ma)) && (!(Gen.feq (fv x y).1 0.0) || !(Gen.feq (fv x y).2 0.0))⟩ ∧
      s.rng = ⟨rest, [.uniform]⟩ ∧ s.x = x ∧ s.y = y := by
  apply Exists.intro
  constructor
  · delta vpsRun Gen.vps_update_seq VpsSt.init vpsStep vpsStep.match_1
    rw [runProc_eq_runEff]
    simp only [List.map_cons, List.map_nil, String.reduceEq, decide_false, ↓reduceDIte]
    rfl
  · exact ⟨rfl, rfl, rfl, rfl⟩

/-- **vps**: the interpretation of `Gen.vps_update_seq` on one particle is `Bio.vpsUpdate`, for `self.max_age = 2**30`
(set in `__init__`); the fish velocity is sampled at the particle's horizontal position, the depth is the only
(uniform) draw -/
theorem vps_update_seq (e : VpsEnv α) (hma : e.maxAge = 1073741824.0) (x y : α) (p : Bio.Vps α) (u : α)
    (rest : List α) :
    (vpsRun e x y p (u :: rest)).map (Option.map fun s => (s.particle, s.rng.log, s.rng.supply, s.x, s.y))
      = some (some (Bio.vpsUpdate e.maxDepth e.dt u (e.fishVel x y).1 (e.fishVel x y).2 p, [.uniform], rest, x, y)) := by
  obtain ⟨md, dt, ma, fv⟩ := e
  simp only at hma
  subst hma
  obtain ⟨s, hs, hp, hr, hx, hy⟩ := vps_run_core md dt 1073741824.0 fv x y p u rest
  simp only [hs, Option.map_some, hp, hr, hx, hy, feq_zero]
  rfl

end Bridge
