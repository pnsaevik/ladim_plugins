import LadimProofs.C18
import LadimModel.Release.ConfigSeq
import LadimProofs.Bridge.Runners
/-!
# Bridge (C18, C01) — `load_config`: the container normalisation and the validation *are* the code

`Gen.load_config_seq` is the statement sequence of `release/makrel.py :: load_config` (every statement with its
guards, regenerated from /repo on every run).  Interpreted on a parsed configuration object
(`LadimModel/Release/ConfigSeq.lean`; every statement — also in branches not taken — must be a known one) it returns
exactly `Table.normalise` of the container when `Table.validate` accepts it, and raises otherwise.  Hence
`C18.list_eq_grouped`, `C18.flat_eq_grouped`, `C18.containers_agree` and `C18.invalid_rejected` speak about the
current source: the list container is the grouped container, the flat container is one group without the global
keys `seed` / `columns`, and a configuration with a missing `date` / `location` / `num` is rejected.
-/
open Ladim Ladim.Table Ladim.Seq

set_option linter.auxLemma false

namespace Bridge

/-- outcome of the model: `none` when the validation rejects the configuration (the code raises `ValueError`) -/
def loadConfigSpec (c : Container) : Option (List String × List RawGroup) :=
  if validate c = none then some (normalise c) else none

/-- the filtered enumeration is empty iff no entry satisfies the predicate -/
theorem filter_zip_isEmpty {α β : Type} (p : β → Bool) : ∀ (l₂ : List β) (l₁ : List α), l₁.length = l₂.length →
    ((l₁.zip l₂).filter (fun m => p m.2)).isEmpty = !(l₂.any p)
  | [], l₁, _ => by simp
  | b :: l₂, [], h => by simp at h
  | b :: l₂, a :: l₁, h => by
    have ih := filter_zip_isEmpty p l₂ l₁ (by simpa using h)
    cases hb : p b <;> simp [hb, ih]

/-- `validate` accepts iff no group misses a necessary key (the `any(...)` of the code) -/
theorem validate_eq_none (c : Container) :
    (validate c = none) ↔ (((normalise c).2.map missing).any (fun m => !m.isEmpty) = false) := by
  unfold validate
  have := filter_zip_isEmpty (α := Nat) (fun m : List String => !m.isEmpty) ((normalise c).2.map missing)
    (List.range (normalise c).2.length) (by simp)
  simp only [] at this ⊢
  rw [this]
  cases ((normalise c).2.map missing).any (fun m => !m.isEmpty) <;> simp

/-- the last five statements (from `if any(m for m in not_present)` on), in any state -/
theorem tail_run (s : CfgSt) :
    runStrict cfgAtom cfgStep (Gen.load_config_seq.drop 15) s
      = if s.notPresent.any (fun m => !m.isEmpty) then some none else some (some s) := by
  -- the interpreters as chains of `if … = "…"`, so that `String.reduceEq` decides each test and no text is evaluated
  have hS := cfgStep.eq_def
  unfold cfgStep.match_1 at hS
  have hA := cfgAtom.eq_def
  unfold cfgAtom.match_4 at hA
  cases h : s.notPresent.any (fun m => !m.isEmpty)
  all_goals simp only [Gen.load_config_seq, List.drop_succ_cons, List.drop_zero, Run.runStrict_skip,
    Run.runStrict_exec, Run.runStrict_return, Run.guardVal_cons, Run.guardVal_nil, hS, hA, h, ↓reduceDIte, ↓reduceIte,
    String.reduceEq, String.reduceBEq, Bool.false_or, Option.isSome_some, beq_true, Bool.false_eq_true]

/-- the first fifteen statements, whatever follows them: the container is normalised and `not_present` is `missing`
of every group -/
theorem head_run (c : Container) : ∃ s : CfgSt,
    (∀ rest, runStrict cfgAtom cfgStep (Gen.load_config_seq.take 15 ++ rest) (CfgSt.init c)
      = runStrict cfgAtom cfgStep rest s)
    ∧ s.cfg = .grouped (normalise c).1 (normalise c).2 ∧ s.notPresent = (normalise c).2.map missing := by
  have hS := cfgStep.eq_def
  unfold cfgStep.match_1 at hS
  have hA := cfgAtom.eq_def
  unfold cfgAtom.match_4 at hA
  cases c
  all_goals
    apply Exists.intro
    refine ⟨fun rest => ?_, ?_⟩
    · simp only [Gen.load_config_seq, List.take_succ_cons, List.take_zero, List.cons_append, List.nil_append,
        Run.runStrict_skip, Run.runStrict_exec, Run.guardVal_cons, Run.guardVal_nil, hS, hA, ↓reduceDIte, ↓reduceIte,
        String.reduceEq, String.reduceBEq, Bool.false_or, Option.isSome_some, CfgSt.init, beq_true, beq_false,
        Bool.false_eq_true, Bool.not_false]
      rfl
    · exact ⟨rfl, rfl⟩

theorem load_config (c : Container) :
    (runStrict cfgAtom cfgStep Gen.load_config_seq (CfgSt.init c)).map
        (fun r => r.map (fun s => (match s.cfg with | .grouped gl gs => (gl, gs) | _ => ([], []))))
      = some (loadConfigSpec c) := by
  obtain ⟨s, hrun, hcfg, hnp⟩ := head_run c
  rw [← List.take_append_drop 15 Gen.load_config_seq, hrun, tail_run, hnp]
  unfold loadConfigSpec
  cases h : ((normalise c).2.map missing).any (fun m => !m.isEmpty)
  · have hv : validate c = none := (validate_eq_none c).2 h
    simp only [Bool.false_eq_true, ↓reduceIte, Option.map_some, hcfg, hv]
  · have hv : ¬ validate c = none := fun hv => by
      rw [(validate_eq_none c).1 hv] at h; exact Bool.noConfusion h
    simp only [↓reduceIte, Option.map_some, Option.map_none, hv]

end Bridge
