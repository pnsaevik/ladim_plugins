import LadimProofs.Basic
import Mathlib.Data.Rat.Floor
import LadimProofs.Bridge.SampleSeq
import LadimProofs.Bridge.Runners
import LadimModel.Grid.GridCtorSeq
/-!
# Bridge (C15 / C14) — the constructor and the coordinate helpers of the chemicals `Grid`

`LadimModel/Grid/GridCtorSeq.lean` interprets the generated statement sequences `Gen.chem_grid_ctor_seq`
(`chemicals/gridforce.py :: Grid.__init__`), `Gen.chem_grid_lonlat_seq`, `Gen.chem_grid_onland_seq`,
`Gen.chem_grid_ll2xy_seq` and `Gen.lice_vert_mix_seq` (`salmon_lice/gridforce.py :: Forcing.vert_mix`): every statement,
condition and `return` text must be a known one, also in branches not taken; the loop over `limits` is iterated.
This file proves what the interpretations return.

* `chem_grid_ctor` (no hypotheses): `Grid(config)` = `gridCtorSpec` — the file that is opened (`grid_file`, else the
  first of `input_file`, else the first sorted match of the pattern; `SystemExit` / `IndexError` / `OSError`
  otherwise), `[i0, i1, j0, j1]` (`gcLimits`; `chem_grid_ctor_limits_default / _subgrid / _length`: the entries as given,
  `None` → the entry of `[1, imax - 1, 1, jmax - 1]`, any length but four raises, nothing is compared with the file), the
  s-level data (`gcSLevels`: all from `Vinfo` if configured, else `hc`, `Cs_r`, `Cs_w` from the grid file and
  `Vtransform` from the file or 1), the masks (`gcMasks`), the attributes (`gcBuild`: `xmin = float(i0)`,
  `xmax = float(i1 - 1)`, …, every 2-D array = the file's array sliced `[j0:j1, i0:i1]`).  `chem_grid_ctor_some`: the
  constructor returns an object exactly when these five steps succeed.
  The proof runs the sequence part by part (`gc_runBlocks_append`; the parts are `take` / `drop` of the generated
  blocks; the only statement texts repeated here are the loop with its body, the unpacking and the eleven mask
  statements, each tied to the generated blocks by evaluation).
* `chem_grid_ctor_env`: the attributes that `SampleSeq.GridEnv` takes as parameters.  `chem_grid_ctor_arrays`
  (hypotheses: `GcValid` = `0 ≤ i0 ≤ i1 ≤ imax`, `0 ≤ j0 ≤ j1 ≤ jmax` of the file; the file's 2-D variables have the
  shape of `h`): shapes `(j1 - j0, i1 - i0)` and `H[j - j0, i - i0] = h[j, i]` (`M`, `dx`, `lon`, `lat` alike).
* `chem_grid_ingrid_cell`, `chem_grid_ingrid_sample_depth`, `chem_grid_ctor_sample_depth` (hypotheses: `GcValid`, and
  `GcRoundLaw` — a position strictly within half a cell of an integer range rounds into it; `gc_roundLaw_of_field`
  derives it in an ordered field from `float(n) = n`, `|round x - x| ≤ 1/2`, `int(float(k)) = k`; satisfiable, see the
  example on `ℚ`): `ingrid` of the hand-written model with the constructor's `xmin … ymax` ⇒
  `0 ≤ round(x) - i0 < i1 - i0`, `cellIndex` does not clamp, `Grid.sample_depth` (`Bridge.chem_grid_sample_depth`) is the
  file's `h` at the rounded position.
* `chem_grid_ctor_masks`, `chem_grid_ctor_masks_valid`, `chem_grid_ctor_negative_bounds`: the `Mu` / `Mv` statements are
  the only place where the constructor notices a subgrid that does not fit the file (`ValueError` of the broadcast /
  `IndexError`); they pass exactly when the slices have the lengths `j1 - j0`, `i1 - i0 ≥ 1` — which a *negative* bound
  satisfies as well (Python slices count it from the end): then `xmin = float(i0) < 0` and `H[j - j0, i - i0]` is the
  file's `h[j, i + imax]`.
* `chem_grid_lonlat` (`bilinear`: `xy2ll`, else `lon` / `lat` at `cellIndex`), `chem_grid_onland` (`M < 1` at the
  clamped cell; `chem_grid_onland_not_atsea`: = `¬ atsea` on the integer mask the constructor stores, `gc_int_mask`),
  `chem_grid_ll2xy` (`bilin_inv(…, maxiter=20, tol=1e-20)` returns row first; shifted by `i0`, `j0`), `lice_vert_mix`
  (`z2s` on `z_w`, nearest sampling of `AKs`; `lice_vert_mix_model` with the hand-written `z2sK` / `z2sA`): closed forms,
  no hypotheses (`lice_vert_mix_model`: at least two w-levels).

Core Lean for everything about the sequences (no field or order laws of the scalar type: the statements hold for
`Float`); Mathlib only for `gc_roundLaw_of_field`, `gc_int_mask` and the example on `ℚ`.
-/
open Ladim Ladim.Seq Ladim.Seq.Loops Ladim.SampleSeq Ladim.GridSample Ladim.GridCtorSeq

set_option linter.unusedVariables false
set_option linter.unusedSectionVars false
set_option linter.unusedSimpArgs false
set_option linter.auxLemma false
namespace Bridge

/-! ## the runner: a block list runs part by part -/
section runner
variable {σ : Type}

def gcNoReturn : Block → Bool
  | .plain st => !(st.2.1 == "return")
  | .loop _ _ => true

theorem gc_runBlocks_append (I : Interp σ) (a b : List Block) (h : a.all gcNoReturn = true) (s : σ) :
    runBlocks I (a ++ b) s =
      match runBlocks I a s with
      | none => none
      | some none => some none
      | some (some s') => runBlocks I b s' := by
  induction a generalizing s with
  | nil => rfl
  | cons x xs ih =>
    rw [List.all_cons, Bool.and_eq_true] at h
    obtain ⟨hx, hxs⟩ := h
    cases x with
    | plain st =>
      obtain ⟨g, k, t⟩ := st
      have hk : (k = "return") = False := by
        simp only [gcNoReturn, Bool.not_eq_true', beq_eq_false_iff_ne, ne_eq] at hx
        simpa using hx
      simp only [List.cons_append, runBlocks, hk, if_false]
      rcases guardEnter I s g with _ | _ | s1 <;> dsimp only
      · exact ih hxs s
      · rcases I.step s1 k t with _ | _ | s2 <;> dsimp only
        exact ih hxs s2
    | loop c body =>
      simp only [List.cons_append, runBlocks]
      rcases guardEnter I s (outerGuard I.isLoop body) with _ | _ | s1 <;> dsimp only
      · exact ih hxs s
      · rcases iterate (fun s i => runBody I body (I.bind s c i)) (I.trips s1 c) 0 s1 with _ | _ | s2 <;> dsimp only
        exact ih hxs s2

/-- what `Loops.run` asks of every statement, block by block -/
def gcBlockKnown (I : Interp σ) (s : σ) : Block → Bool
  | .plain st => stmtKnown I s st
  | .loop _ body => body.all (stmtKnown I s)

theorem gc_blocks_known (I : Interp σ) (s : σ) (isLoop : String → Bool) (prog : List Stmt) :
    (blocks isLoop prog).all (gcBlockKnown I s) = prog.all (stmtKnown I s) := by
  induction prog with
  | nil => rfl
  | cons st rest ih =>
    rw [List.all_cons, ← ih, blocks]
    split
    · rfl
    · rename_i h
      rw [h]
      split <;> simp only [List.all_cons, List.all_nil, gcBlockKnown, Bool.and_assoc, Bool.true_and]
    · simp only [List.all_cons, List.all_nil, gcBlockKnown, Bool.and_true]

/-- what every trip keeps (unless it raises), the loop keeps -/
theorem gc_iterate_inv {β : Type} (body : σ → Nat → Option (Option σ)) (φ : σ → β)
    (h : ∀ s i, body s i = some none ∨ ∃ s', body s i = some (some s') ∧ φ s' = φ s) :
    ∀ (n i : Nat) (s : σ), iterate body n i s = some none ∨ ∃ s', iterate body n i s = some (some s') ∧ φ s' = φ s
  | 0, _, s => Or.inr ⟨s, rfl, rfl⟩
  | n + 1, i, s => by
    rcases h s i with h1 | ⟨s', h1, e1⟩
    · exact Or.inl (by simp only [iterate, h1])
    · rcases gc_iterate_inv body φ h n (i + 1) s' with h2 | ⟨s'', h2, e2⟩
      · exact Or.inl (by simp only [iterate, h1, h2])
      · exact Or.inr ⟨s'', by simp only [iterate, h1, h2], e2.trans e1⟩
end runner

section
variable {α : Type} [Add α] [Sub α] [Mul α] [Div α] [Neg α] [LT α] [DecidableLT α]
  [LE α] [DecidableLE α] [OfScientific α] [HasRound α] [HasTrunc α] [HasOfInt α]

/-! ## `Grid.__init__`: the parts of the sequence

Matching a statement text against the sixty-odd texts of `gcStep` is nearly all of the work of a run, and a comparison
of two texts is remembered only within one theorem.  So each part is evaluated in one theorem, which says both that its
texts are known ones (`gcBlockKnown`: `Loops.run` asks that of every statement before anything is run) and what the run
of the part gives; the cases are closed by `eq_refl`, which, unlike `rfl`, keeps the comparisons from case to case. -/

/-- the blocks of the generated sequence (the `for` loop is one block) -/
def gcB : List Block := blocks gcIsLoop Gen.chem_grid_ctor_seq
/-- the grid file is found and opened (14 statements) -/
def gcP1 : List Block := gcB.take 14
/-- `whole_grid`, `limits` (4 statements) -/
def gcP2a : List Block := (gcB.drop 14).take 4
/-- the loop over `limits`, the unpacking -/
def gcP2b : List Block := (gcB.drop 18).take 2
/-- `imax … ymax`, the slices (12 statements) -/
def gcP3 : List Block := (gcB.drop 20).take 12
/-- the s-level data (13 statements) -/
def gcP4 : List Block := (gcB.drop 32).take 13
/-- the arrays of the subgrid, `z_r`, `z_w`, the local `M` (10 statements) -/
def gcP5a : List Block := (gcB.drop 45).take 10
/-- `Mu`, `Mv`, `ncid.close()` (11 statements) -/
def gcP5b : List Block := gcB.drop 55

theorem gcB_split : gcB = gcP1 ++ (gcP2a ++ (gcP2b ++ (gcP3 ++ (gcP4 ++ (gcP5a ++ gcP5b))))) := by eq_refl

theorem gc_part_noReturn (i n : Nat) : ((gcB.drop i).take n).all gcNoReturn = true := by
  have h : gcB.all gcNoReturn = true := by decide +kernel
  exact List.all_eq_true.mpr fun b hb =>
    List.all_eq_true.mp h b (List.mem_of_mem_drop (List.mem_of_mem_take hb))

/-! ### part 1: the grid file -/

def gcPatOf (cfg : GcConfig α) : Option (GcPattern α) := if cfg.gridFile.isSome then none else cfg.inputFile
def gcFilesOf (cfg : GcConfig α) : Option (List (GcFileRef α)) :=
  match cfg.gridFile, cfg.inputFile with
  | none, some (.files fs) => some fs
  | none, some (.pattern _ found) => some found
  | _, _ => none

def gcS1 (ref : GcFileRef α) (pat : Option (GcPattern α)) (files : Option (List (GcFileRef α))) (f : GcFile α) : GcSt α :=
  { gridFile := some ref, pat := pat, files := files, ncid := some f }

theorem gc_phase1 (E : GcEnv α) (cfg : GcConfig α) :
    gcP1.all (gcBlockKnown (gcInterp E cfg) GcSt.init) = true ∧
    runBlocks (gcInterp E cfg) gcP1 GcSt.init =
      match gcGridFileOf cfg with
      | none => some none
      | some ref =>
        match ref.content with
        | none => some none
        | some f => some (some (gcS1 ref (gcPatOf cfg) (gcFilesOf cfg) f)) := by
  refine ⟨by eq_refl, ?_⟩
  obtain ⟨gf, inf, sg, vi⟩ := cfg
  cases gf with
  | some ref =>
    obtain ⟨nm, mem, ct⟩ := ref
    cases mem <;> cases ct <;> eq_refl
  | none =>
    cases inf with
    | none => eq_refl
    | some p =>
      cases p with
      | files fs =>
        cases fs with
        | nil => eq_refl
        | cons ref rest =>
          obtain ⟨nm, mem, ct⟩ := ref
          cases mem <;> cases ct <;> eq_refl
      | pattern pt fs =>
        cases fs with
        | nil => eq_refl
        | cons ref rest =>
          obtain ⟨nm, mem, ct⟩ := ref
          cases mem <;> cases ct <;> eq_refl

/-! ### part 2: the limits of the subgrid -/

/-- after `limits` is assigned (`L`: the list before the loop) -/
def gcS2a (ref : GcFileRef α) (pat : Option (GcPattern α)) (files : Option (List (GcFileRef α))) (f : GcFile α)
    (L : List (Option Int)) : GcSt α :=
  { gcS1 ref pat files f with
    jmaxF := some (f.h.jmax : Int), imaxF := some (f.h.imax : Int),
    wholeGrid := some [1, (f.h.imax : Int) - 1, 1, (f.h.jmax : Int) - 1], limits := some L }

theorem gc_phase2a (E : GcEnv α) (cfg : GcConfig α) :
    gcP2a.all (gcBlockKnown (gcInterp E cfg) GcSt.init) = true ∧
    ∀ (ref : GcFileRef α) (pat : Option (GcPattern α)) (files : Option (List (GcFileRef α))) (f : GcFile α),
      runBlocks (gcInterp E cfg) gcP2a (gcS1 ref pat files f) =
        some (some (gcS2a ref pat files f
          (cfg.subgrid.getD ([1, (f.h.imax : Int) - 1, 1, (f.h.jmax : Int) - 1].map some)))) := by
  refine ⟨by eq_refl, fun ref pat files f => ?_⟩
  obtain ⟨gf, inf, sg, vi⟩ := cfg
  cases sg <;> eq_refl

/-- after the subgrid limits are unpacked (`ind`, `val`: the loop variables after the last trip) -/
def gcS2 (ref : GcFileRef α) (pat : Option (GcPattern α)) (files : Option (List (GcFileRef α))) (f : GcFile α)
    (lim : Int × Int × Int × Int) (ind : Nat) (val : Option Int) : GcSt α :=
  { gcS2a ref pat files f [some lim.1, some lim.2.1, some lim.2.2.1, some lim.2.2.2] with
    ind := ind, val := val, i0 := some lim.1, i1 := some lim.2.1, j0 := some lim.2.2.1, j1 := some lim.2.2.2 }

def gcHdr : String := "for (ind, val) in enumerate(limits)"
def gcBody : List Stmt := [([(true, gcHdr), (true, "val is None")], "assign", "limits[ind] = whole_grid[ind]")]
def gcUnpack : Stmt := ([], "assign", "self.i0, self.i1, self.j0, self.j1 = limits")

theorem gcP2b_eq : gcP2b = [.loop gcHdr gcBody, .plain gcUnpack] := by eq_refl

/-- one trip of the loop -/
def gcTrip (E : GcEnv α) (cfg : GcConfig α) (s : GcSt α) (i : Nat) : Option (Option (GcSt α)) :=
  runBody (gcInterp E cfg) gcBody ((gcInterp E cfg).bind s gcHdr i)

/-- a trip raises, or keeps the length of `limits` -/
theorem gc_trip_inv (E : GcEnv α) (cfg : GcConfig α) (s : GcSt α) (i : Nat) :
    gcTrip E cfg s i = some none ∨
      ∃ s', gcTrip E cfg s i = some (some s') ∧ s'.limits.map List.length = s.limits.map List.length := by
  have hloop : (gcInterp E cfg).isLoop gcHdr = true := by eq_refl
  have hnl : (gcInterp E cfg).isLoop "val is None" = false := by eq_refl
  have hcond : ∀ s : GcSt α, (gcInterp E cfg).cond s "val is None" = some (s.val.isNone, s) := fun s => by eq_refl
  have hstep : ∀ s : GcSt α, (gcInterp E cfg).step s "assign" "limits[ind] = whole_grid[ind]" =
      some (s.limits.bind fun l => s.wholeGrid.bind fun w => w[s.ind]?.map fun x =>
        { s with limits := some (l.set s.ind (some x)) }) := fun s => by eq_refl
  have hk : ("assign" = "return") = False := by decide
  have hb : ((gcInterp E cfg).bind s gcHdr i).limits = s.limits := rfl
  unfold gcTrip gcBody
  rw [← hb]
  generalize (gcInterp E cfg).bind s gcHdr i = t
  simp only [runBody, guardEnter, hloop, hnl, if_true, hcond, hk, if_false, hstep, Bool.false_eq_true]
  cases t.val with
  | some v => exact Or.inr ⟨_, rfl, rfl⟩
  | none =>
    simp only [Option.isNone_none, beq_self_eq_true, if_true]
    cases t.limits with
    | none => exact Or.inl rfl
    | some l =>
      cases t.wholeGrid with
      | none => exact Or.inl rfl
      | some w =>
        simp only [Option.bind_some]
        cases w[t.ind]? with
        | none => exact Or.inl rfl
        | some x => exact Or.inr ⟨_, rfl, congrArg some List.length_set⟩

/-- `limits` without exactly four entries: `IndexError` in the loop (a `None` beyond the fourth entry) or `ValueError` at
the unpacking -/
theorem gc_phase2b_raise (E : GcEnv α) (cfg : GcConfig α) (s : GcSt α) (h : s.limits.map List.length ≠ some 4) :
    runBlocks (gcInterp E cfg) gcP2b s = some none := by
  have hunpack : ∀ s : GcSt α, s.limits.map List.length ≠ some 4 →
      (gcInterp E cfg).step s gcUnpack.2.1 gcUnpack.2.2 = some none := by
    intro s h
    show some (match s.limits with
      | some [some a, some b, some c, some d] => some { s with i0 := some a, i1 := some b, j0 := some c, j1 := some d }
      | _ => none) = some none
    split
    · next hl => exact absurd (congrArg (Option.map List.length) hl) h
    · rfl
  have hg : guardEnter (gcInterp E cfg) s (outerGuard (gcInterp E cfg).isLoop gcBody) = some (some s) := by eq_refl
  have ht : (fun s i => runBody (gcInterp E cfg) gcBody ((gcInterp E cfg).bind s gcHdr i)) = gcTrip E cfg := rfl
  rw [gcP2b_eq]
  simp only [runBlocks, hg, ht]
  rcases gc_iterate_inv _ (fun s : GcSt α => s.limits.map List.length) (gc_trip_inv E cfg)
    ((gcInterp E cfg).trips s gcHdr) 0 s with h1 | ⟨s', h1, e⟩
  · rw [h1]
  · simp only [h1, show gcUnpack.1 = [] from rfl, guardEnter, hunpack s' (e ▸ h)]

theorem gc_phase2b (E : GcEnv α) (cfg : GcConfig α) :
    gcP2b.all (gcBlockKnown (gcInterp E cfg) GcSt.init) = true ∧
    ∀ (ref : GcFileRef α) (pat : Option (GcPattern α)) (files : Option (List (GcFileRef α))) (f : GcFile α)
      (L : List (Option Int)),
      runBlocks (gcInterp E cfg) gcP2b (gcS2a ref pat files f L) =
        match L with
        | [a, b, c, d] => some (some (gcS2 ref pat files f
            (a.getD 1, b.getD ((f.h.imax : Int) - 1), c.getD 1, d.getD ((f.h.jmax : Int) - 1)) 3 d))
        | _ => some none := by
  refine ⟨by eq_refl, fun ref pat files f L => ?_⟩
  match L with
  | [a, b, c, d] => cases a <;> cases b <;> cases c <;> cases d <;> eq_refl
  | [] | [_] | [_, _] | [_, _, _] | _ :: _ :: _ :: _ :: _ :: _ =>
    exact gc_phase2b_raise E cfg _ (by simp [gcS2a])

/-! ### parts 3 to 5: the slices, the s-level data, the arrays of the subgrid and the masks -/

def gcS3 (ref : GcFileRef α) (pat : Option (GcPattern α)) (files : Option (List (GcFileRef α))) (f : GcFile α)
    (lim : Int × Int × Int × Int) (ind : Nat) (val : Option Int) : GcSt α :=
  { gcS2 ref pat files f lim ind val with
    imax := some (lim.2.1 - lim.1), jmax := some (lim.2.2.2 - lim.2.2.1),
    xmin := some (ofInt lim.1), xmax := some (ofInt (lim.2.1 - 1)),
    ymin := some (ofInt lim.2.2.1), ymax := some (ofInt (lim.2.2.2 - 1)),
    I := some (lim.1, lim.2.1), J := some (lim.2.2.1, lim.2.2.2), Iu := some (lim.1 - 1, lim.2.1),
    Ju := some (lim.2.2.1, lim.2.2.2), Iv := some (lim.1, lim.2.1), Jv := some (lim.2.2.1 - 1, lim.2.2.2) }

def gcS4 (cfg : GcConfig α) (ref : GcFileRef α) (pat : Option (GcPattern α)) (files : Option (List (GcFileRef α)))
    (f : GcFile α) (lim : Int × Int × Int × Int) (ind : Nat) (val : Option Int) (sl : GcSLevels α) : GcSt α :=
  { gcS3 ref pat files f lim ind val with
    vinfo := cfg.vinfo, N := some sl.N, hc := some sl.hc, Vstretching := sl.Vstretching,
    Vtransform := some sl.Vtransform, Cs_r := some sl.Cs_r, Cs_w := some sl.Cs_w }

def gcS5 (E : GcEnv α) (cfg : GcConfig α) (ref : GcFileRef α) (pat : Option (GcPattern α))
    (files : Option (List (GcFileRef α))) (f : GcFile α) (lim : Int × Int × Int × Int) (ind : Nat) (val : Option Int)
    (sl : GcSLevels α) : GcSt α :=
  let J := (lim.2.2.1, lim.2.2.2)
  let I := (lim.1, lim.2.1)
  { gcS4 cfg ref pat files f lim ind val sl with
    H := some (gcSlice f.h J I), M := some (gcMaskOf f lim),
    dx := some (gcMap (fun v => 1.0 / v) (gcSlice f.pm J I)), dy := some (gcMap (fun v => 1.0 / v) (gcSlice f.pn J I)),
    lon := some (gcSlice f.lon_rho J I), lat := some (gcSlice f.lat_rho J I), angle := some (gcSlice f.angle J I),
    z_r := some (E.sdepth (gcSlice f.h J I) sl.hc sl.Cs_r true sl.Vtransform),
    z_w := some (E.sdepth (gcSlice f.h J I) sl.hc sl.Cs_w false sl.Vtransform),
    Mloc := some (gcMaskOf f lim) }

/-- the statements that fill the masks at the u- and v-points and close the file, spelled out -/
def gcMaskStmts : List Block := [
  .plain ([], "assign", "Mu = np.zeros((self.jmax, self.imax + 1), dtype=int)"),
  .plain ([], "assign", "Mu[:, 1:-1] = M[:, :-1] * M[:, 1:]"),
  .plain ([], "assign", "Mu[:, 0] = M[:, 0]"),
  .plain ([], "assign", "Mu[:, -1] = M[:, -1]"),
  .plain ([], "assign", "self.Mu = Mu"),
  .plain ([], "assign", "Mv = np.zeros((self.jmax + 1, self.imax), dtype=int)"),
  .plain ([], "assign", "Mv[1:-1, :] = M[:-1, :] * M[1:, :]"),
  .plain ([], "assign", "Mv[0, :] = M[0, :]"),
  .plain ([], "assign", "Mv[-1, :] = M[-1, :]"),
  .plain ([], "assign", "self.Mv = Mv"),
  .plain ([], "expr", "ncid.close()")]

/-- the statements after the unpacking of the limits -/
theorem gc_tail (E : GcEnv α) (cfg : GcConfig α) :
    (gcP3 ++ (gcP4 ++ (gcP5a ++ gcP5b))).all (gcBlockKnown (gcInterp E cfg) GcSt.init) = true ∧
    ∀ (ref : GcFileRef α) (pat : Option (GcPattern α)) (files : Option (List (GcFileRef α))) (f : GcFile α)
      (lim : Int × Int × Int × Int) (ind : Nat) (val : Option Int),
    gcFinish (runBlocks (gcInterp E cfg) (gcP3 ++ (gcP4 ++ (gcP5a ++ gcP5b))) (gcS2 ref pat files f lim ind val))
      = some ((gcSLevels E cfg f).bind fun sl =>
          (gcMasks (lim.2.2.2 - lim.2.2.1) (lim.2.1 - lim.1) (gcMaskOf f lim)).map fun masks =>
            gcBuild E ref f lim sl masks) := by
  refine ⟨by eq_refl, fun ref pat files f lim ind val => ?_⟩
  have h3 : runBlocks (gcInterp E cfg) gcP3 (gcS2 ref pat files f lim ind val) =
      some (some (gcS3 ref pat files f lim ind val)) := by eq_refl
  have h4 : runBlocks (gcInterp E cfg) gcP4 (gcS3 ref pat files f lim ind val) =
      match gcSLevels E cfg f with
      | none => some none
      | some sl => some (some (gcS4 cfg ref pat files f lim ind val sl)) := by
    obtain ⟨gf, inf, sg, vi⟩ := cfg
    cases vi with
    | some v => eq_refl
    | none =>
      obtain ⟨h, mask, pm, pn, lon, lat, ang, hc, csr, csw, vt⟩ := f
      cases hc with
      | none => eq_refl
      | some hc =>
        cases csr with
        | none => eq_refl
        | some csr =>
          cases csw with
          | none => eq_refl
          | some csw => cases vt <;> eq_refl
  have h5a : ∀ sl, runBlocks (gcInterp E cfg) gcP5a (gcS4 cfg ref pat files f lim ind val sl) =
      some (some (gcS5 E cfg ref pat files f lim ind val sl)) := fun sl => by eq_refl
  -- the masks: what each statement does, then the options one after the other as in `gcMasks`
  have h5b : ∀ sl, runBlocks (gcInterp E cfg) gcP5b (gcS5 E cfg ref pat files f lim ind val sl) =
      match gcMasks (lim.2.2.2 - lim.2.2.1) (lim.2.1 - lim.1) (gcMaskOf f lim) with
      | none => some none
      | some masks => some (some { gcS5 E cfg ref pat files f lim ind val sl with
          MuLoc := some masks.1, Mu := some masks.1, MvLoc := some masks.2, Mv := some masks.2, closed := true }) := by
    intro sl
    have k1 : ("assign" = "return") = False := by decide
    have k2 : ("expr" = "return") = False := by decide
    have s1 : ∀ s : GcSt α, (gcInterp E cfg).step s "assign" "Mu = np.zeros((self.jmax, self.imax + 1), dtype=int)" =
      some (s.jmax.bind fun jm => s.imax.bind fun im => (gcZeros? jm (im + 1)).map fun z => { s with MuLoc := some z }) :=
      fun _ => by eq_refl
    have s2 : ∀ s : GcSt α, (gcInterp E cfg).step s "assign" "Mu[:, 1:-1] = M[:, :-1] * M[:, 1:]" =
      some (s.MuLoc.bind fun mu => s.Mloc.bind fun m => (gcSetInnerCols? mu m).map fun z => { s with MuLoc := some z }) :=
      fun _ => by eq_refl
    have s3 : ∀ s : GcSt α, (gcInterp E cfg).step s "assign" "Mu[:, 0] = M[:, 0]" =
      some (s.MuLoc.bind fun mu => s.Mloc.bind fun m => (gcSetFirstCol? mu m).map fun z => { s with MuLoc := some z }) :=
      fun _ => by eq_refl
    have s4 : ∀ s : GcSt α, (gcInterp E cfg).step s "assign" "Mu[:, -1] = M[:, -1]" =
      some (s.MuLoc.bind fun mu => s.Mloc.bind fun m => (gcSetLastCol? mu m).map fun z => { s with MuLoc := some z }) :=
      fun _ => by eq_refl
    have s5 : ∀ s : GcSt α, (gcInterp E cfg).step s "assign" "self.Mu = Mu" =
      some (s.MuLoc.map fun mu => { s with Mu := some mu }) := fun _ => by eq_refl
    have s6 : ∀ s : GcSt α, (gcInterp E cfg).step s "assign" "Mv = np.zeros((self.jmax + 1, self.imax), dtype=int)" =
      some (s.jmax.bind fun jm => s.imax.bind fun im => (gcZeros? (jm + 1) im).map fun z => { s with MvLoc := some z }) :=
      fun _ => by eq_refl
    have s7 : ∀ s : GcSt α, (gcInterp E cfg).step s "assign" "Mv[1:-1, :] = M[:-1, :] * M[1:, :]" =
      some (s.MvLoc.bind fun mv => s.Mloc.bind fun m => (gcSetInnerRows? mv m).map fun z => { s with MvLoc := some z }) :=
      fun _ => by eq_refl
    have s8 : ∀ s : GcSt α, (gcInterp E cfg).step s "assign" "Mv[0, :] = M[0, :]" =
      some (s.MvLoc.bind fun mv => s.Mloc.bind fun m => (gcSetFirstRow? mv m).map fun z => { s with MvLoc := some z }) :=
      fun _ => by eq_refl
    have s9 : ∀ s : GcSt α, (gcInterp E cfg).step s "assign" "Mv[-1, :] = M[-1, :]" =
      some (s.MvLoc.bind fun mv => s.Mloc.bind fun m => (gcSetLastRow? mv m).map fun z => { s with MvLoc := some z }) :=
      fun _ => by eq_refl
    have s10 : ∀ s : GcSt α, (gcInterp E cfg).step s "assign" "self.Mv = Mv" =
      some (s.MvLoc.map fun mv => { s with Mv := some mv }) := fun _ => by eq_refl
    have s11 : ∀ s : GcSt α, (gcInterp E cfg).step s "expr" "ncid.close()" =
      some (s.ncid.map fun _ => { s with closed := true }) := fun _ => by eq_refl
    have hj : (gcS5 E cfg ref pat files f lim ind val sl).jmax = some (lim.2.2.2 - lim.2.2.1) := rfl
    have hi : (gcS5 E cfg ref pat files f lim ind val sl).imax = some (lim.2.1 - lim.1) := rfl
    have hm : (gcS5 E cfg ref pat files f lim ind val sl).Mloc = some (gcMaskOf f lim) := rfl
    have hn : (gcS5 E cfg ref pat files f lim ind val sl).ncid = some f := rfl
    rw [show gcP5b = gcMaskStmts by eq_refl]
    generalize gcS5 E cfg ref pat files f lim ind val sl = s at hj hi hm hn ⊢
    unfold gcMaskStmts gcMasks
    simp only [runBlocks, guardEnter, k1, k2, if_false, s1, hj, hi, Option.bind_some]
    cases gcZeros? (lim.2.2.2 - lim.2.2.1) (lim.2.1 - lim.1 + 1) with
    | none => rfl
    | some u0 =>
      simp only [Option.map_some, Option.bind_some, s2, hm]
      cases gcSetInnerCols? u0 (gcMaskOf f lim) with
      | none => rfl
      | some u1 =>
        simp only [Option.map_some, Option.bind_some, s3, hm]
        cases gcSetFirstCol? u1 (gcMaskOf f lim) with
        | none => rfl
        | some u2 =>
          simp only [Option.map_some, Option.bind_some, s4, hm]
          cases gcSetLastCol? u2 (gcMaskOf f lim) with
          | none => rfl
          | some mu =>
            simp only [Option.map_some, Option.bind_some, s5, s6, hj, hi]
            cases gcZeros? (lim.2.2.2 - lim.2.2.1 + 1) (lim.2.1 - lim.1) with
            | none => rfl
            | some v0 =>
              simp only [Option.map_some, Option.bind_some, s7, hm]
              cases gcSetInnerRows? v0 (gcMaskOf f lim) with
              | none => rfl
              | some v1 =>
                simp only [Option.map_some, Option.bind_some, s8, hm]
                cases gcSetFirstRow? v1 (gcMaskOf f lim) with
                | none => rfl
                | some v2 =>
                  simp only [Option.map_some, Option.bind_some, s9, hm]
                  cases gcSetLastRow? v2 (gcMaskOf f lim) with
                  | none => rfl
                  | some mv => simp only [Option.map_some, Option.bind_some, s10, s11, hn]
  rw [gc_runBlocks_append _ gcP3 _ (gc_part_noReturn 20 12), h3]
  dsimp only
  rw [gc_runBlocks_append _ gcP4 _ (gc_part_noReturn 32 13), h4]
  cases gcSLevels E cfg f with
  | none => rfl
  | some sl =>
    dsimp only
    rw [gc_runBlocks_append _ gcP5a _ (gc_part_noReturn 45 10), h5a]
    dsimp only
    rw [h5b]
    cases gcMasks (lim.2.2.2 - lim.2.2.1) (lim.2.1 - lim.1) (gcMaskOf f lim) with
    | none => rfl
    | some masks => eq_refl

/-! ### the whole constructor -/

/-- every statement and condition text of the sequence is one the interpretation knows -/
theorem gc_known (E : GcEnv α) (cfg : GcConfig α) :
    Gen.chem_grid_ctor_seq.all (stmtKnown (gcInterp E cfg) GcSt.init) = true := by
  rw [← gc_blocks_known _ _ gcIsLoop]
  show gcB.all _ = true
  have h := (gc_tail E cfg).1
  rw [gcB_split]
  simp only [List.all_append, Bool.and_eq_true] at h ⊢
  exact ⟨(gc_phase1 E cfg).1, (gc_phase2a E cfg).1, (gc_phase2b E cfg).1, h⟩

/-- **`Grid.__init__`**: the interpretation of the generated sequence `Gen.chem_grid_ctor_seq` is the closed form
`gridCtorSpec` (no hypotheses): which file is opened (`gcGridFileOf`), `[i0, i1, j0, j1]` (`gcLimits`), the s-level data
(`gcSLevels`), the masks (`gcMasks`), the attributes (`gcBuild`); `none` = the constructor raises -/
theorem chem_grid_ctor (E : GcEnv α) (cfg : GcConfig α) : gridCtor E cfg = some (gridCtorSpec E cfg) := by
  unfold gridCtor gridCtorSeq Loops.run
  rw [if_pos (gc_known E cfg)]
  show gcFinish (runBlocks (gcInterp E cfg) gcB GcSt.init) = _
  rw [gcB_split, gc_runBlocks_append _ gcP1 _ (gc_part_noReturn 0 14), (gc_phase1 E cfg).2]
  unfold gridCtorSpec
  cases gcGridFileOf cfg with
  | none => rfl
  | some ref =>
    obtain ⟨nm, mem, ct⟩ := ref
    cases ct with
    | none => rfl
    | some f =>
      dsimp only [Option.bind]
      generalize hr : GcFileRef.mk nm mem (some f) = ref
      rw [gc_runBlocks_append _ gcP2a _ (gc_part_noReturn 14 4), (gc_phase2a E cfg).2]
      dsimp only
      rw [gc_runBlocks_append _ gcP2b _ (gc_part_noReturn 18 2), (gc_phase2b E cfg).2]
      cases cfg.subgrid with
      | none => exact (gc_tail E cfg).2 ref _ _ f _ _ _
      | some l =>
        match l with
        | [a, b, c, d] => exact (gc_tail E cfg).2 ref _ _ f _ _ _
        | [] | [_] | [_, _] | [_, _, _] | _ :: _ :: _ :: _ :: _ :: _ => rfl

/-! ## the methods

Run statement by statement (`Bridge.Run`); a call of a function with a sequence of its own is rewritten with that
function's theorem. -/

theorem chem_grid_lonlat (nextafter0 : α → α) (sample2D : Arr2 α → α → α → α) (g : GridEnv α) (X Y : α)
    (bilinear : Bool) :
    gcLonlatSeq nextafter0 sample2D g X Y bilinear = some (some (gcLonlatSpec nextafter0 sample2D g X Y bilinear)) := by
  delta gcLonlatSeq Gen.chem_grid_lonlat_seq gcLonlatStep gcLonlatStep.match_1 gcLonlatRet gcLonlatRet.match_1
    gcLonlatAtom gcLonlatAtom.match_1
  cases bilinear
  · rw [Run.runRet_skip_return (by simp only [↓reduceDIte]; rfl) (by simp only [↓reduceDIte, chem_grid_xy2ll]; rfl)]
    repeat rw [Run.runRet_assign (Run.guardVal_pos (by simp only [↓reduceDIte]))
      (by simp only [String.reduceEq, ↓reduceDIte, chem_clamp_index]; rfl)]
    exact Run.runRet_return (Run.guardVal_pos (by simp only [↓reduceDIte]))
      (by simp only [String.reduceEq, ↓reduceDIte]; rfl) rfl
  · refine Run.runRet_return (Run.guardVal_pos (by simp only [↓reduceDIte]))
      (by simp only [↓reduceDIte, chem_grid_xy2ll]; rfl) ?_
    iterate 3 refine Run.allKnown_cons (Run.stmtKnown_assign (Run.guardKnown_one (by simp only [↓reduceDIte]; rfl))
      (by simp only [String.reduceEq, ↓reduceDIte]; rfl)) ?_
    exact Run.allKnown_cons (Run.stmtKnown_return (Run.guardKnown_one (by simp only [↓reduceDIte]; rfl))
      (by simp only [String.reduceEq, ↓reduceDIte]; rfl)) rfl

theorem chem_grid_onland (g : GridEnv α) (X Y : α) :
    gcOnlandSeq g X Y = some (some (decide (g.M.atCell g.i0 g.j0 X Y < 1.0))) := by
  delta gcOnlandSeq Gen.chem_grid_onland_seq cellStep cellStep.match_1 gcOnlandRet gcOnlandRet.match_1
  repeat rw [Run.runRet_assign rfl (by simp only [String.reduceEq, ↓reduceDIte, chem_clamp_index]; rfl)]
  exact Run.runRet_return rfl (by simp only [↓reduceDIte]; rfl) rfl

theorem chem_grid_ll2xy (bilinInv : α → α → Arr2 α → Arr2 α → α × α) (g : GridEnv α) (lon lat : α) :
    gcLl2xySeq bilinInv g lon lat = some (some (gcLl2xySpec bilinInv g lon lat)) := by
  delta gcLl2xySeq Gen.chem_grid_ll2xy_seq gcLl2xyStep gcLl2xyStep.match_1 gcLl2xyRet gcLl2xyRet.match_1
  rw [Run.runRet_assign rfl (by simp only [↓reduceDIte]; rfl)]
  exact Run.runRet_return rfl (by simp only [↓reduceDIte]; rfl) rfl

theorem lice_vert_mix (g : GridEnv α) (attr : String → Arr3 α) (X Y Z : α) :
    gcVertMixSeq g attr X Y Z = some (some (gcVertMixSpec g attr X Y Z)) := by
  delta gcVertMixSeq Gen.lice_vert_mix_seq gcVertMixStep gcVertMixStep.match_1 fieldRet fieldRet.match_1
  repeat rw [Run.runRet_assign rfl (by simp only [String.reduceEq, ↓reduceDIte, chem_z2s_spec]; rfl)]
  exact Run.runRet_return rfl (by simp only [↓reduceDIte, chem_sample3D_nearest]; rfl) rfl

theorem lice_vert_mix_model (g : GridEnv α) (attr : String → Arr3 α) (X Y Z zero : α) (hk : 2 ≤ g.z_w.kmax) :
    gcVertMixSeq g attr X Y Z = some (some (gcVertMixSpecWith (z2sModel zero) g attr X Y Z)) := by
  rw [lice_vert_mix]
  unfold gcVertMixSpec gcVertMixSpecWith
  simp only [chem_z2s_model g.z_w _ _ Z zero hk]


/-! ## what the constructed grid gives the sampling methods -/

theorem gc_slice_inside {β : Type} (F : Arr2 β) (j0 j1 i0 i1 : Int)
    (hj : 0 ≤ j0 ∧ j0 ≤ j1 ∧ j1 ≤ F.jmax) (hi : 0 ≤ i0 ∧ i0 ≤ i1 ∧ i1 ≤ F.imax) :
    ((gcSlice F (j0, j1) (i0, i1)).jmax : Int) = j1 - j0 ∧ ((gcSlice F (j0, j1) (i0, i1)).imax : Int) = i1 - i0 ∧
    ∀ j i, (gcSlice F (j0, j1) (i0, i1)).get j i = F.get (j0 + j) (i0 + i) := by
  have b : ∀ (n : Nat) (a : Int), 0 ≤ a → a ≤ n → gcPyBound n a = a := by
    intro n a h0 h1
    unfold gcPyBound
    split <;> omega
  refine ⟨?_, ?_, ?_⟩
  · simp only [gcSlice, gcSliceLen, b F.jmax j0 hj.1 (by omega), b F.jmax j1 (by omega) hj.2.2]
    omega
  · simp only [gcSlice, gcSliceLen, b F.imax i0 hi.1 (by omega), b F.imax i1 (by omega) hi.2.2]
    omega
  · intro j i
    simp only [gcSlice, gcSliceStart, b F.jmax j0 hj.1 (by omega), b F.imax i0 hi.1 (by omega)]


/-- what the sampling code needs of `round` / `.astype(int)` / `float(·)`: a position strictly within half a cell of
the integer range `[a, b]` rounds into it -/
def GcRoundLaw (α : Type) [Add α] [Sub α] [LT α] [OfScientific α] [HasRound α] [HasTrunc α] [HasOfInt α] : Prop :=
  ∀ (x : α) (a b : Int), ofInt a - 0.5 < x → x < ofInt b + 0.5 → a ≤ trunc (round x) ∧ trunc (round x) ≤ b

/-- a valid subgrid of the file `f` (what the comment in the code asks for, weakened to what the slices need) -/
def GcValid (f : GcFile α) (lim : Int × Int × Int × Int) : Prop :=
  (0 ≤ lim.1 ∧ lim.1 ≤ lim.2.1 ∧ lim.2.1 ≤ f.h.imax) ∧ (0 ≤ lim.2.2.1 ∧ lim.2.2.1 ≤ lim.2.2.2 ∧ lim.2.2.2 ≤ f.h.jmax)

/-- the attributes `SampleSeq.GridEnv` takes as parameters, as the constructor sets them -/
theorem chem_grid_ctor_env (E : GcEnv α) (ref : GcFileRef α) (f : GcFile α) (lim : Int × Int × Int × Int)
    (sl : GcSLevels α) (mk : Arr2 Int × Arr2 Int) :
    let g := (gcBuild E ref f lim sl mk).env
    g.i0 = lim.1 ∧ g.j0 = lim.2.2.1 ∧
    g.xmin = ofInt lim.1 ∧ g.xmax = ofInt (lim.2.1 - 1) ∧ g.ymin = ofInt lim.2.2.1 ∧ g.ymax = ofInt (lim.2.2.2 - 1) ∧
    g.H = gcSlice f.h (lim.2.2.1, lim.2.2.2) (lim.1, lim.2.1) ∧
    g.M = gcMap ofInt (gcMap trunc (gcSlice f.mask_rho (lim.2.2.1, lim.2.2.2) (lim.1, lim.2.1))) ∧
    g.dx = gcMap (fun v => 1.0 / v) (gcSlice f.pm (lim.2.2.1, lim.2.2.2) (lim.1, lim.2.1)) ∧
    g.lon = gcSlice f.lon_rho (lim.2.2.1, lim.2.2.2) (lim.1, lim.2.1) ∧
    g.lat = gcSlice f.lat_rho (lim.2.2.1, lim.2.2.2) (lim.1, lim.2.1) ∧
    g.z_r = E.sdepth g.H sl.hc sl.Cs_r true sl.Vtransform ∧ g.z_w = E.sdepth g.H sl.hc sl.Cs_w false sl.Vtransform ∧
    g.nCsw = sl.Cs_w.length :=
  ⟨rfl, rfl, rfl, rfl, rfl, rfl, rfl, rfl, rfl, rfl, rfl, rfl, rfl, rfl⟩

/-- for a valid subgrid the stored arrays are the file arrays restricted to `[j0:j1, i0:i1]`: shape
`(j1 - j0, i1 - i0)`, and `H[j - j0, i - i0]` is the file's `h[j, i]` -/
theorem chem_grid_ctor_arrays (E : GcEnv α) (ref : GcFileRef α) (f : GcFile α) (lim : Int × Int × Int × Int)
    (sl : GcSLevels α) (mk : Arr2 Int × Arr2 Int) (hv : GcValid f lim)
    (hshape : ∀ A : Arr2 α, A ∈ [f.mask_rho, f.pm, f.lon_rho, f.lat_rho] → A.jmax = f.h.jmax ∧ A.imax = f.h.imax) :
    let g := (gcBuild E ref f lim sl mk).env
    (∀ A : Arr2 α, A ∈ [g.H, g.M, g.dx, g.lon, g.lat] →
      (A.jmax : Int) = lim.2.2.2 - lim.2.2.1 ∧ (A.imax : Int) = lim.2.1 - lim.1) ∧
    ∀ j i : Int,
      g.H.get (j - g.j0) (i - g.i0) = f.h.get j i ∧
      g.M.get (j - g.j0) (i - g.i0) = ofInt (trunc (f.mask_rho.get j i)) ∧
      g.dx.get (j - g.j0) (i - g.i0) = 1.0 / f.pm.get j i ∧
      g.lon.get (j - g.j0) (i - g.i0) = f.lon_rho.get j i ∧
      g.lat.get (j - g.j0) (i - g.i0) = f.lat_rho.get j i := by
  obtain ⟨i0, i1, j0, j1⟩ := lim
  obtain ⟨hi, hj⟩ := hv
  simp only at hi hj
  have hm := hshape f.mask_rho (by simp)
  have hp := hshape f.pm (by simp)
  have hlo := hshape f.lon_rho (by simp)
  have hla := hshape f.lat_rho (by simp)
  have sh := gc_slice_inside f.h j0 j1 i0 i1 hj hi
  have sm := gc_slice_inside f.mask_rho j0 j1 i0 i1 (by rw [hm.1]; exact hj) (by rw [hm.2]; exact hi)
  have sp := gc_slice_inside f.pm j0 j1 i0 i1 (by rw [hp.1]; exact hj) (by rw [hp.2]; exact hi)
  have slo := gc_slice_inside f.lon_rho j0 j1 i0 i1 (by rw [hlo.1]; exact hj) (by rw [hlo.2]; exact hi)
  have sla := gc_slice_inside f.lat_rho j0 j1 i0 i1 (by rw [hla.1]; exact hj) (by rw [hla.2]; exact hi)
  have e : ∀ a b : Int, a + (b - a) = b := by intro a b; omega
  refine ⟨?_, ?_⟩
  · intro A hA
    simp only [List.mem_cons, List.not_mem_nil, or_false] at hA
    rcases hA with h | h | h | h | h <;> subst h
    · exact ⟨sh.1, sh.2.1⟩
    · exact ⟨sm.1, sm.2.1⟩
    · exact ⟨sp.1, sp.2.1⟩
    · exact ⟨slo.1, slo.2.1⟩
    · exact ⟨sla.1, sla.2.1⟩
  · intro j i
    refine ⟨?_, ?_, ?_, ?_, ?_⟩
    · show (gcSlice f.h (j0, j1) (i0, i1)).get (j - j0) (i - i0) = _
      rw [sh.2.2, e, e]
    · show ofInt (trunc ((gcSlice f.mask_rho (j0, j1) (i0, i1)).get (j - j0) (i - i0))) = _
      rw [sm.2.2, e, e]
    · show 1.0 / (gcSlice f.pm (j0, j1) (i0, i1)).get (j - j0) (i - i0) = _
      rw [sp.2.2, e, e]
    · show (gcSlice f.lon_rho (j0, j1) (i0, i1)).get (j - j0) (i - i0) = _
      rw [slo.2.2, e, e]
    · show (gcSlice f.lat_rho (j0, j1) (i0, i1)).get (j - j0) (i - i0) = _
      rw [sla.2.2, e, e]

/-- `ingrid` of the model (with the constructor's `xmin … ymax`) ⇒ the cell index of the sampling methods is inside
the stored arrays without clamping: `0 ≤ round(x) - i0 < i1 - i0` -/
theorem chem_grid_ingrid_cell (hr : GcRoundLaw α) (E : GcEnv α) (ref : GcFileRef α) (f : GcFile α)
    (lim : Int × Int × Int × Int) (sl : GcSLevels α) (mk : Arr2 Int × Arr2 Int) (hv : GcValid f lim) (X Y : α)
    (hin : let g := (gcBuild E ref f lim sl mk).env; GridSample.ingrid g.xmin g.xmax g.ymin g.ymax X Y = true) :
    let g := (gcBuild E ref f lim sl mk).env
    (0 ≤ trunc (round X) - g.i0 ∧ trunc (round X) - g.i0 < lim.2.1 - lim.1) ∧
    (0 ≤ trunc (round Y) - g.j0 ∧ trunc (round Y) - g.j0 < lim.2.2.2 - lim.2.2.1) ∧
    cellIndex g.H.imax g.i0 X = trunc (round X) - g.i0 ∧ cellIndex g.H.jmax g.j0 Y = trunc (round Y) - g.j0 := by
  obtain ⟨i0, i1, j0, j1⟩ := lim
  obtain ⟨hi, hj⟩ := hv
  simp only at hi hj
  have sh := gc_slice_inside f.h j0 j1 i0 i1 hj hi
  simp only [GridSample.ingrid, Bool.and_eq_true, decide_eq_true_eq] at hin
  obtain ⟨⟨⟨h1, h2⟩, h3⟩, h4⟩ := hin
  have rx := hr X i0 (i1 - 1) h1 h2
  have ry := hr Y j0 (j1 - 1) h3 h4
  refine ⟨⟨?_, ?_⟩, ⟨?_, ?_⟩, ?_, ?_⟩
  · show 0 ≤ trunc (round X) - i0
    omega
  · show trunc (round X) - i0 < i1 - i0
    omega
  · show 0 ≤ trunc (round Y) - j0
    omega
  · show trunc (round Y) - j0 < j1 - j0
    omega
  · show clampIdx (gcSlice f.h (j0, j1) (i0, i1)).imax (trunc (round X) - i0) = trunc (round X) - i0
    unfold clampIdx
    omega
  · show clampIdx (gcSlice f.h (j0, j1) (i0, i1)).jmax (trunc (round Y) - j0) = trunc (round Y) - j0
    unfold clampIdx
    omega

/-- … hence `Grid.sample_depth` of a position inside the grid is the file's `h` at the rounded position -/
theorem chem_grid_ingrid_sample_depth (hr : GcRoundLaw α) (E : GcEnv α) (ref : GcFileRef α) (f : GcFile α)
    (lim : Int × Int × Int × Int) (sl : GcSLevels α) (mk : Arr2 Int × Arr2 Int) (hv : GcValid f lim) (X Y : α)
    (hin : let g := (gcBuild E ref f lim sl mk).env; GridSample.ingrid g.xmin g.xmax g.ymin g.ymax X Y = true) :
    sampleDepthSeq (gcBuild E ref f lim sl mk).env X Y = some (some (f.h.get (trunc (round Y)) (trunc (round X)))) := by
  obtain ⟨_, _, hx, hy⟩ := chem_grid_ingrid_cell hr E ref f lim sl mk hv X Y hin
  rw [chem_grid_sample_depth]
  unfold Arr2.atCell
  rw [hx, hy]
  have h := (gc_slice_inside f.h lim.2.2.1 lim.2.2.2 lim.1 lim.2.1 hv.2 hv.1).2.2
  have e : ∀ a b : Int, a + (b - a) = b := by intro a b; omega
  show some (some ((gcSlice f.h (lim.2.2.1, lim.2.2.2) (lim.1, lim.2.1)).get (trunc (round Y) - lim.2.2.1)
    (trunc (round X) - lim.1))) = _
  rw [h, e, e]


/-! ### the limits, as the code has them -/

/-- without `subgrid`: the whole grid without its outermost cells -/
theorem chem_grid_ctor_limits_default (imaxF jmaxF : Int) :
    gcLimits imaxF jmaxF none = some (1, imaxF - 1, 1, jmaxF - 1) := rfl

/-- with `subgrid = [a, b, c, d]`: the entries as given — no check against the file, no `i0 < i1` — and the entry of
the whole grid for every `None` -/
theorem chem_grid_ctor_limits_subgrid (imaxF jmaxF : Int) (a b c d : Option Int) :
    gcLimits imaxF jmaxF (some [a, b, c, d]) = some (a.getD 1, b.getD (imaxF - 1), c.getD 1, d.getD (jmaxF - 1)) := rfl

/-- any other length raises -/
theorem chem_grid_ctor_limits_length (imaxF jmaxF : Int) (l : List (Option Int)) (h : l.length ≠ 4) :
    gcLimits imaxF jmaxF (some l) = none := by
  match l, h with
  | [], _ | [_], _ | [_, _], _ | [_, _, _], _ | _ :: _ :: _ :: _ :: _ :: _, _ => rfl
  | [_, _, _, _], h => simp at h

/-- the constructor returns an object exactly in this way -/
theorem chem_grid_ctor_some (E : GcEnv α) (cfg : GcConfig α) (g : GcGrid α) :
    gridCtor E cfg = some (some g) ↔
      ∃ ref f lim sl masks, gcGridFileOf cfg = some ref ∧ ref.content = some f ∧
        gcLimits (f.h.imax : Int) (f.h.jmax : Int) cfg.subgrid = some lim ∧ gcSLevels E cfg f = some sl ∧
        gcMasks (lim.2.2.2 - lim.2.2.1) (lim.2.1 - lim.1) (gcMaskOf f lim) = some masks ∧
        g = gcBuild E ref f lim sl masks := by
  rw [chem_grid_ctor]
  simp only [gridCtorSpec, Option.some.injEq, Option.bind_eq_some_iff, Option.map_eq_some_iff]
  constructor
  · rintro ⟨ref, h1, f, h2, lim, h3, sl, h4, masks, h5, h6⟩
    exact ⟨ref, f, lim, sl, masks, h1, h2, h3, h4, h5, h6.symm⟩
  · rintro ⟨ref, f, lim, sl, masks, h1, h2, h3, h4, h5, h6⟩
    exact ⟨ref, h1, f, h2, lim, h3, sl, h4, masks, h5, h6.symm⟩

/-- from the configuration to `Grid.sample_depth`: inside the grid it is the file's `h` at the rounded position -/
theorem chem_grid_ctor_sample_depth (hr : GcRoundLaw α) (E : GcEnv α) (cfg : GcConfig α) (g : GcGrid α)
    (hg : gridCtor E cfg = some (some g)) :
    ∃ ref f lim, gcGridFileOf cfg = some ref ∧ ref.content = some f ∧
      gcLimits (f.h.imax : Int) (f.h.jmax : Int) cfg.subgrid = some lim ∧
      ∀ X Y : α, GcValid f lim → GridSample.ingrid g.xmin g.xmax g.ymin g.ymax X Y = true →
        sampleDepthSeq g.env X Y = some (some (f.h.get (trunc (round Y)) (trunc (round X)))) := by
  obtain ⟨ref, f, lim, sl, masks, h1, h2, h3, h4, h5, h6⟩ := (chem_grid_ctor_some E cfg g).mp hg
  subst h6
  exact ⟨ref, f, lim, h1, h2, h3, fun X Y hv hin => chem_grid_ingrid_sample_depth hr E ref f lim sl masks hv X Y hin⟩


/-- `Grid.onland` is the negation of `Grid.atsea` on the grid the constructor builds, given that comparison with the
integer mask behaves (`gc_int_mask`: it does in an ordered field) -/
theorem chem_grid_onland_not_atsea (hm : ∀ m : Int, decide ((ofInt m : α) < 1.0) = !decide ((0.0 : α) < ofInt m))
    (g : GcGrid α) (X Y : α) :
    gcOnlandSeq g.env X Y = some (some (!decide (0.0 < g.env.M.atCell g.env.i0 g.env.j0 X Y))) ∧
    atseaSeq g.env X Y = some (some (decide (0.0 < g.env.M.atCell g.env.i0 g.env.j0 X Y))) := by
  refine ⟨?_, chem_grid_atsea g.env X Y⟩
  rw [chem_grid_onland]
  exact congrArg (fun b => some (some b)) (hm _)

end

/-! ## the masks: the only check of the subgrid against the file -/

theorem gc_ite_some {β : Type} {c : Bool} {x z : β} (h : (if c = true then some x else none) = some z) :
    c = true ∧ x = z := by
  cases c
  · simp at h
  · simpa using h

/-- a Python slice `[a:b]` with `a ≤ b` is never longer than `b - a` -/
theorem gc_sliceLen_le (n : Nat) (a b : Int) (h : a ≤ b) : (gcSliceLen n (a, b) : Int) ≤ b - a := by
  unfold gcSliceLen gcPyBound
  simp only
  split <;> split <;> omega

/-- the masks at the u- and v-points can be filled exactly when `M` (the slices of the file) has the shape
`(jmax, imax) = (j1 - j0, i1 - i0)` and is not empty -/
theorem gc_masks_isSome (jm im : Int) (M : Arr2 Int) (hj : 0 ≤ jm → (M.jmax : Int) ≤ jm) (hi : 0 ≤ im → (M.imax : Int) ≤ im) :
    (gcMasks jm im M).isSome = true ↔ ((M.jmax : Int) = jm ∧ (M.imax : Int) = im ∧ 1 ≤ jm ∧ 1 ≤ im) := by
  constructor
  · intro h
    obtain ⟨p, hp⟩ := Option.isSome_iff_exists.mp h
    simp only [gcMasks, Option.bind_eq_some_iff, Option.map_eq_some_iff] at hp
    obtain ⟨u0, h0, u1, h1, u2, h2, mu, h3, v0, h4, v1, h5, v2, h6, mv, h7, _⟩ := hp
    obtain ⟨c0, e0⟩ := gc_ite_some h0
    obtain ⟨c1, e1⟩ := gc_ite_some h1
    obtain ⟨c2, e2⟩ := gc_ite_some h2
    obtain ⟨c4, e4⟩ := gc_ite_some h4
    obtain ⟨c5, e5⟩ := gc_ite_some h5
    obtain ⟨c6, e6⟩ := gc_ite_some h6
    subst e0 e1 e2 e4 e5 e6
    simp only [gcColOk, gcRowOk, gcBcast, gcSetInnerCols, gcSetInnerRows, gcSetFirstCol, gcSetFirstRow, gcZeros,
      Bool.and_eq_true, Bool.or_eq_true, beq_iff_eq, decide_eq_true_eq] at c0 c1 c2 c4 c5 c6
    -- the two axes separately: together the alternatives of the broadcasts multiply
    obtain ⟨j0, -⟩ := c0
    obtain ⟨j1, i1⟩ := c1
    obtain ⟨⟨i2, -⟩, -⟩ := c2
    obtain ⟨-, i0⟩ := c4
    obtain ⟨j5, i5⟩ := c5
    obtain ⟨⟨j6, -⟩, -⟩ := c6
    have hJ : (M.jmax : Int) = jm ∧ 1 ≤ jm := by
      clear i0 i1 i2 i5 hi
      omega
    have hI : (M.imax : Int) = im ∧ 1 ≤ im := by
      clear j0 j1 j5 j6 hj hJ
      omega
    exact ⟨hJ.1, hI.1, hJ.2, hI.2⟩
  · clear hj hi
    rintro ⟨hj, hi, h1, h2⟩
    have a1 : (jm.toNat : Int) = jm := by omega
    have a2 : ((im + 1).toNat : Int) = im + 1 := by omega
    have b1 : M.jmax = jm.toNat := by omega
    have b2 : M.imax = im.toNat := by omega
    have b3 : (im + 1).toNat = im.toNat + 1 := by omega
    have b4 : (jm + 1).toNat = jm.toNat + 1 := by omega
    have b5 : 1 ≤ im.toNat := by omega
    have b6 : 1 ≤ jm.toNat := by omega
    have z1 : gcZeros? jm (im + 1) = some (gcZeros jm (im + 1)) := by
      unfold gcZeros?; rw [if_pos]; simp only [Bool.and_eq_true, decide_eq_true_eq]; omega
    have z2 : gcZeros? (jm + 1) im = some (gcZeros (jm + 1) im) := by
      unfold gcZeros?; rw [if_pos]; simp only [Bool.and_eq_true, decide_eq_true_eq]; omega
    have q1 : ∀ u : Arr2 Int, u.jmax = jm.toNat → u.imax = im.toNat + 1 → gcSetInnerCols? u M = some (gcSetInnerCols u M) := by
      intro u hu1 hu2
      unfold gcSetInnerCols?; rw [if_pos]
      simp only [gcBcast, Bool.and_eq_true, Bool.or_eq_true, beq_iff_eq]; omega
    have q2 : ∀ u : Arr2 Int, u.jmax = jm.toNat → u.imax = im.toNat + 1 → gcColOk u M = true := by
      intro u hu1 hu2
      simp only [gcColOk, gcBcast, Bool.and_eq_true, Bool.or_eq_true, beq_iff_eq, decide_eq_true_eq]; omega
    have q3 : ∀ v : Arr2 Int, v.jmax = jm.toNat + 1 → v.imax = im.toNat → gcSetInnerRows? v M = some (gcSetInnerRows v M) := by
      intro v hv1 hv2
      unfold gcSetInnerRows?; rw [if_pos]
      simp only [gcBcast, Bool.and_eq_true, Bool.or_eq_true, beq_iff_eq]; omega
    have q4 : ∀ v : Arr2 Int, v.jmax = jm.toNat + 1 → v.imax = im.toNat → gcRowOk v M = true := by
      intro v hv1 hv2
      simp only [gcRowOk, gcBcast, Bool.and_eq_true, Bool.or_eq_true, beq_iff_eq, decide_eq_true_eq]; omega
    unfold gcMasks
    rw [z1, z2]
    simp only [Option.bind_some]
    rw [q1 _ rfl b3]
    simp only [Option.bind_some, gcSetFirstCol?, gcSetLastCol?]
    rw [if_pos (q2 _ rfl b3)]
    simp only [Option.bind_some]
    rw [if_pos (q2 _ rfl b3)]
    simp only [Option.bind_some]
    rw [q3 _ b4 rfl]
    simp only [Option.bind_some, gcSetFirstRow?, gcSetLastRow?]
    rw [if_pos (q4 _ b4 rfl)]
    simp only [Option.bind_some]
    rw [if_pos (q4 _ b4 rfl)]
    rfl

section
variable {α : Type} [Add α] [Sub α] [Mul α] [Div α] [Neg α] [LT α] [DecidableLT α]
  [LE α] [DecidableLE α] [OfScientific α] [HasRound α] [HasTrunc α] [HasOfInt α]

/-- the constructor's masks on the slices of the file: they can be filled exactly when the slices have the lengths
`j1 - j0`, `i1 - i0` and are not empty — the only check of `subgrid` against the file -/
theorem chem_grid_ctor_masks (f : GcFile α) (lim : Int × Int × Int × Int) :
    (gcMasks (lim.2.2.2 - lim.2.2.1) (lim.2.1 - lim.1) (gcMaskOf f lim)).isSome = true ↔
      ((gcSliceLen f.mask_rho.jmax (lim.2.2.1, lim.2.2.2) : Int) = lim.2.2.2 - lim.2.2.1 ∧
       (gcSliceLen f.mask_rho.imax (lim.1, lim.2.1) : Int) = lim.2.1 - lim.1 ∧
       1 ≤ lim.2.2.2 - lim.2.2.1 ∧ 1 ≤ lim.2.1 - lim.1) :=
  gc_masks_isSome _ _ (gcMaskOf f lim)
    (fun h => gc_sliceLen_le f.mask_rho.jmax lim.2.2.1 lim.2.2.2 (by omega))
    (fun h => gc_sliceLen_le f.mask_rho.imax lim.1 lim.2.1 (by omega))

/-- a subgrid inside the file (`0 ≤ i0 < i1 ≤ imax`, `0 ≤ j0 < j1 ≤ jmax`; the comment in the code asks for
`1 ≤ i0 < i1 ≤ imax - 1`) passes -/
theorem chem_grid_ctor_masks_valid (f : GcFile α) (lim : Int × Int × Int × Int) (hv : GcValid f lim)
    (hne : lim.1 < lim.2.1 ∧ lim.2.2.1 < lim.2.2.2) (hshape : f.mask_rho.jmax = f.h.jmax ∧ f.mask_rho.imax = f.h.imax) :
    (gcMasks (lim.2.2.2 - lim.2.2.1) (lim.2.1 - lim.1) (gcMaskOf f lim)).isSome = true := by
  rw [chem_grid_ctor_masks]
  have s := gc_slice_inside f.mask_rho lim.2.2.1 lim.2.2.2 lim.1 lim.2.1
    (by rw [hshape.1]; exact hv.2) (by rw [hshape.2]; exact hv.1)
  exact ⟨s.1, s.2.1, by omega, by omega⟩

/-- … but so does a subgrid with negative bounds (Python slices count them from the end): on a file with 8 columns
`subgrid = [-3, -1, …]` gives `i0 = -3`, `xmin = -3.0`, two columns — the file's columns 5 and 6, so that
`H[j - j0, i - i0]` is the file's `h[j, i + 8]`, not `h[j, i]` -/
theorem chem_grid_ctor_negative_bounds : gcSliceLen 8 (-3, -1) = 2 ∧ gcSliceStart 8 (-3, -1) = 5 := by decide

end

/-! ## the laws of the scalar conversions in an ordered field -/

section field
variable {α : Type} [Field α] [LinearOrder α] [IsStrictOrderedRing α] [HasRound α] [HasTrunc α] [HasOfInt α]

/-- the rounding law from the elementary laws of the three conversions in an ordered field: `float(n)` is the
integer, `round` gives an integer within one half, `.astype(int)` of an integer is the integer -/
theorem gc_roundLaw_of_field (h1 : ∀ n : Int, (ofInt n : α) = (n : α))
    (h2 : ∀ x : α, ∃ k : Int, round x = (k : α) ∧ (k : α) - 1 / 2 ≤ x ∧ x ≤ (k : α) + 1 / 2)
    (h3 : ∀ k : Int, trunc ((k : α)) = k) : GcRoundLaw α := by
  intro x a b ha hb
  obtain ⟨k, hk, lo, hi⟩ := h2 x
  rw [hk, h3]
  rw [h1] at ha hb
  have e : (0.5 : α) = 1 / 2 := by norm_num
  rw [e] at ha hb
  constructor
  · have : (a : α) < ((k + 1 : Int) : α) := by push_cast; linarith
    have := Int.cast_lt.mp this
    omega
  · have : (k : α) < ((b + 1 : Int) : α) := by push_cast; linarith
    have := Int.cast_lt.mp this
    omega

/-- on an integer mask `M < 1` is `¬ M > 0` -/
theorem gc_int_mask (h1 : ∀ n : Int, (ofInt n : α) = (n : α)) (m : Int) :
    decide ((ofInt m : α) < 1.0) = !decide ((0.0 : α) < ofInt m) := by
  rw [h1]
  have e1 : (1.0 : α) = ((1 : Int) : α) := by norm_num
  have e0 : (0.0 : α) = ((0 : Int) : α) := by norm_num
  rw [e1, e0]
  by_cases h : m < 1
  · have h' : ¬ (0 : Int) < m := by omega
    have a : ((m : Int) : α) < ((1 : Int) : α) := Int.cast_lt.mpr h
    have b : ¬ ((0 : Int) : α) < ((m : Int) : α) := fun c => h' (Int.cast_lt.mp c)
    rw [decide_eq_true a, decide_eq_false b]
    rfl
  · have h' : (0 : Int) < m := by omega
    have a : ¬ ((m : Int) : α) < ((1 : Int) : α) := fun c => h (Int.cast_lt.mp c)
    have b : ((0 : Int) : α) < ((m : Int) : α) := Int.cast_lt.mpr h'
    rw [decide_eq_false a, decide_eq_true b]
    rfl

/-- the three laws are satisfiable: `ℚ` with round-half-up, `floor`, the cast -/
example : @GcRoundLaw ℚ _ _ _ _ ⟨fun x => ((⌊x + 1 / 2⌋ : ℤ) : ℚ)⟩ ⟨fun x => ⌊x⌋⟩ ⟨fun n => (n : ℚ)⟩ :=
  @gc_roundLaw_of_field ℚ _ _ _ ⟨fun x => ((⌊x + 1 / 2⌋ : ℤ) : ℚ)⟩ ⟨fun x => ⌊x⌋⟩ ⟨fun n => (n : ℚ)⟩ (fun _ => rfl)
    (fun x => ⟨⌊x + 1 / 2⌋, rfl, by have := Int.floor_le (x + 1 / 2); linarith,
      by have := Int.lt_floor_add_one (x + 1 / 2); linarith⟩)
    (fun k => Int.floor_intCast k)

end field
end Bridge
