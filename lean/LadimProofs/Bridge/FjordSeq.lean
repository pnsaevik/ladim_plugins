import LadimModel.Grid.FjordSeq
import LadimModel.Grid.Sample
import LadimProofs.C12Fjord
import LadimProofs.Bridge.Runners
/-!
# Bridge (C12) — `vps/gridforce.py`: `_ocean_dist_cells`, `_compute_fish_velocity`, `fish_velocity` are the statement
sequences of the code

`Gen.vps_ocean_dist_cells_seq`, `Gen.vps_compute_fish_velocity_seq`, `Gen.vps_fish_velocity_seq` (guard, kind and text
of every statement, regenerated from the current source) are interpreted by `LadimModel/Grid/FjordSeq.lean` (strict
runner `Seq.runFn`: every statement and every `return` expression must be a known text).

* `Bridge.vps_ocean_dist_cells`: the result is `trunc (round (ocean_distance / (dx[0,0] / 1000.0)))`, `round` =
  the model's `HasRound.round` (numpy, half to even), `trunc` = `int(·)`.  No hypothesis.
* `Bridge.vps_compute_fish_velocity`: `(self._fish_u, self._fish_v)` is `Fjord.fishField s M d speed` =
  `(ofInt (uOf dir) * speed, ofInt (vDir s dir) * speed)` with `dir = descentDir (fjordIndex (1 - M) d)`, `d` the
  result of `_ocean_dist_cells`, and `s` the sign with which the generated text stores `v` (`Seq.vSignSeen`):
  `self._fish_v = v * …` (the code as it is, known finding F-C12a) gives `.picture`, the repair
  `self._fish_v = -v * …` gives `.grid`; the proofs go through for either text and for no other.  No hypothesis.
  `Bridge.vps_tracker_step`: one tracker step on that field (`row += vDir`, `column += uOf`) is the model's
  `nextCell s`; `Bridge.landOfMask_land01`: a 0/1 mask gives a land matrix to which the theorems of
  `LadimProofs/C12Fjord.lean` apply.
* `Bridge.vps_fish_velocity`: the result is `Fjord.fishVelocity` = `(fishU[j, i], fishV[j, i])`,
  `i = fishIndex imax i0 X`, `j = fishIndex jmax j0 Y`, `(jmax, imax) = np.shape(M)`.  No hypothesis.
  `Bridge.fishIndex_eq_clampIdx`: when the rounded value is the image of an integer `k` (and `trunc ∘ ofInt = id`,
  `ofInt` strictly monotone), `fishIndex n i0 x = GridSample.clampIdx n k`, which lies in `[0, n - 1]` for `n ≥ 1`.

Only the operations of the scalar type are used (no field or order laws): the statements hold for every scalar type,
`Float` included.
-/
open Ladim Ladim.Seq Ladim.Fjord

set_option linter.unusedSimpArgs false
set_option linter.unusedVariables false
set_option linter.unusedTactic false
set_option linter.unreachableTactic false
namespace Bridge

/-! ### `_ocean_dist_cells` -/

/-- the interpretation of `Gen.vps_ocean_dist_cells_seq` returns `int(np.round(ocean_distance / (dx[0, 0] / 1000)))` -/
theorem vps_ocean_dist_cells {α : Type} [Div α] [OfScientific α] [HasRound α] [HasTrunc α] (oceanDistance dx00 : α) :
    Seq.oceanDistCellsSeq oceanDistance dx00 = some (some (oceanDistCells oceanDistance dx00)) := by
  simp [Seq.oceanDistCellsSeq, Gen.vps_ocean_dist_cells_seq, Run.runFn_then, Run.runFn_ret, Run.runFn_nil,
    Run.guardVal_nil, Seq.odAtom, Seq.odStep, Seq.odRet, Seq.OdSt.init, oceanDistCells]

/-! ### `_compute_fish_velocity` -/

/-- the generated text of the assignment of `self._fish_v` is one of the two the model knows -/
theorem vps_vsign_seen : ∃ s, Seq.vSignSeen Gen.vps_compute_fish_velocity_seq = some s := by
  first
  | (refine ⟨.picture, ?_⟩; simp [Seq.vSignSeen, Gen.vps_compute_fish_velocity_seq, Seq.vSignOfText]; done)
  | (refine ⟨.grid, ?_⟩; simp [Seq.vSignSeen, Gen.vps_compute_fish_velocity_seq, Seq.vSignOfText]; done)

/-- for the sign `s` that the generated text shows -/
theorem vps_compute_fish_velocity_of {α : Type} [Mul α] [Div α] [OfScientific α] [HasRound α] [HasTrunc α] [HasOfInt α]
    (s : VSign) (h : Seq.vSignSeen Gen.vps_compute_fish_velocity_seq = some s)
    (M : Mat) (oceanDistance dx00 speed : α) :
    Seq.computeFishVelocitySeq M oceanDistance dx00 speed
      = some (some (fishField s M (oceanDistCells oceanDistance dx00) speed)) := by
  cases s <;>
  first
  | (exfalso; simp [Seq.vSignSeen, Gen.vps_compute_fish_velocity_seq, Seq.vSignOfText] at h; done)
  | (simp [Seq.computeFishVelocitySeq, Seq.runComputeFishVelocity, Gen.vps_compute_fish_velocity_seq, Run.runFn_then,
      Run.runFn_nil, Run.guardVal_nil, Seq.cfAtom, Seq.cfStep, Seq.cfRet, Seq.cfFin, Seq.CfSt.init,
      Seq.vSignOfText, vps_ocean_dist_cells, fishField, vDir]; done)

/-- the interpretation of `Gen.vps_compute_fish_velocity_seq` (with `Gen.vps_ocean_dist_cells_seq` at the call
`self._ocean_dist_cells()`) is `descent(fjord_index(1 - M, ocean_dist_cells))` times the swimming speed, `v` stored
with the sign that the generated text shows -/
theorem vps_compute_fish_velocity {α : Type} [Mul α] [Div α] [OfScientific α] [HasRound α] [HasTrunc α] [HasOfInt α] :
    ∃ s, Seq.vSignSeen Gen.vps_compute_fish_velocity_seq = some s ∧
      ∀ (M : Mat) (oceanDistance dx00 speed : α),
        Seq.computeFishVelocitySeq M oceanDistance dx00 speed
          = some (some (fishField s M (oceanDistCells oceanDistance dx00) speed)) := by
  obtain ⟨s, h⟩ := vps_vsign_seen
  exact ⟨s, h, vps_compute_fish_velocity_of s h⟩

/-- the same as a disjunction over the two signs -/
theorem vps_compute_fish_velocity_or {α : Type} [Mul α] [Div α] [OfScientific α] [HasRound α] [HasTrunc α]
    [HasOfInt α] :
    (∀ (M : Mat) (oceanDistance dx00 speed : α), Seq.computeFishVelocitySeq M oceanDistance dx00 speed
        = some (some (fishField .picture M (oceanDistCells oceanDistance dx00) speed))) ∨
    (∀ (M : Mat) (oceanDistance dx00 speed : α), Seq.computeFishVelocitySeq M oceanDistance dx00 speed
        = some (some (fishField .grid M (oceanDistCells oceanDistance dx00) speed))) := by
  obtain ⟨s, _, h⟩ := vps_compute_fish_velocity (α := α)
  cases s
  · exact Or.inl h
  · exact Or.inr h

/-- one tracker step on the direction field of `fishField s` (`Y` = row index `+= v`, `X` = column index `+= u`) is
the model's `nextCell s`: the `VSign` that the text shows is the one the theorems of `C12Fjord` speak about
(`follow_fjord_index_reaches_ocean` for `.grid`, `picture_orientation_fails` for `.picture`) -/
theorem vps_tracker_step (s : VSign) (w : Mat) (i j : Int) :
    nextCell s w i j = (i + vDir s (descentDir w i j), j + uOf (descentDir w i j)) := by
  cases s
  · rfl
  · show (i - vOf (descentDir w i j), j + uOf (descentDir w i j)) = (i + -vOf (descentDir w i j), _)
    rw [Int.sub_eq_add_neg]

/-- a 0/1 sea mask gives a 0/1 land matrix: the hypothesis `Land01` of the theorems of `C12Fjord` -/
theorem landOfMask_land01 (M : Mat) (hM : ∀ i j, M.inBox i j = true → (M.val i j = 0 ∨ M.val i j = 1)) :
    C12.Land01 (landOfMask M) := by
  intro i j hb
  have h := hM i j hb
  show 1 - M.val i j = 0 ∨ 1 - M.val i j = 1
  omega

/-! ### `fish_velocity` -/

/-- the interpretation of `Gen.vps_fish_velocity_seq` returns `(fish_u[j, i], fish_v[j, i])` with
`(jmax, imax) = np.shape(M)`, `i = trunc (clip (round (X - i0)) 0 (imax - 1))`, `j = trunc (clip (round (Y - j0)) 0 (jmax - 1))` -/
theorem vps_fish_velocity {α : Type} [Sub α] [LT α] [DecidableLT α] [HasRound α] [HasTrunc α] [HasOfInt α]
    (i0 j0 : Int) (shape : Nat × Nat) (fishU fishV : Int → Int → α) (X Y : α) :
    Seq.fishVelocitySeq i0 j0 shape fishU fishV X Y = some (some (fishVelocity i0 j0 shape fishU fishV X Y)) := by
  simp [Seq.fishVelocitySeq, Gen.vps_fish_velocity_seq, Run.runFn_then, Run.runFn_ret, Run.runFn_nil,
    Run.guardVal_nil, Seq.fvAtom, Seq.fvStep, Seq.fvRet, Seq.FvSt.init, fishVelocity]

/-- the lookup on the field that `_compute_fish_velocity` stores: the direction of the cell `[j, i]` -/
theorem vps_fish_velocity_of_field {α : Type} [Sub α] [Mul α] [LT α] [DecidableLT α] [HasRound α] [HasTrunc α]
    [HasOfInt α] (s : VSign) (M : Mat) (d : Int) (speed : α) (i0 j0 : Int) (shape : Nat × Nat) (X Y : α) :
    fishVelocity i0 j0 shape (fishField s M d speed).u (fishField s M d speed).v X Y
      = (ofInt (uOf (descentDir (fjordIndex (landOfMask M) d) (fishIndex shape.1 j0 Y) (fishIndex shape.2 i0 X))) * speed,
         ofInt (vDir s (descentDir (fjordIndex (landOfMask M) d) (fishIndex shape.1 j0 Y) (fishIndex shape.2 i0 X))) * speed) :=
  rfl

/-- `fishIndex` on the integers: if the rounded difference is (the image of) the integer `k`, the index is `k` clamped
to `[0, n - 1]` — the offset is subtracted before the clip -/
theorem fishIndex_eq_clampIdx {α : Type} [Sub α] [LT α] [DecidableLT α] [HasRound α] [HasTrunc α] [HasOfInt α]
    (hto : ∀ k : Int, trunc (ofInt k : α) = k) (hlt : ∀ a b : Int, (ofInt a : α) < ofInt b ↔ a < b)
    (n : Nat) (i0 : Int) (x : α) (k : Int) (hr : round (x - ofInt i0) = (ofInt k : α)) :
    fishIndex n i0 x = GridSample.clampIdx n k := by
  unfold fishIndex fmin fmax GridSample.clampIdx
  rw [hr]
  by_cases h1 : k < 0
  · rw [if_pos ((hlt k 0).2 h1)]
    by_cases h2 : (n : Int) - 1 < 0
    · rw [if_pos ((hlt _ _).2 h2), hto]; omega
    · rw [if_neg (fun h => h2 ((hlt _ _).1 h)), hto]; omega
  · rw [if_neg (fun h => h1 ((hlt _ _).1 h))]
    by_cases h2 : (n : Int) - 1 < k
    · rw [if_pos ((hlt _ _).2 h2), hto]; omega
    · rw [if_neg (fun h => h2 ((hlt _ _).1 h)), hto]; omega

/-- the clamped index lies inside an array with at least one entry -/
theorem clampIdx_inBox (n : Nat) (k : Int) (hn : 1 ≤ n) :
    0 ≤ GridSample.clampIdx n k ∧ GridSample.clampIdx n k < n := by
  unfold GridSample.clampIdx; omega

end Bridge
