import LadimModel.IBM.SedFactorySeq
import LadimProofs.Bridge.Mixing
import LadimProofs.Bridge.Runners
import LadimProofs.C08
/-!
# Bridge (C08, C20, C05, C07) — factories, constructors and file writers of the sedimentation and mine IBMs

The generated statement sequences `Gen.sed_ctor_seq`, `sed_get_taucrit_fn_seq`, `sed_get_taucrit_fn_grain_size_seq`,
`sed_get_vdiff_fn_seq`, `sed_get_vdiff_constant_fn_seq`, `sed_get_vdiff_bounded_linear_fn_seq`, `sed_sinkvel_seq`,
`sed_ladis_seq`, `mine_ctor_seq`, `mine_has_active_seq`, `mine_active_seq`, `mine_store_seq`,
`mine_get_taucrit_fn_seq`, `mine_get_vdiff_constant_fn_seq`, `mine_create_outfile_seq`, `mine_update_outfile_seq`
(guard, kind and text of every statement, regenerated from the current source) are interpreted by
`LadimModel/IBM/SedFactorySeq.lean` (strict runner `Seq.runFn`: every statement, condition and `return` expression
must be a known text, also in branches not taken; nested functions are interpreted as functions of their own).
Every theorem holds for EVERY input and has NO hypothesis; unless said otherwise only the operations of the scalar
type are used (no field or order law), so the statements hold for every scalar type, `Float` included.
Outcomes: `none` = the code raises (or leaves the modelled value space); the outer `some` of every right-hand side
says that every text of the sequence is a known one.

Equalities with the hand-written model (`LadimModel/IBM/Sedimentation.lean`, `Grain.lean`):
* `sed_get_vdiff_constant_fn`, `mine_get_vdiff_constant_fn` : the returned `fn` is `sfMixFnOf (.const value)` =
  `Sed.mixConst value h dt (draw .stdNormal) z` (the draw comes from `np.random.randn`);
* `sed_get_vdiff_bounded_linear_fn` : `sfMixFnOf (.boundedLinear max_diff)` = `Sed.mixBoundedLinear max_diff h dt ustar
  (draw .stdNormal) z` (`np.random.normal`); `sf_get_turbulence` : the nested `get_turbulence` is `Gen.sed_turbulence`;
* `sed_get_vdiff_fn` : `(sfMixingOf conf).map sfMixFnOf` — which configuration value gives which `Sed.Mixing`
  (`None` → `.none`; a number or `{method: constant, value}` → `.const`; `{method: bounded_linear, max_diff}` →
  `.boundedLinear`; anything else raises); `sf_diffuse_of_mix_fn` : calling that function object on the suspended
  particles is `Sed.diffuse`;
* `sed_get_taucrit_fn_grain_size` : `sfGrainSpec` — `sedvalue` = the raster cell at `Grain.nearestCell` along both
  axes (`j` from the latitude axis, `i` from the longitude axis; NaN cells read as 0), `taucrit_bin` =
  `Grain.taucritBinF32`, `taucrit_poly` = `Grain.taucritPoly` (`sf_taucrit_poly_gen` : = `Gen.sed_taucrit_poly`);
* `sed_get_taucrit_fn` : `sfTaucritSpec` (dispatch on `None` / number / `method`);
* `sed_ladis_fn_seq` : `Sed.ladis (K · t0) (v · t0) (t1 - t0) (draw .stdNormal) x0`; `sf_ladis_gen` : = `Gen.sed_ladis`;
* `sed_ctor_seq` : `sfSedCtorSpec`; `sed_ctor_config` : the attributes are those of the model's `Sed.Config`
  (`sfSedConfigOf`: `dt`, `lifespan`, `mixing`);
* `mine_get_taucrit_fn` : `None` iff `value >= 1000` (`sfMineTaucrit` = the field `Sed.Mine.Config.taucrit`);
* `mine_has_active_seq`, `mine_active_seq` : `hasVar`; the stored flag or 1 (what `Seq.MineSt.init` starts from);
* `mine_ctor_seq` : `sfMineCtorSpec`; `mine_ctor_config` : the attributes are those of `Sed.Mine.Config`.
Closed forms (there is no hand-written model function):
* `sed_sinkvel_seq` : the quadratic spline through the two tables at a uniform draw;
* `mine_create_outfile` : `sfCreateSpec`; `mine_update_outfile` : `sfUpdateSpec`; `mine_store_seq` : `sfStoreSpec`.
Over an ordered field (section `field`): `sf_mix_fn_const_gen`, `sf_mix_fn_bounded_linear_gen` (the function objects
are the generated windows `Gen.sed_mix_const`, `Gen.sed_mix_bounded_linear` ∘ `Gen.sed_turbulence`),
`sf_tau_const_field` (`np.zeros_like(lon) + value` is `value`), `sf_taucrit_bin_f32_table` (`C08.taucrit_bin_table`
under `narrow`).
-/
open Ladim Ladim.Seq Ladim.Sed Ladim.Grain

set_option linter.unusedSimpArgs false
set_option linter.unusedVariables false
set_option linter.unusedSectionVars false
set_option linter.unnecessarySeqFocus false
namespace Bridge

section general
theorem sf_bind_some_some {β γ : Type} (b : β) (f : β → Option (Option γ)) : sfBind (some (some b)) f = f b := rfl
theorem sf_bind_some_none {β γ : Type} (f : β → Option (Option γ)) : sfBind (some none) f = some none := rfl
theorem sf_bind_none {β γ : Type} (f : β → Option (Option γ)) : sfBind none f = none := rfl
theorem sf_bind_isSome {β γ : Type} (x : Option β) (g : β → Option γ) :
    (sfBind (some x) (fun b => some (g b))).isSome = true := by
  cases x <;> rfl
end general

section mixing
variable {α : Type} [Add α] [Sub α] [Mul α] [Div α] [Neg α] [LT α] [DecidableLT α]
  [LE α] [DecidableLE α] [OfScientific α] [HasSqrt α]

/-! ### closed forms: the mixing functions -/

/-- the function object `get_vdiff_fn` builds for a mixing method of the model (`none`: Python's `None`): the model's
`mixConst` / `mixBoundedLinear` for one particle, the draw read from a STANDARD NORMAL call of the generator -/
def sfMixFnOf : Mixing α → Option (SfMixFn α)
  | .none => none
  | .const v => some (fun draw z h dt _ => some (some (mixConst v h dt (draw .stdNormal) z)))
  | .boundedLinear m => some (fun draw z h dt us => some (some (mixBoundedLinear m h dt us (draw .stdNormal) z)))

/-- which configuration value gives which mixing method (`none`: the code raises) -/
def sfMixingOf : SfConf α → Option (Mixing α)
  | .none => some .none
  | .num v => some (.const v)
  | .dict d =>
    if d.method = some "constant" then d.value.map .const
    else if d.method = some "bounded_linear" then d.maxDiff.map .boundedLinear
    else none

/-! ### `get_vdiff_constant_fn`

A nested function is run by `simp` with the runner's rules `Run.runFn_exec`, `Run.runFn_ret`: the interpreter is
unfolded by its defining equation, and the text of the statement selects the case of its `match` (`String.reduceEq`
tells two texts apart by one character; nothing is compared by evaluation).  The `…_known` lemmas are what the `def`
statement of the enclosing function asks of the body. -/

theorem sf_mc_body : sfDefBody sfFnDef Gen.sed_get_vdiff_constant_fn_seq = [
    ([], "assign", "b0 = np.sqrt(2 * value)"),
    ([], "assign", "dw = np.random.randn(z.size).reshape(z.shape) * np.sqrt(dt)"),
    ([], "assign", "z1 = z + b0 * dw"),
    ([], "assign", "z1[z1 < 0] *= -1"),
    ([], "assign", "below_seabed = z1 > h"),
    ([], "assign", "z1[below_seabed] = 2 * h[below_seabed] - z1[below_seabed]"),
    ([], "return", "z1")] := by rfl

theorem sf_mc_outer : sfWithoutDefs [sfFnDef] Gen.sed_get_vdiff_constant_fn_seq = [
    ([], "def", "fn(z, h, dt, _)"), ([], "return", "fn")] := by rfl

/-- the two modules define the same function -/
theorem sf_mine_mc_same : Gen.mine_get_vdiff_constant_fn_seq = Gen.sed_get_vdiff_constant_fn_seq := rfl

theorem sf_mc_known (s : SfMcSt α) :
    (!(sfDefBody sfFnDef Gen.sed_get_vdiff_constant_fn_seq).isEmpty &&
      (sfDefBody sfFnDef Gen.sed_get_vdiff_constant_fn_seq).all (fnStmtKnown sfNoAtom sfMcStep sfMcRet s)) = true := by
  rw [sf_mc_body]
  simp only [List.all_cons, List.all_nil, fnStmtKnown, fnGuardKnown, String.reduceEq, ↓reduceIte, sfMcStep.eq_def,
    sfMcRet.eq_def, Option.isSome_some, List.isEmpty_cons, Bool.not_false, Bool.and_self]

/-- the nested `fn` of `get_vdiff_constant_fn(value)` is `Sed.mixConst value` -/
theorem sf_mc_fn (value : α) (draw : SfDraw → α) (z h dt us : α) :
    sfMcFn (sfDefBody sfFnDef Gen.sed_get_vdiff_constant_fn_seq) value draw z h dt us
      = some (some (mixConst value h dt (draw .stdNormal) z)) := by
  unfold sfMcFn
  rw [sf_mc_body]
  simp only [Run.runFn_exec, Run.runFn_ret, Run.guardVal_nil, String.reduceEq, ↓reduceIte, sfMcStep.eq_def,
    sfMcRet.eq_def, List.all_nil, mixConst, decide_eq_true_eq]

/-- **`get_vdiff_constant_fn`** (sedimentation) -/
theorem sed_get_vdiff_constant_fn (value : α) :
    sedVdiffConstantFnSeq value = some (sfMixFnOf (.const value)) := by
  unfold sedVdiffConstantFnSeq runVdiffConstantFn
  rw [sf_mc_outer]
  simp only [Run.runFn_exec, Run.runFn_ret, Run.guardVal_nil, String.reduceEq, ↓reduceIte, sfMcOuterStep.eq_def,
    sfMcOuterRet.eq_def, sf_mc_known, List.all_nil]
  exact congrArg (fun f => some (some f)) (funext fun draw => funext fun z => funext fun h => funext fun dt =>
    funext fun us => sf_mc_fn value draw z h dt us)

/-- **`get_vdiff_constant_fn`** (mine; the function is defined there but not called) -/
theorem mine_get_vdiff_constant_fn (value : α) :
    mineVdiffConstantFnSeq value = some (sfMixFnOf (.const value)) := by
  unfold mineVdiffConstantFnSeq
  rw [sf_mine_mc_same]
  exact sed_get_vdiff_constant_fn value

/-! ### `get_vdiff_bounded_linear_fn` -/

theorem sf_tb_body : sfDefBody sfTurbDef Gen.sed_get_vdiff_bounded_linear_fn_seq = [
    ([], "assign", "kappa = 0.41"),
    ([], "assign", "dA_dz = kappa * ustar"),
    ([], "assign", "A = dA_dz * meters_from_seafloor"),
    ([], "assign", "cutoff = A > max_mixing"),
    ([], "assign", "A[cutoff] = max_mixing"),
    ([], "assign", "dA_dz[cutoff] = 0"),
    ([], "return", "(A, dA_dz)")] := by rfl

theorem sf_bl_body : sfDefBody sfFnDef Gen.sed_get_vdiff_bounded_linear_fn_seq = [
    ([], "assign", "A, dA_dZ = get_turbulence(ustar, np.maximum(h - z, 0), max_diff)"),
    ([], "assign", "rand = np.random.normal(size=len(A))"),
    ([], "assign", "diff_upstream = A + 0.5 * dA_dZ ** 2 * dt"),
    ([], "assign", "w = -dA_dZ + rand * np.sqrt(2 * diff_upstream / dt)"),
    ([], "assign", "z_new = z + dt * w"),
    ([], "assign", "benthic = z_new >= h"),
    ([], "assign", "z_new[benthic] = h[benthic]"),
    ([], "assign", "z_new[z_new < 0] *= -1"),
    ([], "return", "z_new")] := by rfl

theorem sf_bl_outer : sfWithoutDefs [sfTurbDef, sfFnDef] Gen.sed_get_vdiff_bounded_linear_fn_seq = [
    ([], "def", "get_turbulence(ustar, meters_from_seafloor, max_mixing)"),
    ([], "def", "fn(z, h, dt, ustar)"),
    ([], "return", "fn")] := by rfl

theorem sf_tb_known (s : SfTbSt α) :
    (!(sfDefBody sfTurbDef Gen.sed_get_vdiff_bounded_linear_fn_seq).isEmpty &&
      (sfDefBody sfTurbDef Gen.sed_get_vdiff_bounded_linear_fn_seq).all (fnStmtKnown sfNoAtom sfTbStep sfTbRet s))
      = true := by
  rw [sf_tb_body]
  simp only [List.all_cons, List.all_nil, fnStmtKnown, fnGuardKnown, String.reduceEq, ↓reduceIte, sfTbStep.eq_def,
    sfTbRet.eq_def, Option.isSome_some, List.isEmpty_cons, Bool.not_false, Bool.and_self]

/-- at `def fn` the name `get_turbulence` is not looked at (`turb = none`) -/
theorem sf_bl_known (s : SfBlSt α) (ht : s.turb = none) :
    (!(sfDefBody sfFnDef Gen.sed_get_vdiff_bounded_linear_fn_seq).isEmpty &&
      (sfDefBody sfFnDef Gen.sed_get_vdiff_bounded_linear_fn_seq).all (fnStmtKnown sfNoAtom sfBlStep sfBlRet s))
      = true := by
  rw [sf_bl_body]
  simp only [List.all_cons, List.all_nil, fnStmtKnown, fnGuardKnown, String.reduceEq, ↓reduceIte, sfBlStep.eq_def, ht,
    sfBlRet.eq_def, Option.isSome_some, List.isEmpty_cons, Bool.not_false, Bool.and_self]

/-- the nested `get_turbulence` is the generated window `Gen.sed_turbulence` -/
theorem sf_get_turbulence (us mfs maxMixing : α) :
    sfTbFn (sfDefBody sfTurbDef Gen.sed_get_vdiff_bounded_linear_fn_seq) us mfs maxMixing
      = some (some (Gen.sed_turbulence us mfs maxMixing)) := by
  unfold sfTbFn
  rw [sf_tb_body]
  simp only [Run.runFn_exec, Run.runFn_ret, Run.guardVal_nil, String.reduceEq, ↓reduceIte, sfTbStep.eq_def,
    sfTbRet.eq_def, List.all_nil, Gen.sed_turbulence]

/-- the nested `fn` of `get_vdiff_bounded_linear_fn(max_diff)` is `Sed.mixBoundedLinear max_diff` -/
theorem sf_bl_fn (maxDiff : α) (draw : SfDraw → α) (z h dt us : α) :
    sfBlFn (sfDefBody sfFnDef Gen.sed_get_vdiff_bounded_linear_fn_seq) maxDiff
        (some (sfTbFn (sfDefBody sfTurbDef Gen.sed_get_vdiff_bounded_linear_fn_seq))) draw z h dt us
      = some (some (mixBoundedLinear maxDiff h dt us (draw .stdNormal) z)) := by
  unfold sfBlFn
  rw [sf_bl_body]
  simp only [Run.runFn_exec, Run.runFn_ret, Run.guardVal_nil, String.reduceEq, ↓reduceIte, sfBlStep.eq_def,
    sfBlRet.eq_def, List.all_nil, sf_get_turbulence, Gen.sed_turbulence, mixBoundedLinear, decide_eq_true_eq]

/-- **`get_vdiff_bounded_linear_fn`** -/
theorem sed_get_vdiff_bounded_linear_fn (maxDiff : α) :
    sedVdiffBoundedLinearFnSeq maxDiff = some (sfMixFnOf (.boundedLinear maxDiff)) := by
  unfold sedVdiffBoundedLinearFnSeq runVdiffBoundedLinearFn
  rw [sf_bl_outer]
  simp only [Run.runFn_exec, Run.runFn_ret, Run.guardVal_nil, String.reduceEq, ↓reduceIte, sfBlOuterStep.eq_def,
    sfBlOuterRet.eq_def, sf_tb_known, sf_bl_known, List.all_nil]
  exact congrArg (fun f => some (some f)) (funext fun draw => funext fun z => funext fun h => funext fun dt =>
    funext fun us => sf_bl_fn maxDiff draw z h dt us)

/-! ### `get_vdiff_fn`

Every text of the dispatch is a known one in every state (`sf_vdiff_known`), so the run is `Run.runPlain`; the cases
are those of the configuration value. -/

theorem sf_vdiff_known (s : SfDispSt α) :
    Gen.sed_get_vdiff_fn_seq.all (fnStmtKnown sfDispAtom sfDispCommon sfVdiffRet s) = true := by
  simp only [Gen.sed_get_vdiff_fn_seq, List.all_cons, List.all_nil, fnStmtKnown, fnGuardKnown, String.reduceEq,
    ↓reduceIte, sfDispAtom.eq_def, sfDispCommon.eq_def, sfVdiffRet.eq_def, sed_get_vdiff_constant_fn,
    sed_get_vdiff_bounded_linear_fn, Option.isSome_some, Bool.and_self, Bool.true_and]
  cases sfDictGet s (·.value) <;> cases sfDictGet s (·.maxDiff) <;> eq_refl

/-- **`get_vdiff_fn`**: `None` → `None`; a number → constant mixing; a mapping: `method` `'constant'` with `value`,
`'bounded_linear'` with `max_diff`; a missing key or another method raises.  No hypothesis. -/
theorem sed_get_vdiff_fn (conf : SfConf α) : sedVdiffFnSeq conf = some ((sfMixingOf conf).map sfMixFnOf) := by
  unfold sedVdiffFnSeq runVdiffFn
  rw [Run.runFn_eq_runPlain sf_vdiff_known, Gen.sed_get_vdiff_fn_seq]
  rcases conf with _ | v | ⟨_ | m, value, maxDiff, source, varname⟩
  case' dict.some =>
    rcases Decidable.em (m = "constant") with rfl | hc
    case' inl => cases value
    case' inr =>
      rcases Decidable.em (m = "bounded_linear") with rfl | hb
      case' inl => cases maxDiff
  all_goals
    simp only [Run.runPlain_exec, Run.runPlain_ret, Run.runPlain_pass, Run.guardVal_cons, Run.guardVal_nil,
      String.reduceEq, ↓reduceIte, sfDispAtom.eq_def, sfDispCommon.eq_def, sfVdiffRet.eq_def, sfDictGet, sfConstDict,
      sed_get_vdiff_constant_fn, sed_get_vdiff_bounded_linear_fn, Option.some_beq_some, beq_iff_eq,
      beq_eq_false_iff_ne, ne_eq, not_false_eq_true, Bool.false_eq_true, sfMixingOf, Option.map, Option.some.injEq,
      reduceCtorEq, *]
  all_goals eq_refl

/-- what `IBM.diffuse` does with the function object: `Sed.diffuse` of the model is the call of `sfMixFnOf c.mixing`
on the suspended particles (`none`, Python's `None`: the method returns at once) -/
theorem sf_diffuse_of_mix_fn (c : Sed.Config α) (e : Sed.Env α) (xi : α) (a : Nat) (z : α) :
    (match sfMixFnOf c.mixing with
      | none => some (some z)
      | some f => if a = 0 then some (some z) else f (fun _ => xi) z e.H c.dt (ustar e.ub e.vb))
      = some (some (diffuse c e xi a z)) := by
  unfold diffuse
  cases c.mixing <;> by_cases ha : a = 0 <;> simp [sfMixFnOf, ha]

end mixing

section grain
variable {α : Type} [Add α] [Sub α] [Mul α] [Div α] [Neg α] [LT α] [DecidableLT α]
  [LE α] [DecidableLE α] [OfScientific α] [HasTrunc α] [HasNarrow α]

/-! ### `get_taucrit_fn_grain_size` -/

/-- closed form of `sedvalue(lon, lat)`: the cell `[j, i]` of the raster with the model's `Grain.nearestCell` along
both axes (`j` from the latitude, `i` from the longitude; `jmax = shape[0] - 1`, `imax = shape[1] - 1`), a NaN cell
reads as 0; `none`: `IndexError` (an axis of length 0) -/
def sfSedValue (g : SfGrid2 α) (lat0 dlat lon0 dlon lon lat : α) : Option α :=
  (sfCell g (nearestCell lat0 dlat ((g.shape0 : Int) - 1) lat) (nearestCell lon0 dlon ((g.shape1 : Int) - 1) lon)).map
    (fun c => c.getD 0.0)

/-- a coordinate axis: its first value and its spacing `c[1] - c[0]` (`none`: fewer than two points, `IndexError`) -/
def sfAxis : List α → Option (α × α)
  | a0 :: a1 :: _ => some (a0, a1 - a0)
  | _ => none

/-- what the function reads from the file: the raster, `lat0 = clat[0]`, `difflat = clat[1] - clat[0]`, `lon0`,
`difflon` (`none`: the file cannot be opened, no such variable, an axis with fewer than two points) -/
def sfGrainGeom (openDs : String → Option (SfDataset α)) (source varname : String) :
    Option (SfGrid2 α × α × α × α × α) :=
  match openDs source with
  | none => none
  | some d =>
    match d.dataVars varname with
    | none => none
    | some g =>
      match sfAxis d.latitude with
      | none => none
      | some la =>
        match sfAxis d.longitude with
        | none => none
        | some lo => some (g, la.1, la.2, lo.1, lo.2)

/-- closed form of `get_taucrit_fn_grain_size(source, varname, method)`: `'bin'` → the model's threshold table on a
`float32` array (`Grain.taucritBinF32`), `'poly'` → `Grain.taucritPoly`, of the grain size at the nearest cell -/
def sfGrainSpec (openDs : String → Option (SfDataset α)) (source varname method : String) : Option (SfTauFn α) :=
  match sfGrainGeom openDs source varname with
  | none => none
  | some (g, la0, dla, lo0, dlo) =>
    if method = "bin" then some (fun lon lat => some ((sfSedValue g la0 dla lo0 dlo lon lat).map taucritBinF32))
    else if method = "poly" then some (fun lon lat => some ((sfSedValue g la0 dla lo0 dlo lon lat).map taucritPoly))
    else none

theorem sf_sv_body : sfDefBody sfSedvalueDef Gen.sed_get_taucrit_fn_grain_size_seq = [
    ([], "assign", "i = np.clip(np.int32(0.5 + (lon - lon0) / difflon), 0, imax)"),
    ([], "assign", "j = np.clip(np.int32(0.5 + (lat - lat0) / difflat), 0, jmax)"),
    ([], "assign", "sed = grain_size[j, i]"),
    ([], "assign", "sed[np.isnan(sed)] = 0"),
    ([], "return", "sed")] := by rfl

theorem sf_bin_body : sfDefBody sfBinDef Gen.sed_get_taucrit_fn_grain_size_seq = [
    ([], "assign", "sed = sedvalue(lon, lat)"),
    ([], "assign", "tauc = np.empty(lon.shape, dtype=np.float32)"),
    ([], "assign", "tauc[:] = 0.12"),
    ([], "assign", "tauc[(sed > 0) & (sed < 70)] = 0.06"),
    ([], "assign", "tauc[sed > 180] = 0.32"),
    ([], "return", "tauc")] := by rfl

theorem sf_poly_body : sfDefBody sfPolyDef Gen.sed_get_taucrit_fn_grain_size_seq = [
    ([], "assign", "sed = sedvalue(lon, lat)"),
    ([], "assign", "tauc = 6e-06 * sed ** 2 + 3e-05 * sed + 0.0591"),
    ([], "assign", "tauc[sed == 0] = 0.12"),
    ([], "return", "tauc")] := by rfl

theorem sf_gs_outer : sfWithoutDefs [sfSedvalueDef, sfBinDef, sfPolyDef] Gen.sed_get_taucrit_fn_grain_size_seq = [
    ([], "import", "import xarray as xr"),
    ([(true, "with xr.open_dataset(source) as dset")], "assign", "grain_size_var = dset.data_vars[varname]"),
    ([(true, "with xr.open_dataset(source) as dset")], "assign", "grain_size = grain_size_var.transpose('latitude', 'longitude').values"),
    ([(true, "with xr.open_dataset(source) as dset")], "assign", "clat = dset.latitude.values"),
    ([(true, "with xr.open_dataset(source) as dset")], "assign", "clon = dset.longitude.values"),
    ([], "assign", "difflat = clat[1] - clat[0]"),
    ([], "assign", "difflon = clon[1] - clon[0]"),
    ([], "assign", "lat0 = clat[0]"),
    ([], "assign", "lon0 = clon[0]"),
    ([], "assign", "imax = grain_size.shape[1] - 1"),
    ([], "assign", "jmax = grain_size.shape[0] - 1"),
    ([], "def", "sedvalue(lon, lat)"),
    ([], "def", "taucrit_bin(lon, lat)"),
    ([], "def", "taucrit_poly(lon, lat)"),
    ([], "assign", "taucrit_fn = dict(bin=taucrit_bin, poly=taucrit_poly)"),
    ([], "return", "taucrit_fn[method]")] := by rfl

theorem sf_sv_known (s : SfSvSt α) :
    (!(sfDefBody sfSedvalueDef Gen.sed_get_taucrit_fn_grain_size_seq).isEmpty &&
      (sfDefBody sfSedvalueDef Gen.sed_get_taucrit_fn_grain_size_seq).all
        (fnStmtKnown sfNoAtom sfSvStep sfSvRet s)) = true := by
  rw [sf_sv_body]
  simp only [List.all_cons, List.all_nil, fnStmtKnown, fnGuardKnown, String.reduceEq, ↓reduceIte, sfSvStep.eq_def,
    sfSvRet.eq_def, Option.isSome_some, List.isEmpty_cons, Bool.not_false, Bool.and_self]

/-- at `def taucrit_bin` (and `def taucrit_poly`) the name `sedvalue` is not looked at -/
theorem sf_bin_known (s : SfBinSt α) (h : s.o.sedvalue = none) :
    (!(sfDefBody sfBinDef Gen.sed_get_taucrit_fn_grain_size_seq).isEmpty &&
      (sfDefBody sfBinDef Gen.sed_get_taucrit_fn_grain_size_seq).all
        (fnStmtKnown sfNoAtom sfBinStep sfBinRet s)) = true := by
  rw [sf_bin_body]
  simp only [List.all_cons, List.all_nil, fnStmtKnown, fnGuardKnown, String.reduceEq, ↓reduceIte, sfBinStep.eq_def,
    sfBinRet.eq_def, sfCallSedvalue, h, sf_bind_some_none, Option.isSome_some, List.isEmpty_cons, Bool.not_false,
    Bool.and_self]

theorem sf_poly_known (s : SfPolySt α) (h : s.o.sedvalue = none) :
    (!(sfDefBody sfPolyDef Gen.sed_get_taucrit_fn_grain_size_seq).isEmpty &&
      (sfDefBody sfPolyDef Gen.sed_get_taucrit_fn_grain_size_seq).all
        (fnStmtKnown sfNoAtom sfPolyStep sfPolyRet s)) = true := by
  rw [sf_poly_body]
  simp only [List.all_cons, List.all_nil, fnStmtKnown, fnGuardKnown, String.reduceEq, ↓reduceIte, sfPolyStep.eq_def,
    sfPolyRet.eq_def, sfCallSedvalue, h, sf_bind_some_none, Option.isSome_some, List.isEmpty_cons, Bool.not_false,
    Bool.and_self]

/-- the nested `sedvalue` is the lookup at the model's nearest cell -/
theorem sf_sedvalue (o : SfGsSt α) (g : SfGrid2 α) (la0 dla lo0 dlo lon lat : α)
    (hg : o.grain = some g) (h1 : o.lat0 = some la0) (h2 : o.difflat = some dla) (h3 : o.lon0 = some lo0)
    (h4 : o.difflon = some dlo) (h5 : o.imax = some ((g.shape1 : Int) - 1)) (h6 : o.jmax = some ((g.shape0 : Int) - 1)) :
    sfSvFn (sfDefBody sfSedvalueDef Gen.sed_get_taucrit_fn_grain_size_seq) o lon lat
      = some (sfSedValue g la0 dla lo0 dlo lon lat) := by
  unfold sfSvFn sfSedValue nearestCell
  rw [sf_sv_body]
  cases hc : sfCell g (clipInt (trunc (0.5 + (lat - la0) / dla)) 0 ((g.shape0 : Int) - 1))
      (clipInt (trunc (0.5 + (lon - lo0) / dlo)) 0 ((g.shape1 : Int) - 1)) <;>
  simp only [Run.runFn_exec, Run.runFn_ret, Run.guardVal_nil, String.reduceEq, ↓reduceIte, sfSvStep.eq_def,
    sfSvRet.eq_def, List.all_cons, List.all_nil, fnStmtKnown, fnGuardKnown, Option.isSome_some, Bool.and_self, hg, h1,
    h2, h3, h4, h5, h6, hc, Option.map]

theorem sf_narrow_ite (c : Prop) [Decidable c] (a b : α) :
    (if c then narrow a else narrow b) = narrow (if c then a else b) := by
  split <;> rfl

/-- the nested `taucrit_bin` is `Grain.taucritBinF32` of `sedvalue(lon, lat)` -/
theorem sf_taucrit_bin (o : SfGsSt α) (f : α → α → Option (Option α)) (lon lat : α) (hf : o.sedvalue = some f) :
    sfBinFn (sfDefBody sfBinDef Gen.sed_get_taucrit_fn_grain_size_seq) o lon lat
      = sfBind (f lon lat) (fun sed => some (some (taucritBinF32 sed))) := by
  unfold sfBinFn
  rw [sf_bin_body]
  rcases hv : f lon lat with _ | _ | sed <;>
  simp only [Run.runFn_exec, Run.runFn_ret, Run.guardVal_nil, String.reduceEq, ↓reduceIte, sfBinStep.eq_def,
    sfBinRet.eq_def, List.all_cons, List.all_nil, fnStmtKnown, fnGuardKnown, Option.isSome_some, Bool.and_self,
    sfCallSedvalue, hf, hv, sf_bind_none, sf_bind_some_none, sf_bind_some_some, taucritBinF32, taucritBin,
    sf_narrow_ite]

/-- the two statements of `taucrit_poly` are the generated window `Gen.sed_taucrit_poly`, which is the model's
`Grain.taucritPoly` (`sed == 0` ⇔ neither `sed < 0` nor `0 < sed`); no order law is used -/
theorem sf_taucrit_poly_gen (sed : α) : Gen.sed_taucrit_poly sed = taucritPoly sed := by
  unfold Gen.sed_taucrit_poly taucritPoly Gen.feq
  by_cases h1 : sed < 0.0 <;> by_cases h2 : (0.0 : α) < sed <;> simp [h1, h2]

/-- the nested `taucrit_poly` is `Grain.taucritPoly` (= `Gen.sed_taucrit_poly`) of `sedvalue(lon, lat)` -/
theorem sf_taucrit_poly (o : SfGsSt α) (f : α → α → Option (Option α)) (lon lat : α) (hf : o.sedvalue = some f) :
    sfPolyFn (sfDefBody sfPolyDef Gen.sed_get_taucrit_fn_grain_size_seq) o lon lat
      = sfBind (f lon lat) (fun sed => some (some (taucritPoly sed))) := by
  unfold sfPolyFn
  rw [sf_poly_body]
  rcases hv : f lon lat with _ | _ | sed <;>
  simp only [Run.runFn_exec, Run.runFn_ret, Run.guardVal_nil, String.reduceEq, ↓reduceIte, sfPolyStep.eq_def,
    sfPolyRet.eq_def, List.all_cons, List.all_nil, fnStmtKnown, fnGuardKnown, Option.isSome_some, Bool.and_self,
    sfCallSedvalue, hf, hv, sf_bind_none, sf_bind_some_none, sf_bind_some_some, ← sf_taucrit_poly_gen,
    Gen.sed_taucrit_poly]

theorem sf_gs_known (openDs : String → Option (SfDataset α)) (s : SfGsSt α) :
    (sfWithoutDefs [sfSedvalueDef, sfBinDef, sfPolyDef] Gen.sed_get_taucrit_fn_grain_size_seq).all
      (fnStmtKnown sfGsAtom (sfGsStep openDs (sfDefBody sfSedvalueDef Gen.sed_get_taucrit_fn_grain_size_seq)
        (sfDefBody sfBinDef Gen.sed_get_taucrit_fn_grain_size_seq)
        (sfDefBody sfPolyDef Gen.sed_get_taucrit_fn_grain_size_seq)) sfGsRet s) = true := by
  rw [sf_gs_outer]
  simp only [List.all_cons, List.all_nil, fnStmtKnown, fnGuardKnown, String.reduceEq, ↓reduceIte, sfGsAtom.eq_def,
    sfGsStep.eq_def, sfGsRet.eq_def, sf_sv_known, sf_bin_known, sf_poly_known, Option.isSome_some, Bool.and_self]


/-- **`get_taucrit_fn_grain_size`**: for every file content, variable name and method.  No hypothesis. -/
theorem sed_get_taucrit_fn_grain_size (openDs : String → Option (SfDataset α)) (source varname method : String) :
    sedTaucritFnGrainSizeSeq openDs source varname method = some (sfGrainSpec openDs source varname method) := by
  unfold sedTaucritFnGrainSizeSeq runTaucritFnGrainSize
  rw [Run.runFn_eq_runPlain (sf_gs_known openDs), sf_gs_outer]
  unfold sfGrainSpec sfGrainGeom
  cases hd : openDs source
  case' some d =>
    cases hg : d.dataVars varname
    case' some g =>
      rcases hla : d.latitude with _ | ⟨la0, _ | ⟨la1, lar⟩⟩
      case' cons.cons => rcases hlo : d.longitude with _ | ⟨lo0, _ | ⟨lo1, lor⟩⟩
  all_goals
    simp only [Run.runPlain_exec, Run.runPlain_ret, Run.guardVal_cons, Run.guardVal_nil, String.reduceEq, ↓reduceIte,
      sfGsAtom.eq_def, sfGsStep.eq_def, sfGsRet.eq_def, SfGsSt.init, sf_sv_known, sf_bin_known, sf_poly_known,
      beq_iff_eq, sfAxis, List.getElem?_cons_zero, List.getElem?_cons_succ, List.getElem?_nil, *]
  by_cases hb : method = "bin"
  · subst hb
    simp only [List.lookup_cons, beq_self_eq_true, ↓reduceIte]
    refine congrArg some (congrArg some (funext fun lon => funext fun lat => ?_))
    rw [sf_taucrit_bin _ _ lon lat rfl, sf_sedvalue _ g la0 (la1 - la0) lo0 (lo1 - lo0) lon lat rfl rfl rfl rfl rfl rfl rfl]
    cases sfSedValue g la0 (la1 - la0) lo0 (lo1 - lo0) lon lat <;> eq_refl
  · by_cases hp : method = "poly"
    · subst hp
      simp only [List.lookup_cons, String.reduceBEq, beq_self_eq_true, String.reduceEq, ↓reduceIte]
      refine congrArg some (congrArg some (funext fun lon => funext fun lat => ?_))
      rw [sf_taucrit_poly _ _ lon lat rfl, sf_sedvalue _ g la0 (la1 - la0) lo0 (lo1 - lo0) lon lat rfl rfl rfl rfl rfl rfl rfl]
      cases sfSedValue g la0 (la1 - la0) lo0 (lo1 - lo0) lon lat <;> eq_refl
    · simp only [List.lookup_cons, List.lookup_nil, beq_eq_false_iff_ne.mpr hb, beq_eq_false_iff_ne.mpr hp, hb, hp,
      ↓reduceIte]
end grain

section taucrit
variable {α : Type} [Add α] [Sub α] [Mul α] [Div α] [Neg α] [LT α] [DecidableLT α]
  [LE α] [DecidableLE α] [OfScientific α] [HasTrunc α] [HasNarrow α]

/-! ### `get_taucrit_fn` of sedimentation -/

/-- `lambda lon, lat: np.zeros_like(lon) + value` for one particle -/
def sfTauConst (v : α) : SfTauFn α := fun _ _ => some (some (0.0 + v))

/-- closed form of the sedimentation `get_taucrit_fn(subconf)` (outer `none`: the code raises; inner `none`: `None`):
`None` → `None`; a number → that constant; a mapping: `method` `'constant'` with `value`, `'grain_size_bin'` /
`'grain_size_poly'` with `source` and `varname` → the grain-size functions; a missing key or another method raises -/
def sfTaucritSpec (openDs : String → Option (SfDataset α)) : SfConf α → Option (Option (SfTauFn α))
  | .none => some none
  | .num v => some (some (sfTauConst v))
  | .dict d =>
    if d.method = some "constant" then d.value.map (fun v => some (sfTauConst v))
    else if d.method = some "grain_size_bin" then
      match d.source, d.varname with
      | some src, some vn => (sfGrainSpec openDs src vn "bin").map some
      | _, _ => none
    else if d.method = some "grain_size_poly" then
      match d.source, d.varname with
      | some src, some vn => (sfGrainSpec openDs src vn "poly").map some
      | _, _ => none
    else none

/-- the call of `get_taucrit_fn_grain_size` with the two keys of the mapping (a missing key raises) -/
theorem sf_call_grain (openDs : String → Option (SfDataset α)) (s : SfDispSt α) (m : String) :
    sfCallGrainSize openDs s m = some (match sfDictGetStr s (·.source), sfDictGetStr s (·.varname) with
      | some src, some vn => (sfGrainSpec openDs src vn m).map some
      | _, _ => none) := by
  unfold sfCallGrainSize
  rcases sfDictGetStr s (·.source) with _ | src
  · eq_refl
  rcases sfDictGetStr s (·.varname) with _ | vn
  · eq_refl
  simp only [sed_get_taucrit_fn_grain_size]
  cases sfGrainSpec openDs src vn m <;> eq_refl

theorem sf_tau_known (openDs : String → Option (SfDataset α)) (s : SfTauSt α) :
    Gen.sed_get_taucrit_fn_seq.all (fnStmtKnown sfTauAtom sfTauStep (sfTauRet openDs) s) = true := by
  simp only [Gen.sed_get_taucrit_fn_seq, List.all_cons, List.all_nil, fnStmtKnown, fnGuardKnown, String.reduceEq,
    ↓reduceIte, sfTauAtom, sfDispAtom.eq_def, sfTauStep.eq_def, sfDispCommon.eq_def, sfTauRet.eq_def, sf_call_grain,
    Option.isSome_some, Bool.and_self, imp_self, false_implies]
  rcases s with ⟨⟨_ | v | ⟨_ | m, _, _, _, _⟩, _⟩, _⟩ <;> eq_refl

/-- **`get_taucrit_fn`** (sedimentation): for every configuration value and every file content.  No hypothesis. -/
theorem sed_get_taucrit_fn (openDs : String → Option (SfDataset α)) (conf : SfConf α) :
    sedTaucritFnSeq openDs conf = some (sfTaucritSpec openDs conf) := by
  unfold sedTaucritFnSeq runSedTaucritFn
  rw [Run.runFn_eq_runPlain (sf_tau_known openDs), Gen.sed_get_taucrit_fn_seq]
  rcases conf with _ | v | ⟨_ | m, value, maxDiff, source, varname⟩
  case' dict.some =>
    rcases Decidable.em (m = "constant") with rfl | hc
    case' inl => cases value
    case' inr =>
      rcases Decidable.em (m = "grain_size_bin") with rfl | hb
      case' inr => rcases Decidable.em (m = "grain_size_poly") with rfl | hp
  all_goals
    simp only [Run.runPlain_exec, Run.runPlain_ret, Run.runPlain_pass, Run.guardVal_cons, Run.guardVal_nil,
      String.reduceEq, ↓reduceIte, sfTauAtom, sfDispAtom.eq_def, sfTauStep.eq_def, sfDispCommon.eq_def,
      sfTauRet.eq_def, sfDictGet, sfConstDict, sf_call_grain, sfDictGetStr, imp_self, false_implies,
      Option.some_beq_some, beq_iff_eq, beq_eq_false_iff_ne, ne_eq, not_false_eq_true, Bool.false_eq_true,
      sfTaucritSpec, Option.map, Option.some.injEq, reduceCtorEq, *]
  all_goals eq_refl

end taucrit

section ladis
variable {α : Type} [Add α] [Sub α] [Mul α] [Div α] [Neg α] [LT α] [DecidableLT α]
  [LE α] [DecidableLE α] [OfScientific α] [HasSqrt α]

/-! ### `ladis`, `sinkvel` -/

/-- **`ladis`** is the model's `Sed.ladis` for one coordinate, with `dt = t1 - t0`, `K` and `v` evaluated at the
initial time `t0`, and ONE standard normal draw used in both diffusion steps.  No hypothesis. -/
theorem sed_ladis_fn_seq (draw : SfDraw → α) (x0 t0 t1 : α) (v K : α → α → α) :
    sedLadisSeq draw x0 t0 t1 v K
      = some (some (Sed.ladis (fun x => K x t0) (fun x => v x t0) (t1 - t0) (draw .stdNormal) x0)) := by
  simp only [sedLadisSeq, runLadis, Gen.sed_ladis_seq, Run.runFn_exec, Run.runFn_ret, Run.guardVal_nil,
    String.reduceEq, ↓reduceIte, sfLadisStep.eq_def, sfLadisRet.eq_def, List.all_nil, Sed.ladis]

/-- … which is the generated window `Gen.sed_ladis` (definitionally) -/
theorem sf_ladis_gen (xi x0 t0 t1 : α) (v K : α → α) :
    Sed.ladis K v (t1 - t0) xi x0 = Gen.sed_ladis x0 t0 t1 xi K v := rfl

/-- the two tables of `sinkvel` -/
def sfSinkvelTab : List α := [0.1, 0.05, 0.025, 0.015, 0.01, 0.005, 0.0]
def sfCumprobTab : List α := [0.0, 0.662, 0.851, 0.883, 0.909, 0.937, 1.0]

/-- **`sinkvel`** (closed form; there is no model function: `Sed.Env.newSink` is the value): the quadratic scipy
spline through (cumulative probability, sinking velocity), abscissae first, evaluated at a UNIFORM `[0, 1)` draw -/
theorem sed_sinkvel_seq (spline : List α → List α → Nat → α → α) (draw : SfDraw → α) :
    sedSinkvelSeq spline draw = some (some (spline sfCumprobTab sfSinkvelTab 2 (draw .uniform01))) := by
  simp only [sedSinkvelSeq, runSinkvel, Gen.sed_sinkvel_seq, Run.runFn_exec, Run.runFn_ret, Run.guardVal_nil,
    String.reduceEq, ↓reduceIte, sfSinkStep.eq_def, sfSinkRet.eq_def, List.all_nil, sfSinkvelTab, sfCumprobTab]

end ladis

section sedctor
variable {α : Type} [Add α] [Sub α] [Mul α] [Div α] [Neg α] [LT α] [DecidableLT α]
  [LE α] [DecidableLE α] [OfScientific α] [HasSqrt α] [HasTrunc α] [HasNarrow α]

/-! ### `IBM.__init__` of sedimentation -/

/-- closed form of the sedimentation constructor (`none`: it raises): `lifespan` and `dt` are mandatory,
`vertical_mixing` and `taucrit` default to `None` -/
def sfSedCtorSpec (openDs : String → Option (SfDataset α)) (cfg : SfSedCfg α) : Option (SfSedSelf α) :=
  match cfg.ibm with
  | none => none
  | some ibm =>
    match ibm.lifespan, sfMixingOf (ibm.verticalMixing.getD .none), sfTaucritSpec openDs (ibm.taucrit.getD .none),
        cfg.dt with
    | some l, some m, some tf, some dt => some ⟨l, sfMixFnOf m, tf, dt, ["grid", "forcing", "state", "_ustar"], -1⟩
    | _, _, _, _ => none

theorem sf_sedctor_known (openDs : String → Option (SfDataset α)) (cfg : SfSedCfg α) (s : SfSedCtorSt α) :
    Gen.sed_ctor_seq.all (fnStmtKnown sfNoAtom (sfSedCtorStep openDs cfg) (sfNoRet (ρ := SfSedSelf α)) s) = true := by
  simp only [Gen.sed_ctor_seq, List.all_cons, List.all_nil, fnStmtKnown, fnGuardKnown, String.reduceEq, ↓reduceIte,
    sfSedCtorStep.eq_def, sfSetNone, sed_get_vdiff_fn, sed_get_taucrit_fn, Option.isSome_some, Bool.and_self,
    Bool.true_and]
  cases sfIbmGet cfg (·.verticalMixing) <;> cases sfIbmGet cfg (·.taucrit) <;>
    simp only [sf_bind_isSome, Option.isSome_some, Bool.and_self]

/-- **`IBM.__init__`** (sedimentation): for every configuration and every file content.  No hypothesis. -/
theorem sed_ctor_seq (openDs : String → Option (SfDataset α)) (cfg : SfSedCfg α) :
    sedCtorSeq openDs cfg = some (sfSedCtorSpec openDs cfg) := by
  unfold sedCtorSeq runSedCtor
  rw [Run.runFn_eq_runPlain (sf_sedctor_known openDs cfg), Gen.sed_ctor_seq]
  rcases cfg with ⟨_ | ⟨_ | l, vm, tc⟩, dt⟩
  case' some.some =>
    cases hm : sfMixingOf (vm.getD .none)
    case' some =>
      cases ht : sfTaucritSpec openDs (tc.getD .none)
      case' some => cases dt
  all_goals
    simp only [Run.runPlain_exec, Run.runPlain_nil, Run.guardVal_nil, String.reduceEq, sfSedCtorStep.eq_def,
      sfSedCtorFin, SfSedCtorSt.init, sfIbmGet, sfSetNone, sed_get_vdiff_fn, sed_get_taucrit_fn, sf_bind_some_some,
      sf_bind_some_none, Option.map, sfSedCtorSpec, List.nil_append, List.cons_append, *]

/-- the configuration record of the model (`Sed.Config`, used by `Seq.sedStep` and `SedimentSeq.lean`) that the
constructor arguments denote; `stateDt` (`state.dt`) and the flag carrier are not constructor arguments -/
def sfSedConfigOf (cfg : SfSedCfg α) (stateDt : α) (carrier : Carrier) : Option (Sed.Config α) :=
  match cfg.ibm with
  | none => none
  | some ibm =>
    match ibm.lifespan, sfMixingOf (ibm.verticalMixing.getD .none), cfg.dt with
    | some l, some m, some dt => some ⟨dt, stateDt, l, m, carrier⟩
    | _, _, _ => none

/-- whenever the constructor returns, its attributes are those of the model's configuration record:
`self.lifespan`, `self.dt`, `self.vdiff_fn` = the function of `c.mixing`, `self.taucrit_fn` = what `get_taucrit_fn`
gives for `config['ibm'].get('taucrit', None)`, the cache counter starts at -1 -/
theorem sed_ctor_config (openDs : String → Option (SfDataset α)) (cfg : SfSedCfg α) (stateDt : α)
    (carrier : Carrier) (self : SfSedSelf α) (h : sedCtorSeq openDs cfg = some (some self)) :
    ∃ c ibm, sfSedConfigOf cfg stateDt carrier = some c ∧ cfg.ibm = some ibm ∧
      self.lifespan = c.lifespan ∧ self.dt = c.dt ∧ self.vdiffFn = sfMixFnOf c.mixing ∧
      sfTaucritSpec openDs (ibm.taucrit.getD .none) = some self.taucritFn ∧ self.ustarTstep = -1 := by
  rw [sed_ctor_seq] at h
  obtain ⟨ibm, dt⟩ := cfg
  cases ibm with
  | none => simp [sfSedCtorSpec] at h
  | some ibm =>
    obtain ⟨lifespan, vm, tc⟩ := ibm
    cases lifespan with
    | none => simp [sfSedCtorSpec] at h
    | some l =>
      cases hm : sfMixingOf (vm.getD .none) with
      | none => simp [sfSedCtorSpec, hm] at h
      | some m =>
        cases ht : sfTaucritSpec openDs (tc.getD .none) with
        | none => simp [sfSedCtorSpec, hm, ht] at h
        | some tf =>
          cases dt with
          | none => simp [sfSedCtorSpec, hm, ht] at h
          | some dt =>
            simp [sfSedCtorSpec, hm, ht] at h
            subst h
            exact ⟨⟨dt, stateDt, l, m, carrier⟩, ⟨some l, vm, tc⟩, by simp [sfSedConfigOf, hm], rfl, rfl, rfl, rfl, ht, rfl⟩

end sedctor

section mine

/-! ### mine: `get_taucrit_fn`, `has_active`, `active` -/

section
variable {α : Type} [Add α] [LE α] [DecidableLE α] [OfScientific α]

/-- closed form of the mine `get_taucrit_fn(value)`: the critical stress of the model's `Sed.Mine.Config.taucrit`
(`none`: no resuspension, for a configured value of 1000 or more) -/
def sfMineTaucrit (value : α) : Option α := if 1000.0 ≤ value then none else some value

/-- **`get_taucrit_fn`** (mine): `None` iff `value >= 1000`, else the constant function.  No hypothesis. -/
theorem mine_get_taucrit_fn (value : α) :
    mineTaucritFnSeq value = some (some ((sfMineTaucrit value).map sfTauConst)) := by
  by_cases h : 1000.0 ≤ value <;>
  simp only [mineTaucritFnSeq, runMineTaucritFn, Gen.mine_get_taucrit_fn_seq, Run.runFn_ret, Run.runFn_pass,
    Run.guardVal_cons, Run.guardVal_nil, ↓reduceIte, sfMineTauAtom.eq_def, sfMineTauRet.eq_def, List.all_cons,
    List.all_nil, fnStmtKnown, fnGuardKnown, Option.isSome_some, Bool.and_self, beq_iff_eq, decide_eq_true_eq,
    decide_eq_false_iff_not, not_false_eq_true, sfMineTaucrit, Option.map, h] <;> eq_refl
end

/-- **`has_active`**: whether the state has a variable `active` (the `KeyError` of the `try` block selects the
handler).  No hypothesis. -/
theorem mine_has_active_seq (hasVar : Bool) : mineHasActiveSeq hasVar = some (some hasVar) := by
  cases hasVar <;>
  simp only [mineHasActiveSeq, runMineHasActive, Gen.mine_has_active_seq, Run.runFn_exec, Run.runFn_ret,
    Run.runFn_pass, Run.guardVal_cons, Run.guardVal_nil, String.reduceEq, ↓reduceIte, sfHaAtom.eq_def,
    sfHaStep.eq_def, sfHaRet.eq_def, List.all_cons, List.all_nil, fnStmtKnown, fnGuardKnown, Option.isSome_some,
    Bool.and_self, beq_iff_eq, Bool.not_true, Bool.not_false, Bool.false_eq_true]

/-- **`active`**: the stored flag, or 1 for every particle when the state has no such variable — the value
`Seq.MineSt.init` starts from (`if c.hasActive then p.active else 1`).  No hypothesis. -/
theorem mine_active_seq (stored : Option Nat) : mineActiveSeq stored = some (some (stored.getD 1)) := by
  cases stored <;>
  simp only [mineActiveSeq, runMineActive, Gen.mine_active_seq, Run.runFn_ret, Run.runFn_pass, Run.guardVal_cons,
    Run.guardVal_nil, ↓reduceIte, sfActAtom.eq_def, sfActRet.eq_def, mine_has_active_seq, List.all_cons, List.all_nil,
    fnStmtKnown, fnGuardKnown, Option.isSome_some, Option.isSome_none, Bool.and_self, beq_iff_eq, Bool.false_eq_true,
    Option.getD_some, Option.getD_none]

end mine

section outfile

/-! ### mine: `create_outfile` -/

/-- the variable `create_outfile` makes of an entry `(k, v)` of `variables`: format `v['ncformat']` (`none`:
`KeyError`), dimension `particle`, every other item of `v` as an attribute, in the order of the mapping -/
def sfNcVarOf (kv : String × SfNcAttrs) : Option SfNcVar :=
  (kv.2.lookup "ncformat").map (fun fmt => ⟨kv.1, fmt, "particle", kv.2.filter (fun a => a.1 != "ncformat")⟩)

/-- closed form of `create_outfile(fname, variables)`: one unlimited dimension `particle`, one variable per entry -/
def sfCreateSpec (entries : List (String × SfNcAttrs)) : Option SfNcFile :=
  (entries.mapM sfNcVarOf).map (fun vs => ⟨[("particle", none)], vs⟩)

theorem sf_co_split1 : sfSplit sfCoWith Gen.mine_create_outfile_seq = (
    [([], "import", "import netCDF4 as nc")],
    [([], "expr", "dset.createDimension('particle', None)"),
     ([(true, "for (k, v) in variables.items()")], "assign", "var = dset.createVariable(k, v['ncformat'], 'particle')"),
     ([(true, "for (k, v) in variables.items()"), (true, "for (attr_name, attr_val) in v.items()"),
       (true, "attr_name != 'ncformat'")], "expr", "var.setncattr(attr_name, attr_val)")],
    []) := by rfl

theorem sf_co_split2 : sfSplit sfCoForKV
    [([], "expr", "dset.createDimension('particle', None)"),
     ([(true, "for (k, v) in variables.items()")], "assign", "var = dset.createVariable(k, v['ncformat'], 'particle')"),
     ([(true, "for (k, v) in variables.items()"), (true, "for (attr_name, attr_val) in v.items()"),
       (true, "attr_name != 'ncformat'")], "expr", "var.setncattr(attr_name, attr_val)")] = (
    [([], "expr", "dset.createDimension('particle', None)")],
    [([], "assign", "var = dset.createVariable(k, v['ncformat'], 'particle')"),
     ([(true, "for (attr_name, attr_val) in v.items()"), (true, "attr_name != 'ncformat'")], "expr",
       "var.setncattr(attr_name, attr_val)")],
    []) := by rfl

theorem sf_co_split3 : sfSplit sfCoForAttr
    [([], "assign", "var = dset.createVariable(k, v['ncformat'], 'particle')"),
     ([(true, "for (attr_name, attr_val) in v.items()"), (true, "attr_name != 'ncformat'")], "expr",
       "var.setncattr(attr_name, attr_val)")] = (
    [([], "assign", "var = dset.createVariable(k, v['ncformat'], 'particle')")],
    [([(true, "attr_name != 'ncformat'")], "expr", "var.setncattr(attr_name, attr_val)")],
    []) := by rfl

/-- the loop over the items of `v`: every item but `ncformat` becomes an attribute of the variable `var` -/
theorem sf_co_attr_loop (attrs : List (String × String)) : ∀ (s : SfCoSt) (x : SfNcVar) (r : List SfNcVar),
    s.vars = x :: r →
    ∃ s', sfForEach (fun (a : String × String) s => sfStraight sfCoAtom sfCoStep
        [([(true, "attr_name != 'ncformat'")], "expr", "var.setncattr(attr_name, attr_val)")]
        { s with attrName := some a.1, attrVal := some a.2 }) attrs s = some (some s') ∧
      s'.dims = s.dims ∧
      s'.vars = { x with attrs := x.attrs ++ attrs.filter (fun a => a.1 != "ncformat") } :: r := by
  induction attrs with
  | nil => intro s x r hv; exact ⟨s, rfl, rfl, by simp [hv]⟩
  | cons a rest ih =>
    intro s x r hv
    by_cases ha : a.1 = "ncformat"
    · obtain ⟨s', h1, h2, h3⟩ := ih { s with attrName := some a.1, attrVal := some a.2 } x r hv
      refine ⟨s', ?_, h2, ?_⟩
      · rw [← h1]
        simp only [sfForEach, sfStraight, Run.runFn_pass, Run.runFn_nil, Run.guardVal_cons, String.reduceEq,
          ↓reduceIte, sfCoAtom.eq_def, sfCoStep.eq_def, fnStmtKnown, fnGuardKnown, List.all_cons, List.all_nil,
          Option.isSome_some, Bool.and_self, beq_iff_eq, bne_iff_ne, ne_eq, not_true_eq_false, hv, ha,
          sf_bind_some_some]
      · rw [h3]; simp [ha]
    · obtain ⟨s', h1, h2, h3⟩ := ih
        ({ s with attrName := some a.1, attrVal := some a.2, vars := { x with attrs := x.attrs ++ [(a.1, a.2)] } :: r })
        { x with attrs := x.attrs ++ [(a.1, a.2)] } r rfl
      refine ⟨s', ?_, h2, ?_⟩
      · rw [← h1]
        simp only [sfForEach, sfStraight, Run.runFn_exec, Run.runFn_nil, Run.guardVal_cons, Run.guardVal_nil,
          String.reduceEq, ↓reduceIte, sfCoAtom.eq_def, sfCoStep.eq_def, beq_iff_eq, bne_iff_ne, ne_eq,
          Option.some.injEq, not_false_eq_true, hv, ha, sf_bind_some_some]
      · rw [h3]; simp [ha]


/-- one trip of the loop over `variables.items()` -/
def sfCoBody (it : String × SfNcAttrs) (s : SfCoSt) : Option (Option SfCoSt) :=
  sfBind (sfStraight sfCoAtom sfCoStep [([], "assign", "var = dset.createVariable(k, v['ncformat'], 'particle')")]
      { s with k := some it.1, v := some it.2 }) fun s =>
    sfBind (sfForEach (fun (a : String × String) s => sfStraight sfCoAtom sfCoStep
        [([(true, "attr_name != 'ncformat'")], "expr", "var.setncattr(attr_name, attr_val)")]
        { s with attrName := some a.1, attrVal := some a.2 }) it.2 s) fun s =>
      sfStraight sfCoAtom sfCoStep [] s

/-- the loop over `variables.items()`: one variable per entry, in order (kept in reverse in the state); the first
entry without `ncformat` raises -/
theorem sf_co_kv_loop (entries : List (String × SfNcAttrs)) : ∀ (s : SfCoSt) (d : List (String × Option Nat)),
    s.dims = some d → d.any (fun p => p.1 == "particle") = true →
    match entries.mapM sfNcVarOf with
    | none => sfForEach sfCoBody entries s = some none
    | some vs => ∃ s', sfForEach sfCoBody entries s = some (some s') ∧ s'.dims = s.dims ∧
        s'.vars = vs.reverse ++ s.vars := by
  induction entries with
  | nil => intro s d hd hp; exact ⟨s, rfl, rfl, by simp⟩
  | cons it rest ih =>
    intro s d hd hp
    cases hf : it.2.lookup "ncformat" with
    | none =>
      have h0 : sfNcVarOf it = none := by simp [sfNcVarOf, hf]
      simp only [List.mapM_cons, h0, Option.bind_eq_bind, Option.bind_none]
      simp only [sfForEach, sfCoBody, sfStraight, Run.runFn_exec, Run.runFn_nil, Run.guardVal_nil, String.reduceEq,
        ↓reduceIte, sfCoStep.eq_def, List.all_nil, sf_bind_some_none, hd, hf]
    | some fmt =>
      have h0 : sfNcVarOf it = some ⟨it.1, fmt, "particle", it.2.filter (fun a => a.1 != "ncformat")⟩ := by
        simp [sfNcVarOf, hf]
      obtain ⟨s1, e1, d1, v1⟩ := sf_co_attr_loop it.2
        ({ s with k := some it.1, v := some it.2, vars := ⟨it.1, fmt, "particle", []⟩ :: s.vars })
        ⟨it.1, fmt, "particle", []⟩ s.vars rfl
      have hstep : sfStraight sfCoAtom sfCoStep
          [([], "assign", "var = dset.createVariable(k, v['ncformat'], 'particle')")]
          { s with k := some it.1, v := some it.2 }
          = some (some { s with k := some it.1, v := some it.2, vars := ⟨it.1, fmt, "particle", []⟩ :: s.vars }) := by
        simp only [sfStraight, Run.runFn_exec, Run.runFn_nil, Run.guardVal_nil, String.reduceEq, ↓reduceIte,
          sfCoStep.eq_def, hd, hf, hp]
      have hbody : sfCoBody it s = some (some s1) := by
        unfold sfCoBody
        rw [hstep, sf_bind_some_some, e1, sf_bind_some_some]
        rfl
      have hd1 : s1.dims = some d := by rw [d1]; exact hd
      have hrun : sfForEach sfCoBody (it :: rest) s = sfForEach sfCoBody rest s1 := by
        show sfBind (sfCoBody it s) (sfForEach sfCoBody rest) = _
        rw [hbody, sf_bind_some_some]
      have := ih s1 d hd1 hp
      rw [hrun]
      simp only [List.mapM_cons, h0, Option.bind_eq_bind, Option.bind_some]
      cases hm : List.mapM sfNcVarOf rest with
      | none =>
        rw [hm] at this
        simpa using this
      | some vs =>
        rw [hm] at this
        obtain ⟨s', r1, r2, r3⟩ := this
        refine ⟨s', r1, by rw [r2, hd1, hd], ?_⟩
        simp [r3, v1]

/-- **`create_outfile`**: for every mapping `variables`.  No hypothesis. -/
theorem mine_create_outfile (entries : List (String × SfNcAttrs)) :
    mineCreateOutfileSeq entries = some (sfCreateSpec entries) := by
  unfold mineCreateOutfileSeq runCreateOutfile
  simp only [sf_co_split1, sf_co_split2, sf_co_split3]
  have hpre : sfStraight sfCoAtom sfCoStep [([], "import", "import netCDF4 as nc")]
      ⟨false, none, [], none, none, none, none⟩ = some (some ⟨true, none, [], none, none, none, none⟩) := by
    simp only [sfStraight, Run.runFn_exec, Run.runFn_nil, Run.guardVal_nil, String.reduceEq, sfCoStep.eq_def]
  have hknown : sfAllKnown sfCoAtom sfCoStep
      ([([], "expr", "dset.createDimension('particle', None)")] ++
        [([], "assign", "var = dset.createVariable(k, v['ncformat'], 'particle')")] ++
        [([(true, "attr_name != 'ncformat'")], "expr", "var.setncattr(attr_name, attr_val)")] ++ [] ++ [])
      ⟨true, none, [], none, none, none, none⟩ = true := by
    simp only [sfAllKnown, List.append_nil, List.cons_append, List.nil_append, List.all_cons, List.all_nil,
      fnStmtKnown, fnGuardKnown, String.reduceEq, ↓reduceIte, sfCoAtom.eq_def, sfCoStep.eq_def, Option.isSome_some,
      Bool.and_self]
  have hdim : sfStraight sfCoAtom sfCoStep [([], "expr", "dset.createDimension('particle', None)")]
      ⟨true, some [], [], none, none, none, none⟩
      = some (some ⟨true, some [("particle", none)], [], none, none, none, none⟩) := by
    simp only [sfStraight, Run.runFn_exec, Run.runFn_nil, Run.guardVal_nil, String.reduceEq, sfCoStep.eq_def,
      List.nil_append]
  rw [hpre, sf_bind_some_some]
  simp only [hknown, Bool.not_true, Bool.false_eq_true, if_false]
  rw [hdim, sf_bind_some_some]
  have key := sf_co_kv_loop entries ⟨true, some [("particle", none)], [], none, none, none, none⟩
    [("particle", none)] rfl rfl
  show sfBind (sfForEach sfCoBody entries ⟨true, some [("particle", none)], [], none, none, none, none⟩) _ = _
  unfold sfCreateSpec
  cases hm : List.mapM sfNcVarOf entries with
  | none =>
    rw [hm] at key
    rw [key]; rfl
  | some vs =>
    rw [hm] at key
    obtain ⟨s', r1, r2, r3⟩ := key
    rw [r1, sf_bind_some_some]
    simp only [sfStraight, Run.runFn_nil, sf_bind_some_some, r2, r3, Option.map, List.reverse_reverse,
      List.append_nil]

end outfile

section update
variable {φ α : Type}

/-! ### mine: `update_outfile`, `store` -/

/-- the writes of `update_outfile`: every entry of `new_values`, in order, into the slice `[a:b]` of its variable
(`none`: a write raises) -/
def sfWriteAll (writeSlice : φ → String → Nat → Nat → List α → Option φ) (a b : Nat) :
    List (String × List α) → φ → Option φ
  | [], f => some f
  | kv :: rest, f =>
    match writeSlice f kv.1 a b kv.2 with
    | none => none
    | some f' => sfWriteAll writeSlice a b rest f'

/-- closed form of `update_outfile(fname, new_values)`: the slice starts at the current size of the dimension
`particle` and has the length of the FIRST entry of `new_values` (`none`: no entry, `StopIteration`) -/
def sfUpdateSpec (dimSize : φ → Nat) (writeSlice : φ → String → Nat → Nat → List α → Option φ) (file : φ)
    (newValues : List (String × List α)) : Option φ :=
  match newValues.head? with
  | none => none
  | some p => sfWriteAll writeSlice (dimSize file) (dimSize file + p.2.length) newValues file

theorem sf_uo_split1 : sfSplit sfUoWith Gen.mine_update_outfile_seq = (
    [([], "import", "import netCDF4 as nc")],
    [([], "assign", "num_old = dset.dimensions['particle'].size"),
     ([], "assign", "num_new = len(next((v for v in new_values.values())))"),
     ([(true, "for (k, v) in new_values.items()")], "assign", "dset.variables[k][num_old:num_old + num_new] = v")],
    []) := by rfl

theorem sf_uo_split2 : sfSplit sfUoForKV
    [([], "assign", "num_old = dset.dimensions['particle'].size"),
     ([], "assign", "num_new = len(next((v for v in new_values.values())))"),
     ([(true, "for (k, v) in new_values.items()")], "assign", "dset.variables[k][num_old:num_old + num_new] = v")] = (
    [([], "assign", "num_old = dset.dimensions['particle'].size"),
     ([], "assign", "num_new = len(next((v for v in new_values.values())))")],
    [([], "assign", "dset.variables[k][num_old:num_old + num_new] = v")],
    []) := by rfl

/-- one trip of the loop over `new_values.items()` -/
def sfUoBody (dimSize : φ → Nat) (writeSlice : φ → String → Nat → Nat → List α → Option φ)
    (newValues : List (String × List α)) (it : String × List α) (s : SfUoSt φ α) : Option (Option (SfUoSt φ α)) :=
  sfStraight sfNoAtom (sfUoStep dimSize writeSlice newValues)
    [([], "assign", "dset.variables[k][num_old:num_old + num_new] = v")] { s with k := some it.1, v := some it.2 }

theorem sf_uo_loop (dimSize : φ → Nat) (writeSlice : φ → String → Nat → Nat → List α → Option φ)
    (newValues : List (String × List α)) (a n : Nat) (items : List (String × List α)) : ∀ (s : SfUoSt φ α),
    s.opened = true → s.numOld = some a → s.numNew = some n →
    match sfWriteAll writeSlice a (a + n) items s.file with
    | none => sfForEach (sfUoBody dimSize writeSlice newValues) items s = some none
    | some f => ∃ s', sfForEach (sfUoBody dimSize writeSlice newValues) items s = some (some s') ∧ s'.file = f := by
  induction items with
  | nil => intro s _ _ _; exact ⟨s, rfl, rfl⟩
  | cons it rest ih =>
    intro s ho ha hn
    cases hw : writeSlice s.file it.1 a (a + n) it.2 with
    | none =>
      simp only [sfWriteAll, hw, sfForEach, sfUoBody, sfStraight, Run.runFn_exec, Run.guardVal_nil, String.reduceEq,
        ↓reduceIte, sfUoStep.eq_def, List.all_nil, sf_bind_some_none, ho, ha, hn]
    | some f' =>
      have hbody : sfUoBody dimSize writeSlice newValues it s
          = some (some { s with k := some it.1, v := some it.2, file := f' }) := by
        simp only [sfUoBody, sfStraight, Run.runFn_exec, Run.runFn_nil, Run.guardVal_nil, String.reduceEq,
          sfUoStep.eq_def, ho, ha, hn, hw]
      have hrun : sfForEach (sfUoBody dimSize writeSlice newValues) (it :: rest) s
          = sfForEach (sfUoBody dimSize writeSlice newValues) rest { s with k := some it.1, v := some it.2, file := f' } := by
        show sfBind (sfUoBody dimSize writeSlice newValues it s) _ = _
        rw [hbody, sf_bind_some_some]
      rw [hrun]
      simp only [sfWriteAll, hw]
      exact ih { s with k := some it.1, v := some it.2, file := f' } ho ha hn

/-- **`update_outfile`**: for every file, every `new_values` and every behaviour of the two library calls.
No hypothesis. -/
theorem mine_update_outfile (dimSize : φ → Nat) (writeSlice : φ → String → Nat → Nat → List α → Option φ)
    (file : φ) (newValues : List (String × List α)) :
    mineUpdateOutfileSeq dimSize writeSlice file newValues = some (sfUpdateSpec dimSize writeSlice file newValues) := by
  unfold mineUpdateOutfileSeq runUpdateOutfile
  simp only [sf_uo_split1, sf_uo_split2]
  have hpre : sfStraight sfNoAtom (sfUoStep dimSize writeSlice newValues) [([], "import", "import netCDF4 as nc")]
      ⟨false, false, file, none, none, none, none⟩ = some (some ⟨true, false, file, none, none, none, none⟩) := by
    simp only [sfStraight, Run.runFn_exec, Run.runFn_nil, Run.guardVal_nil, String.reduceEq, sfUoStep.eq_def]
  have hknown : sfAllKnown sfNoAtom (sfUoStep dimSize writeSlice newValues)
      ([([], "assign", "num_old = dset.dimensions['particle'].size"),
        ([], "assign", "num_new = len(next((v for v in new_values.values())))")] ++
        [([], "assign", "dset.variables[k][num_old:num_old + num_new] = v")] ++ [])
      ⟨true, false, file, none, none, none, none⟩ = true := by
    simp only [sfAllKnown, List.append_nil, List.cons_append, List.nil_append, List.all_cons, List.all_nil,
      fnStmtKnown, fnGuardKnown, String.reduceEq, ↓reduceIte, sfUoStep.eq_def, Option.isSome_some, Bool.and_self]
  rw [hpre, sf_bind_some_some]
  simp only [hknown, Bool.not_true, Bool.false_eq_true, if_false]
  unfold sfUpdateSpec
  cases hh : newValues.head? with
  | none =>
    simp only [sfStraight, Run.runFn_exec, Run.runFn_nil, Run.guardVal_nil, String.reduceEq, ↓reduceIte,
      sfUoStep.eq_def, List.all_nil, hh, sf_bind_some_none]
  | some p =>
    have hhead : sfStraight sfNoAtom (sfUoStep dimSize writeSlice newValues)
        [([], "assign", "num_old = dset.dimensions['particle'].size"),
         ([], "assign", "num_new = len(next((v for v in new_values.values())))")]
        ⟨true, true, file, none, none, none, none⟩
        = some (some ⟨true, true, file, some (dimSize file), some p.2.length, none, none⟩) := by
      simp only [sfStraight, Run.runFn_exec, Run.runFn_nil, Run.guardVal_nil, String.reduceEq, ↓reduceIte,
        sfUoStep.eq_def, hh]
    rw [hhead, sf_bind_some_some]
    have key := sf_uo_loop dimSize writeSlice newValues (dimSize file) p.2.length newValues
      ⟨true, true, file, some (dimSize file), some p.2.length, none, none⟩ rfl rfl rfl
    show sfBind (sfForEach (sfUoBody dimSize writeSlice newValues) newValues
      ⟨true, true, file, some (dimSize file), some p.2.length, none, none⟩) _ = _
    cases hw : sfWriteAll writeSlice (dimSize file) (dimSize file + p.2.length) newValues file with
    | none =>
      simp only [hw] at key
      rw [key, sf_bind_some_none]
      simp only [hw]
    | some f =>
      simp only [hw] at key
      obtain ⟨s', r1, r2⟩ := key
      rw [r1, sf_bind_some_some]
      simp only [sfStraight, Run.runFn_nil, sf_bind_some_some, r2, hw]

/-- closed form of `IBM.store()` (outer `none`: it raises; inner `none`: no output file is configured, nothing is
written): the values of the DEAD particles (`~alive`) of every output variable but `lon`, `lat`; when both of these
are output variables, `grid.xy2ll` of the entries `X`, `Y`; all appended to the output file -/
def sfStoreSpec (outputFile : Option String) (keys : List String) (stateVar : String → Option (List α))
    (alive : List Bool) (xy2ll : List α → List α → List α × List α) (dimSize : φ → Nat)
    (writeSlice : φ → String → Nat → Nat → List α → Option φ) (file : φ) : Option (Option φ) :=
  if !sfTruthy outputFile then some none else
  match sfStoreValues keys stateVar (alive.map (fun b => !b)) with
  | none => none
  | some nv =>
    match (if keys.contains "lon" && keys.contains "lat" then sfAddLonLat xy2ll nv else some nv) with
    | none => none
    | some nv' => (sfUpdateSpec dimSize writeSlice file nv').map some

theorem sf_store_known (outputFile : Option String) (keys : List String) (stateVar : String → Option (List α))
    (alive : List Bool) (xy2ll : List α → List α → List α × List α) (dimSize : φ → Nat)
    (writeSlice : φ → String → Nat → Nat → List α → Option φ) (file : φ) (s : SfStoreSt φ α) :
    Gen.mine_store_seq.all (fnStmtKnown (sfStoreAtom outputFile keys)
      (sfStoreStep keys stateVar alive xy2ll dimSize writeSlice file) sfStoreRet s) = true := by
  simp only [Gen.mine_store_seq, List.all_cons, List.all_nil, fnStmtKnown, fnGuardKnown, String.reduceEq, ↓reduceIte,
    sfStoreAtom.eq_def, sfStoreStep.eq_def, sfStoreRet.eq_def, mine_update_outfile, Option.isSome_some, Bool.and_self,
    Bool.true_and]
  cases s.newValues <;> simp only [sf_bind_isSome, Option.isSome_some, Bool.and_self]

/-- **`store`**: for every state, every configuration of the output and every behaviour of the library calls.
No hypothesis. -/
theorem mine_store_seq (outputFile : Option String) (keys : List String) (stateVar : String → Option (List α))
    (alive : List Bool) (xy2ll : List α → List α → List α × List α) (dimSize : φ → Nat)
    (writeSlice : φ → String → Nat → Nat → List α → Option φ) (file : φ) :
    mineStoreSeq outputFile keys stateVar alive xy2ll dimSize writeSlice file
      = some (sfStoreSpec outputFile keys stateVar alive xy2ll dimSize writeSlice file) := by
  unfold mineStoreSeq runMineStore sfStoreSpec
  rw [Run.runFn_eq_runPlain (sf_store_known outputFile keys stateVar alive xy2ll dimSize writeSlice file),
    Gen.mine_store_seq]
  cases ho : sfTruthy outputFile
  case' true =>
    cases hv : sfStoreValues keys stateVar (alive.map (fun b => !b))
    case' some nv =>
      cases hl : (keys.contains "lon" && keys.contains "lat")
      case' true => rcases hx : sfAddLonLat xy2ll nv with _ | nv'
  all_goals
    simp only [Run.runPlain_exec, Run.runPlain_ret, Run.runPlain_pass, Run.runPlain_nil, Run.guardVal_cons,
      Run.guardVal_nil, String.reduceEq, ↓reduceIte, sfStoreAtom.eq_def, sfStoreStep.eq_def, sfStoreRet.eq_def,
      mine_update_outfile, beq_iff_eq, Bool.not_true, Bool.not_false, Bool.false_eq_true, *]
  case true.some.true.some => cases sfUpdateSpec dimSize writeSlice file nv' <;> eq_refl
  case true.some.false => cases sfUpdateSpec dimSize writeSlice file nv <;> eq_refl

end update

section minector
variable {α : Type} [Add α] [LE α] [DecidableLE α] [OfScientific α]

/-! ### mine: `IBM.__init__` -/

/-- closed form of the mine constructor (`none`: it raises): `lifespan`, `dt`, `nc_attributes` of every name in
`output_instance` are mandatory; defaults `vertical_mixing = 0`, `taucrit = 1000` (no resuspension),
`vertical_advection = False`, `output_file = None`, `land_collision = 'reposition'`; the output file is created iff
a non-empty name is configured -/
def sfMineCtorSpec (cfg : SfMineCfg α) : Option (SfMineSelf α) :=
  match cfg.ibm with
  | none => none
  | some ibm =>
    match ibm.lifespan, cfg.dt, sfOutputVars cfg with
    | some l, some dt, some ov =>
      match (if sfTruthy ibm.outputFile then (sfCreateSpec ov).map some else some none) with
      | none => none
      | some created =>
        some ⟨l, ibm.verticalMixing.getD 0.0, (sfMineTaucrit (ibm.taucrit.getD 1000.0)).map sfTauConst,
          ibm.verticalAdvection.getD false, dt, ibm.outputFile, ov, created, ibm.landCollision.getD "reposition",
          [], [], [], ["grid", "forcing", "state", "_ustar"], -1⟩
    | _, _, _ => none

/-! the statements of the constructor, one by one: the defining equation of `sfMineCtorStep`, and the case of its
`match` that the text selects -/
theorem sf_minector_step_1 (cfg : SfMineCfg α) (s : SfMineCtorSt α) :
    sfMineCtorStep cfg s "assign" "self.lifespan = config['ibm']['lifespan']" =
      (some (match cfg.ibm with
      | some ibm =>
        match ibm.lifespan with
        | some l => some { s with lifespan := some l }
        | none => none
      | none => none)) := by
  simp only [sfMineCtorStep.eq_def]
  eq_refl

theorem sf_minector_step_2 (cfg : SfMineCfg α) (s : SfMineCtorSt α) :
    sfMineCtorStep cfg s "assign" "self.vdiff = config['ibm'].get('vertical_mixing', 0)" =
      (some (match cfg.ibm with
      | some ibm => some { s with vdiff := some (ibm.verticalMixing.getD 0.0) }
      | none => none)) := by
  simp only [sfMineCtorStep.eq_def]
  eq_refl

theorem sf_minector_step_3 (cfg : SfMineCfg α) (s : SfMineCtorSt α) :
    sfMineCtorStep cfg s "assign" "self.taucrit_fn = get_taucrit_fn(config['ibm'].get('taucrit', 1000))" =
      (match cfg.ibm with
    | some ibm =>
      sfBind (mineTaucritFnSeq (ibm.taucrit.getD 1000.0)) (fun f => some (some { s with taucritFn := some f }))
    | none => some none) := by
  simp only [sfMineCtorStep.eq_def]
  eq_refl

theorem sf_minector_step_4 (cfg : SfMineCfg α) (s : SfMineCtorSt α) :
    sfMineCtorStep cfg s "assign" "self.vadv = config['ibm'].get('vertical_advection', False)" =
      (some (match cfg.ibm with
      | some ibm => some { s with vadv := some (ibm.verticalAdvection.getD false) }
      | none => none)) := by
  simp only [sfMineCtorStep.eq_def]
  eq_refl

theorem sf_minector_step_5 (cfg : SfMineCfg α) (s : SfMineCtorSt α) :
    sfMineCtorStep cfg s "assign" "self.dt = config['dt']" =
      (some (match cfg.dt with
      | some dt => some { s with dt := some dt }
      | none => none)) := by
  simp only [sfMineCtorStep.eq_def]
  eq_refl

theorem sf_minector_step_6 (cfg : SfMineCfg α) (s : SfMineCtorSt α) :
    sfMineCtorStep cfg s "assign" "self.output_file = config['ibm'].get('output_file', None)" =
      (some (match cfg.ibm with
      | some ibm => some { s with outputFile := some ibm.outputFile }
      | none => none)) := by
  simp only [sfMineCtorStep.eq_def]
  eq_refl

theorem sf_minector_step_7 (cfg : SfMineCfg α) (s : SfMineCtorSt α) :
    sfMineCtorStep cfg s "assign" "self.output_vars = {varname: config['nc_attributes'][varname] for varname in config['output_instance']}" =
      (some (match sfOutputVars cfg with
      | some ov => some { s with outputVars := some ov }
      | none => none)) := by
  simp only [sfMineCtorStep.eq_def]
  eq_refl

theorem sf_minector_step_8 (cfg : SfMineCfg α) (s : SfMineCtorSt α) :
    sfMineCtorStep cfg s "expr" "create_outfile(self.output_file, self.output_vars)" =
      (match s.outputFile, s.outputVars with
    | some _, some ov => sfBind (mineCreateOutfileSeq ov) (fun f => some (some { s with created := some f }))
    | _, _ => some none) := by
  simp only [sfMineCtorStep.eq_def]
  eq_refl

theorem sf_minector_step_9 (cfg : SfMineCfg α) (s : SfMineCtorSt α) :
    sfMineCtorStep cfg s "assign" "self.land_collision = config['ibm'].get('land_collision', 'reposition')" =
      (some (match cfg.ibm with
      | some ibm => some { s with landCollision := some (ibm.landCollision.getD "reposition") }
      | none => none)) := by
  simp only [sfMineCtorStep.eq_def]
  eq_refl

theorem sf_minector_step_10 (cfg : SfMineCfg α) (s : SfMineCtorSt α) :
    sfMineCtorStep cfg s "assign" "self.x = np.array([])" =
      (some (some { s with x := some [] })) := by
  simp only [sfMineCtorStep.eq_def]

theorem sf_minector_step_11 (cfg : SfMineCfg α) (s : SfMineCtorSt α) :
    sfMineCtorStep cfg s "assign" "self.y = np.array([])" =
      (some (some { s with y := some [] })) := by
  simp only [sfMineCtorStep.eq_def]

theorem sf_minector_step_12 (cfg : SfMineCfg α) (s : SfMineCtorSt α) :
    sfMineCtorStep cfg s "assign" "self.pid = np.array([])" =
      (some (some { s with pid := some [] })) := by
  simp only [sfMineCtorStep.eq_def]

theorem sf_minector_step_13 (cfg : SfMineCfg α) (s : SfMineCtorSt α) :
    sfMineCtorStep cfg s "assign" "self.grid = None" =
      (some (some { s with noneAttrs := s.noneAttrs ++ ["grid"] })) := by
  simp only [sfMineCtorStep.eq_def]

theorem sf_minector_step_14 (cfg : SfMineCfg α) (s : SfMineCtorSt α) :
    sfMineCtorStep cfg s "assign" "self.forcing = None" =
      (some (some { s with noneAttrs := s.noneAttrs ++ ["forcing"] })) := by
  simp only [sfMineCtorStep.eq_def]

theorem sf_minector_step_15 (cfg : SfMineCfg α) (s : SfMineCtorSt α) :
    sfMineCtorStep cfg s "assign" "self.state = None" =
      (some (some { s with noneAttrs := s.noneAttrs ++ ["state"] })) := by
  simp only [sfMineCtorStep.eq_def]

theorem sf_minector_step_16 (cfg : SfMineCfg α) (s : SfMineCtorSt α) :
    sfMineCtorStep cfg s "assign" "self._ustar = None" =
      (some (some { s with noneAttrs := s.noneAttrs ++ ["_ustar"] })) := by
  simp only [sfMineCtorStep.eq_def]

theorem sf_minector_step_17 (cfg : SfMineCfg α) (s : SfMineCtorSt α) :
    sfMineCtorStep cfg s "assign" "self._ustar_tstep = -1" =
      (some (some { s with ustarTstep := some (-1) })) := by
  simp only [sfMineCtorStep.eq_def]

theorem sf_minector_known (cfg : SfMineCfg α) (s : SfMineCtorSt α) :
    Gen.mine_ctor_seq.all (fnStmtKnown sfMineCtorAtom (sfMineCtorStep cfg) (sfNoRet (ρ := SfMineSelf α)) s) = true := by
  simp only [Gen.mine_ctor_seq, List.all_cons, List.all_nil, fnStmtKnown, fnGuardKnown, String.reduceEq, ↓reduceIte,
    sfMineCtorAtom.eq_def, sf_minector_step_1, sf_minector_step_2, sf_minector_step_3, sf_minector_step_4,
    sf_minector_step_5, sf_minector_step_6, sf_minector_step_7, sf_minector_step_8, sf_minector_step_9,
    sf_minector_step_10, sf_minector_step_11, sf_minector_step_12, sf_minector_step_13, sf_minector_step_14,
    sf_minector_step_15, sf_minector_step_16, sf_minector_step_17, mine_get_taucrit_fn, mine_create_outfile,
    Option.isSome_some, Bool.and_self, Bool.true_and]
  rcases cfg.ibm with _ | ibm <;> rcases s.outputFile with _ | f <;> rcases s.outputVars with _ | ov <;>
    simp only [sf_bind_some_some, sf_bind_isSome, Option.isSome_some, Bool.and_self]

/-- **`IBM.__init__`** (mine): for every configuration.  No hypothesis. -/
theorem mine_ctor_seq (cfg : SfMineCfg α) : mineCtorSeq cfg = some (sfMineCtorSpec cfg) := by
  unfold mineCtorSeq runMineCtor
  rw [Run.runFn_eq_runPlain (sf_minector_known cfg), Gen.mine_ctor_seq]
  rcases cfg with ⟨_ | ⟨_ | l, vm, tc, va, outf, lc⟩, _ | dt, nca, oi⟩
  case' some.some.some =>
    cases hov : sfOutputVars (⟨some ⟨some l, vm, tc, va, outf, lc⟩, some dt, nca, oi⟩ : SfMineCfg α)
    case' some ov =>
      cases ht : sfTruthy outf
      case' true => cases hc : sfCreateSpec ov
  all_goals
    simp only [Run.runPlain_exec, Run.runPlain_pass, Run.runPlain_nil, Run.guardVal_cons, Run.guardVal_nil,
      String.reduceEq, ↓reduceIte, sfMineCtorAtom.eq_def, sf_minector_step_1, sf_minector_step_2, sf_minector_step_3,
      sf_minector_step_4, sf_minector_step_5, sf_minector_step_6, sf_minector_step_7, sf_minector_step_8,
      sf_minector_step_9, sf_minector_step_10, sf_minector_step_11, sf_minector_step_12, sf_minector_step_13,
      sf_minector_step_14, sf_minector_step_15, sf_minector_step_16, sf_minector_step_17, sfMineCtorFin,
      SfMineCtorSt.init, mine_get_taucrit_fn, mine_create_outfile, sf_bind_some_some, sf_bind_some_none, beq_iff_eq,
      Bool.false_eq_true, sfMineCtorSpec, Option.map, List.nil_append, List.cons_append, *]

/-- the configuration record of the model (`Sed.Mine.Config`, used by `Seq.mineStep` and `SedimentSeq.lean`) that the
constructor arguments denote; `stateDt` (`state.dt`), `hasActive` (`self.has_active()`, a property of the state) and
the flag carrier are not constructor arguments -/
def sfMineConfigOf (cfg : SfMineCfg α) (stateDt : α) (hasActive : Bool) (carrier : Carrier) :
    Option (Sed.Mine.Config α) :=
  match cfg.ibm with
  | none => none
  | some ibm =>
    match ibm.lifespan, cfg.dt with
    | some l, some dt =>
      some ⟨dt, stateDt, l, ibm.verticalMixing.getD 0.0, sfMineTaucrit (ibm.taucrit.getD 1000.0),
        ibm.verticalAdvection.getD false, hasActive, carrier⟩
    | _, _ => none

/-- whenever the mine constructor returns, its attributes are those of the model's configuration record:
`self.lifespan`, `self.dt`, `self.vdiff`, `self.vadv`, and `self.taucrit_fn` is `None` iff `c.taucrit` is `none`
(otherwise the constant function of that value); the cache counter starts at -1, the position memory is empty -/
theorem mine_ctor_config (cfg : SfMineCfg α) (stateDt : α) (hasActive : Bool) (carrier : Carrier)
    (self : SfMineSelf α) (h : mineCtorSeq cfg = some (some self)) :
    ∃ c, sfMineConfigOf cfg stateDt hasActive carrier = some c ∧
      self.lifespan = c.lifespan ∧ self.dt = c.dt ∧ self.vdiff = c.vdiff ∧ self.vadv = c.vadv ∧
      self.taucritFn = c.taucrit.map sfTauConst ∧ self.ustarTstep = -1 ∧
      self.x = [] ∧ self.y = [] ∧ self.pid = [] := by
  rw [mine_ctor_seq] at h
  obtain ⟨ibm, dt, nca, oi⟩ := cfg
  cases ibm with
  | none => simp [sfMineCtorSpec] at h
  | some ibm =>
    obtain ⟨lifespan, vm, tc, va, outf, lc⟩ := ibm
    cases lifespan with
    | none => simp [sfMineCtorSpec] at h
    | some l =>
      cases dt with
      | none => simp [sfMineCtorSpec] at h
      | some dt =>
        cases hov : sfOutputVars (⟨some ⟨some l, vm, tc, va, outf, lc⟩, some dt, nca, oi⟩ : SfMineCfg α) with
        | none => simp [sfMineCtorSpec, hov] at h
        | some ov =>
          cases hc : (if sfTruthy outf then (sfCreateSpec ov).map some else some none) with
          | none => simp [sfMineCtorSpec, hov, hc] at h
          | some created =>
            simp [sfMineCtorSpec, hov, hc] at h
            subst h
            exact ⟨_, rfl, rfl, rfl, rfl, rfl, rfl, rfl, rfl, rfl, rfl⟩

end minector

section field
variable {α : Type} [Field α] [LinearOrder α] [IsStrictOrderedRing α]

/-! ### over an ordered field: the generated arithmetic windows, the threshold table -/

/-- the function object of constant mixing is the generated window `Gen.sed_mix_const` (`Bridge.sed_mix_const`) -/
theorem sf_mix_fn_const_gen [HasSqrt α] [HasFloor α] (v : α) :
    sfMixFnOf (.const v)
      = some (fun draw z h dt _ => some (some (Gen.sed_mix_const z h dt v (draw .stdNormal)))) := by
  show some _ = some _
  congr 1
  funext draw z h dt us
  rw [sed_mix_const]

/-- the function object of bounded-linear mixing is the generated window `Gen.sed_mix_bounded_linear` on
`Gen.sed_turbulence` (`Bridge.sed_mix_bounded_linear`) -/
theorem sf_mix_fn_bounded_linear_gen [HasSqrt α] [HasFloor α] (m : α) :
    sfMixFnOf (.boundedLinear m)
      = some (fun draw z h dt us => some (some (Gen.sed_mix_bounded_linear z h dt
          (Gen.sed_turbulence us (fmax (h - z) 0.0) m).1 (Gen.sed_turbulence us (fmax (h - z) 0.0) m).2
          (draw .stdNormal)))) := by
  show some _ = some _
  congr 1
  funext draw z h dt us
  rw [sed_mix_bounded_linear]

/-- `np.zeros_like(lon) + value` is `value` -/
theorem sf_tau_const_field (v lon lat : α) : sfTauConst v lon lat = some (some v) := by
  unfold sfTauConst; lits; simp

/-- the `float32` threshold table of `taucrit_bin` (`C08.taucrit_bin_table` under `narrow`) -/
theorem sf_taucrit_bin_f32_table [HasSqrt α] [HasTrunc α] [HasNarrow α] (sed : α) :
    (sed = 0 → taucritBinF32 sed = narrow 0.12) ∧ (0 < sed → sed < 70 → taucritBinF32 sed = narrow 0.06) ∧
    (70 ≤ sed → sed ≤ 180 → taucritBinF32 sed = narrow 0.12) ∧ (180 < sed → taucritBinF32 sed = narrow 0.32) := by
  obtain ⟨h1, h2, h3, h4⟩ := C08.taucrit_bin_table sed
  unfold taucritBinF32
  exact ⟨fun h => by rw [h1 h], fun a b => by rw [h2 a b], fun a b => by rw [h3 a b], fun a => by rw [h4 a]⟩

end field
end Bridge
