import LadimModel.Grid.FjordIbmSeq
import LadimProofs.C12Fjord
import LadimProofs.Bridge.FjordSeq
/-!
# Bridge (C12) — `vps/ibm.py` (`_dilate_filter`, `dilate`, `distance`, `fjord_index`, `_descent_filter_type`, `descent`,
`IBM.__init__`) and `vps/gridforce.py` (`Grid.__init__`, `Forcing.__init__`, `fish_u`, `fish_v`, `velocity`) are the
statement sequences of the code

The generated sequences `Gen.vps_*_seq` are interpreted by `LadimModel/Grid/FjordIbmSeq.lean` (strict runner
`Seq.fiRun`).  Library calls are parameters; the theorems are stated for the reference instances
`fiGenericFilterRef`, `fiBinaryDilationRef` and the footprint `fiTaxicab`, and
`fi_genericFilterRef_dilate`, `fi_genericFilterRef_descent`, `fi_binaryDilationRef_taxicab`, `fi_pyMin_nonneg`,
`fi_firstIdx5` prove that the reference instances are the model's `dilate`, `descentDir`, `binaryDilation`,
`minNonneg` and tie-breaking order.

* `Bridge.vps_dilate_filter`: `_dilate_filter([up, left, center, right, down])` = `fiDilateRule` = the rule of
  `Fjord.dilateAt` (`fi_dilateRule`: `rfl`); any other length raises (`vps_dilate_filter_raises`).  No hypothesis.
* `Bridge.vps_dilate`: `dilate(m)` = `Fjord.dilate m`.  No hypothesis.
* `Bridge.vps_distance_max`: `distance(m, k)` = `dilateIter m (max k 0)` — the `break` at the first fixed point loses
  nothing (`fi_dilate_fix`); `Bridge.vps_distance`: `distance(m)` = `Fjord.distance m`.  No hypothesis.
* `Bridge.vps_fjord_index`: `fjord_index(land, d)` = `fjordIndex (fiNorm land) d`, `fiNorm` = `.astype(bool).astype('int32')`;
  the current text is `fjordInput` (the version after the `fix:` commit: `fi_fjord_guard_seen`), the old text
  gives `fjordInputOld` (`vps_fjord_index_old`).  `Bridge.vps_fjord_index_land01`: `= fjordIndex land d` under
  `C12.Land01 land`; the hypothesis is needed (`vps_fjord_index_not01`: the model does not normalise its argument).
* `Bridge.vps_descent_filter_type`: `_descent_filter_type([up, left, center, right, down])` = `fiDirRule` = the rule of
  `Fjord.descentDir` (`fi_dirRule`: `rfl`): candidates in the order centre, left, right, down, up, first hit wins.
  `Bridge.vps_descent`: `descent(w)` = `(uOf ∘ descentDir w, vOf ∘ descentDir w)`.  No hypothesis.
* `Bridge.vps_ibm_ctor`, `vps_grid_ctor`, `vps_forcing_ctor`: closed forms (keys, defaults).
* `Bridge.vps_fish_u`, `vps_fish_v`: the cache is filled with `Fjord.fishField s …`, `s` the sign that the generated
  text of `_compute_fish_velocity` shows (F-C12a); `Bridge.vps_velocity`: `fishVelocity`, plus the current if
  `use_currents`.
-/
open Ladim Ladim.Seq Ladim.Fjord

set_option linter.unusedSimpArgs false
set_option linter.unusedVariables false
set_option linter.unusedSectionVars false
set_option linter.unusedTactic false
set_option linter.unreachableTactic false
set_option linter.auxLemma false
namespace Bridge

/-! ### Python's `min`, `next(… enumerate …)` -/

theorem fi_minFrom_spec (l : List Int) (a : Int) :
    fiMinFrom a l ∈ a :: l ∧ ∀ x ∈ a :: l, fiMinFrom a l ≤ x := by
  induction l generalizing a with
  | nil => simp [fiMinFrom]
  | cons b bs ih =>
    simp only [fiMinFrom]
    have ht : (if b < a then b else a) = a ∨ (if b < a then b else a) = b := by split_ifs <;> simp
    have ht2 : (if b < a then b else a) ≤ a ∧ (if b < a then b else a) ≤ b := by split_ifs <;> omega
    generalize (if b < a then b else a) = t at ht ht2
    obtain ⟨h1, h2⟩ := ih t
    refine ⟨?_, ?_⟩
    · rcases List.mem_cons.1 h1 with h | h
      · rw [h]; rcases ht with rfl | rfl <;> simp
      · exact List.mem_cons_of_mem _ (List.mem_cons_of_mem _ h)
    · intro x hx
      have hm := h2 t List.mem_cons_self
      rcases List.mem_cons.1 hx with rfl | hx
      · omega
      · rcases List.mem_cons.1 hx with rfl | hx
        · omega
        · exact h2 x (List.mem_cons_of_mem _ hx)

/-- Python's `min` over the non-negative entries is the model's `minNonneg` -/
theorem fi_pyMin_nonneg (l : List Int) : fiPyMin (fiNonneg l) = minNonneg l := by
  unfold fiNonneg
  cases hm : minNonneg l with
  | none =>
    have hn := (C12BFS.minNonneg_none l).1 hm
    have : l.filter (fun n => decide (n ≥ 0)) = [] := by
      rw [List.filter_eq_nil_iff]
      intro x hx
      have := hn x hx
      simp; omega
    rw [this]; rfl
  | some v =>
    obtain ⟨hv1, hv2, hv3⟩ := C12BFS.minNonneg_some l v hm
    have hvf : v ∈ l.filter (fun n => decide (n ≥ 0)) := by
      rw [List.mem_filter]; exact ⟨hv1, by simpa using hv2⟩
    cases hf : l.filter (fun n => decide (n ≥ 0)) with
    | nil => rw [hf] at hvf; cases hvf
    | cons x xs =>
      obtain ⟨h1, h2⟩ := fi_minFrom_spec xs x
      rw [← hf] at h1 h2
      have hw := List.mem_filter.1 h1
      have hw0 : 0 ≤ fiMinFrom x xs := by simpa using hw.2
      have := h2 v hvf
      have := hv3 _ hw.1 hw0
      simp only [fiPyMin]
      congr 1; omega

theorem fi_nonneg_nil (l : List Int) : fiNonneg l = [] ↔ minNonneg l = none := by
  rw [← fi_pyMin_nonneg]
  cases fiNonneg l <;> simp [fiPyMin]

/-- the first index at which `(center, left, right, down, up)` equals `s`: the tie-breaking order of `descentDir` -/
theorem fi_firstIdx5 (c l r d u s : Int) (h : s = c ∨ s = l ∨ s = r ∨ s = d ∨ s = u) :
    fiFirstIdx [c, l, r, d, u] s
      = some ((if c = s then 0 else if l = s then 1 else if r = s then 2 else if d = s then 3
          else if u = s then 4 else 0 : Nat) : Int) := by
  unfold fiFirstIdx
  by_cases h1 : c = s
  · simp [List.findIdx?_cons, h1]
  by_cases h2 : l = s
  · simp [List.findIdx?_cons, h1, h2]
  by_cases h3 : r = s
  · simp [List.findIdx?_cons, h1, h2, h3]
  by_cases h4 : d = s
  · simp [List.findIdx?_cons, h1, h2, h3, h4]
  by_cases h5 : u = s
  · simp [List.findIdx?_cons, h1, h2, h3, h4, h5]
  · exfalso; rcases h with h | h | h | h | h <;> simp_all

theorem fi_unpack5_none (s : FiFiltSt) (items : List Int) (h : items.length ≠ 5) : fiUnpack5 s items = none := by
  match items, h with
  | [], _ => rfl
  | [_], _ => rfl
  | [_, _], _ => rfl
  | [_, _, _], _ => rfl
  | [_, _, _, _], _ => rfl
  | [_, _, _, _, _], h => simp at h
  | _ :: _ :: _ :: _ :: _ :: _ :: _, _ => rfl

/-! ### the runner, one statement at a time

The outcome of a statement is consumed by `Run.fnThen` (`Bridge/Runners.lean`, for the reason given there), not by the
`match` of `fiRunBlocks`. -/
section runner
variable {σ ρ : Type} {I : FiInterp σ ρ} {s s' : σ} {g : List Cond} {k t : String} {rest : List FiBlock}

@[simp] theorem fiRunBlocks_nil : fiRunBlocks I [] s = I.fin s := by rw [fiRunBlocks]

@[simp] theorem fiRunBlocks_plain : fiRunBlocks I (.plain (g, k, t) :: rest) s =
    match fiGuard I s g with
    | none => none
    | some none => some none
    | some (some false) => fiRunBlocks I rest s
    | some (some true) =>
      if k = "return" then I.ret s t else Run.fnThen (I.step s k t) (some none) (fiRunBlocks I rest) := by
  rw [fiRunBlocks]; rfl

end runner

/-! ### `_dilate_filter` -/

/-- **`_dilate_filter`**: on five values (footprint order up, left, centre, right, down) the interpretation of
`Gen.vps_dilate_filter_seq` is the rule of `Fjord.dilateAt` -/
theorem vps_dilate_filter (up left center right down : Int) :
    fiDilateFilterSeq [up, left, center, right, down] = some (some (fiDilateRule up left center right down)) := by
  have hf := fi_pyMin_nonneg [up, left, right, down]
  have he := fi_nonneg_nil [up, left, right, down]
  cases hm : minNonneg [up, left, right, down] with
  | none =>
    rw [hm] at hf
    have he' := he.2 hm
    by_cases hc : center = -1 <;>
    simp [fiDilateFilterSeq, fiDfInterp, Gen.vps_dilate_filter_seq, fiRun, fiStmtKnown, fiCondsKnown, fiLoopHead,
      fiBlocks, fiGuard, fiDfAtom, fiDfStep, fiDfRet, FiFiltSt.init, fiUnpack5, fiDilateRule, hm, he', hc]
  | some v =>
    rw [hm] at hf
    have he' : fiNonneg [up, left, right, down] ≠ [] := by rw [Ne, he, hm]; simp
    by_cases hc : center = -1 <;>
    simp [fiDilateFilterSeq, fiDfInterp, Gen.vps_dilate_filter_seq, fiRun, fiStmtKnown, fiCondsKnown, fiLoopHead,
      fiBlocks, fiGuard, fiDfAtom, fiDfStep, fiDfRet, FiFiltSt.init, fiUnpack5, fiDilateRule, hm, he', hc,
      hf]

/-- a sequence of any other length cannot be unpacked: the code raises -/
theorem vps_dilate_filter_raises (items : List Int) (h : items.length ≠ 5) : fiDilateFilterSeq items = some none := by
  simp [fiDilateFilterSeq, fiDfInterp, Gen.vps_dilate_filter_seq, fiRun, fiStmtKnown, fiCondsKnown, fiLoopHead,
    fiBlocks, fiGuard, fiDfAtom, fiDfStep, fiDfRet, FiFiltSt.init, fi_unpack5_none _ _ h]

/-- the rule on the neighbourhood of a cell is `Fjord.dilateAt` -/
theorem fi_dilateRule (m : Mat) (i j : Int) :
    fiDilateRule (m.get (-2) (i - 1) j) (m.get (-2) i (j - 1)) (m.get (-2) i j) (m.get (-2) i (j + 1))
      (m.get (-2) (i + 1) j) = dilateAt m i j := rfl

/-! ### `_descent_filter_type` -/

theorem fi_dt_step_idx (items : List Int) (s : FiFiltSt) :
    fiDtStep items s "assign"
        "idx_smallest = next((i for i, n in enumerate((center, left, right, down, up)) if n == smallest_neighbour))"
      = some (match s.center, s.left, s.right, s.down, s.up, s.smallest with
        | some c, some l, some r, some d, some u, some v =>
          (fiFirstIdx [c, l, r, d, u] v).map fun k => { s with idx := some k }
        | _, _, _, _, _, _ => none) := by
  have hs := fiDtStep.eq_def items s
  unfold fiDtStep.match_3 at hs
  simp only [hs, String.reduceEq, ↓reduceDIte]
  rfl

theorem fi_dt_step_rest (items : List Int) (s : FiFiltSt) :
    fiDtStep items s "assign" "up, left, center, right, down = items" = some (fiUnpack5 s items) ∧
    fiDtStep items s "assign" "nonnegative_neighbours = [n for n in items if n >= 0]"
      = some (some { s with nn := some (fiNonneg items) }) ∧
    fiDtStep items s "assign" "smallest_neighbour = min(nonnegative_neighbours)"
      = some (s.nn.bind fun l => (fiPyMin l).map fun v => { s with smallest := some v }) := by
  have hs := fiDtStep.eq_def items s
  unfold fiDtStep.match_3 at hs
  simp only [hs, String.reduceEq, ↓reduceDIte, and_self]

/-- **`_descent_filter_type`**: on five values the interpretation of `Gen.vps_descent_filter_type_seq` is the rule of
`Fjord.descentDir`: 0 if the centre is `≤ 0`; otherwise the first of (centre, left, right, down, up) ↦ (0, 1, 2, 3, 4)
that equals the smallest non-negative value of the neighbourhood -/
theorem vps_descent_filter_type (up left center right down : Int) :
    fiDescentFilterTypeSeq [up, left, center, right, down]
      = some (some ((fiDirRule up left center right down : Nat) : Int)) := by
  have hf := fi_pyMin_nonneg [up, left, center, right, down]
  by_cases hc : center ≤ 0
  · simp [fiDescentFilterTypeSeq, fiDtInterp, Gen.vps_descent_filter_type_seq, fiRun, fiStmtKnown, fiCondsKnown,
      fiLoopHead, fiBlocks, fiGuard, fiDtAtom, fi_dt_step_idx, fi_dt_step_rest, fiDtRet, FiFiltSt.init,
      fiUnpack5, fiDirRule, hc]
  · cases hm : minNonneg [up, left, center, right, down] with
    | none =>
      have := (C12BFS.minNonneg_none _).1 hm center (by simp)
      omega
    | some v =>
      rw [hm] at hf
      obtain ⟨hv1, -, -⟩ := C12BFS.minNonneg_some _ v hm
      have hv : v = center ∨ v = left ∨ v = right ∨ v = down ∨ v = up := by
        simp only [List.mem_cons, List.not_mem_nil, or_false] at hv1
        rcases hv1 with h | h | h | h | h
        · exact .inr (.inr (.inr (.inr h)))
        · exact .inr (.inl h)
        · exact .inl h
        · exact .inr (.inr (.inl h))
        · exact .inr (.inr (.inr (.inl h)))
      have hi := fi_firstIdx5 center left right down up v hv
      simp [fiDescentFilterTypeSeq, fiDtInterp, Gen.vps_descent_filter_type_seq, fiRun, fiStmtKnown, fiCondsKnown,
        fiLoopHead, fiBlocks, fiGuard, fiDtAtom, fi_dt_step_idx, fi_dt_step_rest, fiDtRet, FiFiltSt.init,
        fiUnpack5, fiDirRule, hc, hm, hf, hi]

theorem vps_descent_filter_type_raises (items : List Int) (h : items.length ≠ 5) :
    fiDescentFilterTypeSeq items = some none := by
  simp [fiDescentFilterTypeSeq, fiDtInterp, Gen.vps_descent_filter_type_seq, fiRun, fiStmtKnown, fiCondsKnown,
    fiLoopHead, fiBlocks, fiGuard, fiDtAtom, fi_dt_step_idx, fi_dt_step_rest, fiDtRet, FiFiltSt.init,
    fi_unpack5_none _ _ h]

/-- the rule on the neighbourhood of a cell is `Fjord.descentDir` -/
theorem fi_dirRule (w : Mat) (i j : Int) :
    fiDirRule (w.get (-1) (i - 1) j) (w.get (-1) i (j - 1)) (w.get (-1) i j) (w.get (-1) i (j + 1))
      (w.get (-1) (i + 1) j) = descentDir w i j := rfl

/-- the direction index is one of 0 … 4: the lookups `u_values[idx]`, `v_values[idx]` are within range -/
theorem vps_descent_dir_lt (w : Mat) (i j : Int) : descentDir w i j < 5 := by
  have ite_lt : ∀ (c : Prop) [Decidable c] (a b : Nat), a < 5 → b < 5 → (if c then a else b) < 5 := by
    intro c _ a b ha hb
    split <;> assumption
  unfold descentDir
  dsimp only
  apply ite_lt _ _ _ (by decide)
  split
  · decide
  · exact ite_lt _ _ _ (by decide) (ite_lt _ _ _ (by decide) (ite_lt _ _ _ (by decide) (ite_lt _ _ _ (by decide)
      (ite_lt _ _ _ (by decide) (by decide)))))

/-! ### the reference instances of `generic_filter` and `binary_dilation` -/

/-- the taxicab footprint selects up, left, centre, right, down — in this order -/
theorem fi_nbhd_taxicab (m : Mat) (c i j : Int) :
    fiNbhd 1 fiTaxicab m c i j
      = [m.get c (i - 1) j, m.get c i (j - 1), m.get c i j, m.get c i (j + 1), m.get c (i + 1) j] := by
  simp [fiNbhd, fiTaxicab, fiRowsNb, fiRowNb]
  exact ⟨rfl, rfl⟩

/-- the reflected taxicab footprint (`binary_dilation`): the same cells in the opposite order -/
theorem fi_nbhd_taxicab_refl (m : Mat) (c i j : Int) :
    fiNbhd (-1) fiTaxicab m c i j
      = [m.get c (i + 1) j, m.get c i (j + 1), m.get c i j, m.get c i (j - 1), m.get c (i - 1) j] := by
  simp [fiNbhd, fiTaxicab, fiRowsNb, fiRowNb]
  exact ⟨rfl, rfl⟩

/-- the reference `generic_filter` with the taxicab footprint and a filter function that is total on five values -/
theorem fi_genericFilterRef_taxicab (fn : FiFilterFn) (rule : Int → Int → Int → Int → Int → Int)
    (hfn : ∀ a b c d e, fn [a, b, c, d, e] = some (some (rule a b c d e))) (cv : Int) (m : Mat) :
    fiGenericFilterRef fn fiTaxicab cv m
      = some (some ⟨m.rows, m.cols, fun i j =>
          rule (m.get cv (i - 1) j) (m.get cv i (j - 1)) (m.get cv i j) (m.get cv i (j + 1)) (m.get cv (i + 1) j)⟩) := by
  simp [fiGenericFilterRef, fi_nbhd_taxicab, hfn]

/-- `generic_filter(input=m, function=_dilate_filter, footprint=_TAXICAB_FOOTPRINT, mode='constant', cval=-2)` is
`Fjord.dilate m` -/
theorem fi_genericFilterRef_dilate (m : Mat) :
    fiGenericFilterRef fiDilateFilterSeq fiTaxicab (-2) m = some (some (dilate m)) := by
  rw [fi_genericFilterRef_taxicab _ _ vps_dilate_filter]
  rfl

/-- `generic_filter(input=w, function=_descent_filter_type, footprint=_TAXICAB_FOOTPRINT, mode='constant', cval=-1)`
is the matrix of `Fjord.descentDir w` -/
theorem fi_genericFilterRef_descent (w : Mat) :
    fiGenericFilterRef fiDescentFilterTypeSeq fiTaxicab (-1) w
      = some (some ⟨w.rows, w.cols, fun i j => ((descentDir w i j : Nat) : Int)⟩) := by
  rw [fi_genericFilterRef_taxicab _ (fun a b c d e => ((fiDirRule a b c d e : Nat) : Int)) vps_descent_filter_type]
  rfl

theorem fi_bdilate_taxicab (m : Mat) : fiBdilate fiTaxicab m = bdilate m := by
  unfold fiBdilate bdilate
  congr 1
  funext i j
  simp only [fiBdilateAt, bdilateAt, fi_nbhd_taxicab_refl, List.any_cons, List.any_nil, Bool.or_false, Bool.or_eq_true,
    decide_eq_true_eq]
  by_cases h1 : m.get 0 i j ≠ 0 <;> by_cases h2 : m.get 0 (i - 1) j ≠ 0 <;> by_cases h3 : m.get 0 i (j - 1) ≠ 0 <;>
    by_cases h4 : m.get 0 i (j + 1) ≠ 0 <;> by_cases h5 : m.get 0 (i + 1) j ≠ 0 <;> simp [h1, h2, h3, h4, h5]

theorem fi_bdilateIter_taxicab (m : Mat) (k : Nat) : fiBdilateIter fiTaxicab m k = bdilateIter m k := by
  induction k with
  | zero => rfl
  | succ k ih => rw [fiBdilateIter, bdilateIter, ih, fi_bdilate_taxicab]

/-- `binary_dilation(input=m, structure=_TAXICAB_FOOTPRINT, iterations=it)` is `Fjord.binaryDilation m it` -/
theorem fi_binaryDilationRef_taxicab (m : Mat) (it : Int) :
    fiBinaryDilationRef m fiTaxicab it = binaryDilation m it := by
  unfold fiBinaryDilationRef binaryDilation
  simp only [fi_bdilateIter_taxicab]

/-! ### `dilate` -/

theorem fi_dl_ret (gf : FiGenericFilter) (t : List (List Int)) (m : Mat) :
    fiDlRet gf t m
        "generic_filter(input=matrix, function=_dilate_filter, footprint=_TAXICAB_FOOTPRINT, mode='constant', cval=-2)"
      = gf fiDilateFilterSeq t (-2) m := by
  have hs := fiDlRet.eq_def gf t m
  unfold fiDlRet.match_1 at hs
  simp only [hs, String.reduceEq, ↓reduceDIte]

/-- **`dilate`**: the interpretation of `Gen.vps_dilate_seq` is `Fjord.dilate` -/
theorem vps_dilate (m : Mat) : fiDilateSeq fiGenericFilterRef fiTaxicab m = some (some (dilate m)) := by
  simp [fiDilateSeq, fiDlInterp, Gen.vps_dilate_seq, fiRun, fiStmtKnown, fiCondsKnown, fiLoopHead, fiBlocks,
    fiGuard, fi_dl_ret, fi_genericFilterRef_dilate]

/-! ### `distance` -/

theorem fi_cells_mem (m : Mat) (i j : Int) (h : m.inBox i j = true) : (i, j) ∈ fiCells m := by
  unfold Mat.inBox at h
  have h := of_decide_eq_true h
  unfold fiCells
  rw [List.mem_flatMap]
  refine ⟨i.toNat, List.mem_range.2 (by omega), ?_⟩
  rw [List.mem_map]
  refine ⟨j.toNat, List.mem_range.2 (by omega), ?_⟩
  rw [Int.toNat_of_nonneg h.1, Int.toNat_of_nonneg h.2.2.1]

/-- `np.all(a == b)` on arrays of the same shape: all reads agree -/
theorem fi_allEq_get (a b : Mat) (hr : a.rows = b.rows) (hc : a.cols = b.cols) (h : fiAllEq a b = true)
    (c i j : Int) : a.get c i j = b.get c i j := by
  by_cases hb : a.inBox i j = true
  · have hb' : b.inBox i j = true := by rw [← C12BFS.inBox_congr a b hr hc]; exact hb
    rw [C12BFS.get_of_inBox a c i j hb, C12BFS.get_of_inBox b c i j hb']
    unfold fiAllEq at h
    rw [List.all_eq_true] at h
    simpa using h (i, j) (fi_cells_mem a i j hb)
  · have hb' : ¬ b.inBox i j = true := by rw [← C12BFS.inBox_congr a b hr hc]; exact hb
    rw [C12BFS.get_of_not_inBox a c i j hb, C12BFS.get_of_not_inBox b c i j hb']

/-- `dilate` reads its argument through `get` only -/
theorem fi_dilate_congr (a b : Mat) (hr : a.rows = b.rows) (hc : a.cols = b.cols)
    (h : ∀ i j, a.get (-2) i j = b.get (-2) i j) : dilate a = dilate b := by
  unfold dilate dilateAt
  simp only [h, hr, hc]

theorem fi_dilateIter_succ (w : Mat) (n : Nat) : dilateIter w (n + 1) = dilateIter (dilate w) n := by
  induction n with
  | zero => rfl
  | succ k ih => rw [dilateIter, ih]; rfl

/-- a matrix that `dilate` does not change (inside the box) is a fixed point: the `break` of `distance` loses nothing -/
theorem fi_dilate_fix (w : Mat) (h : fiAllEq (dilate w) w = true) (n : Nat) : dilateIter (dilate w) n = dilate w := by
  induction n with
  | zero => rfl
  | succ k ih =>
    rw [dilateIter, ih]
    exact fi_dilate_congr _ _ rfl rfl (fi_allEq_get (dilate w) w rfl rfl h (-2))

/-- the body of the loop of `distance` (the loop header stripped from the guards) -/
def fiDsBody : List Stmt := [
  ([], "assign", "old_distmat = distmat"),
  ([], "assign", "distmat = dilate(distmat)"),
  ([(true, "np.all(distmat == old_distmat)")], "break", "")]

set_option maxRecDepth 100000 in
/-- the generated sequence of `distance`: four statements, the loop, the `return` -/
theorem fi_ds_blocks : fiBlocks fiDsIsLoop Gen.vps_distance_seq = [
    .plain ([], "assign", "matrix = np.asarray(matrix)"),
    .plain ([], "assert", "len(matrix.shape) == 2"),
    .plain ([], "assign", "distmat = matrix"),
    .plain ([(true, "max_dist is None")], "assign", "max_dist = np.size(matrix)"),
    .loop "for i in range(max_dist)" fiDsBody,
    .plain ([], "return", "distmat")] := by rfl

/-- one trip: `old_distmat` is the matrix, `distmat` its dilation; `break` iff they agree -/
theorem fi_ds_body (s : FiDistSt) (w : Mat) (h : s.distmat = some w) :
    fiBody (fiDsInterp fiGenericFilterRef fiTaxicab) fiDsBody s
      = some (some ({ s with old := some w, distmat := some (dilate w) }, fiAllEq (dilate w) w)) := by
  cases hb : fiAllEq (dilate w) w <;>
  simp [fiDsBody, fiBody, fiGuard, fiDsInterp, fiDsAtom, fiDsStep, h, vps_dilate, hb]

/-- at most `n` trips give `n` dilations -/
theorem fi_ds_iter (n : Nat) (s : FiDistSt) (w : Mat) (h : s.distmat = some w) :
    ∃ s', fiIter (fiBody (fiDsInterp fiGenericFilterRef fiTaxicab) fiDsBody) n s = some (some s') ∧
      s'.distmat = some (dilateIter w n) := by
  induction n generalizing s w with
  | zero => exact ⟨s, rfl, h⟩
  | succ k ih =>
    rw [fiIter, fi_ds_body s w h]
    cases hb : fiAllEq (dilate w) w with
    | true =>
      refine ⟨_, rfl, ?_⟩
      rw [fi_dilateIter_succ, fi_dilate_fix w hb]
    | false =>
      obtain ⟨s', hs, hd⟩ := ih { s with old := some w, distmat := some (dilate w) } (dilate w) rfl
      exact ⟨s', hs, by rw [hd, fi_dilateIter_succ]⟩

theorem fi_ds_known (s : FiDistSt) :
    Gen.vps_distance_seq.all (fiStmtKnown (fiDsInterp fiGenericFilterRef fiTaxicab) s) = true := by
  cases h : s.distmat <;>
  simp [Gen.vps_distance_seq, fiStmtKnown, fiCondsKnown, fiLoopHead, fiDsInterp, fiDsIsLoop, fiDsAtom, fiDsStep,
    fiDsRet, h, vps_dilate]

/-- **`distance`** with an explicit `max_dist = k`: `max k 0` dilations (the `break` does not change the result) -/
theorem vps_distance_max (m : Mat) (k : Int) :
    fiDistanceSeq fiGenericFilterRef fiTaxicab m (some k) = some (some (dilateIter m k.toNat)) := by
  unfold fiDistanceSeq fiRun
  rw [if_pos (fi_ds_known _)]
  show fiRunBlocks _ (fiBlocks fiDsIsLoop _) _ = _
  rw [fi_ds_blocks]
  obtain ⟨s', hs, hd⟩ := fi_ds_iter k.toNat ⟨m, some k, some m, none⟩ m rfl
  simp [fiRunBlocks, fiGuard, fiDsInterp, fiDsAtom, fiDsStep, fiDsRet, fiDsTrips, FiDistSt.init]
  simp [fiDsInterp] at hs
  simp [hs, hd]

/-- **`distance`**: the interpretation of `Gen.vps_distance_seq` (with `Gen.vps_dilate_seq` at the call `dilate(…)`,
`max_dist = None`) is `Fjord.distance` -/
theorem vps_distance (m : Mat) :
    fiDistanceSeq fiGenericFilterRef fiTaxicab m none = some (some (distance m)) := by
  unfold fiDistanceSeq fiRun
  rw [if_pos (fi_ds_known _)]
  show fiRunBlocks _ (fiBlocks fiDsIsLoop _) _ = _
  rw [fi_ds_blocks]
  obtain ⟨s', hs, hd⟩ := fi_ds_iter (m.rows * m.cols) ⟨m, some ((m.rows * m.cols : Nat) : Int), some m, none⟩ m rfl
  simp [fiRunBlocks, fiGuard, fiDsInterp, fiDsAtom, fiDsStep, fiDsRet, fiDsTrips, FiDistSt.init]
  simp [fiDsInterp] at hs
  have e : ((m.rows : Int) * (m.cols : Int)).toNat = m.rows * m.cols := by
    rw [← Int.natCast_mul, Int.toNat_natCast]
  simp [e, hs, hd, distance]

/-! ### `fjord_index` -/

theorem fi_norm_norm (m : Mat) : fiNorm (fiNorm m) = fiNorm m := by
  unfold fiNorm
  congr 1
  funext i j
  by_cases h : m.val i j = 0 <;> simp [h]

theorem fi_fj_step (bd : FiBinaryDilation) (t : List (List Int)) (s : FiFjSt) :
    fiFjStep bd t s "assign" "land = np.asarray(land).astype(bool).astype('int32')"
      = some (some { s with land := fiNorm s.land }) ∧
    fiFjStep bd t s "assign"
        "is_not_ocean = binary_dilation(input=land, structure=_TAXICAB_FOOTPRINT, iterations=ocean_dist - 1)"
      = some (some { s with notOcean := some (bd s.land t (s.oceanDist - 1)) }) ∧
    fiFjStep bd t s "assign" "is_not_ocean = land.astype(bool)"
      = some (some { s with notOcean := some (fiNorm s.land) }) ∧
    fiFjStep bd t s "assign" "input_matrix = -np.asarray(is_not_ocean, dtype='int32') - land"
      = some (s.notOcean.map fun no => { s with input := some (fiNegSub no s.land) }) := by
  have hs := fiFjStep.eq_def bd t s
  unfold fiFjStep.match_1 at hs
  simp only [hs, String.reduceEq, ↓reduceDIte, and_self]

/-- the matrix that the current code hands to `distance` is the model's `fjordInput` -/
theorem fi_fjordInput (land : Mat) (d : Int) :
    fiNegSub (if d > 1 then binaryDilation (fiNorm land) (d - 1) else fiNorm (fiNorm land)) (fiNorm land)
      = fjordInput (fiNorm land) d := by
  unfold fjordInput notOcean fiNegSub
  rw [fi_norm_norm]

/-- **`fjord_index`**: the interpretation of `Gen.vps_fjord_index_seq` (with `Gen.vps_distance_seq` at the call
`distance(…)`) is `Fjord.fjordIndex` — built on `fjordInput`, the version with the test `ocean_dist > 1` — of the
normalised land matrix `land.astype(bool).astype('int32')` -/
theorem vps_fjord_index (land : Mat) (d : Int) :
    fiFjordIndexSeq fiGenericFilterRef fiBinaryDilationRef fiTaxicab land d
      = some (some (fjordIndex (fiNorm land) d)) := by
  have hi := fi_fjordInput land d
  by_cases hd : d > 1
  · rw [if_pos hd] at hi
    have hd' : 1 < d := hd
    have hn : ¬ d ≤ 1 := by omega
    simp [fiFjordIndexSeq, fiRunFjordIndex, fiFjInterp, Gen.vps_fjord_index_seq, fiRun, fiStmtKnown, fiCondsKnown,
      fiLoopHead, fiBlocks, fiGuard, fiFjAtom, fi_fj_step, fiFjRet, FiFjSt.init, vps_distance,
      fi_binaryDilationRef_taxicab, hd', hn, hi, fjordIndex]
  · rw [if_neg hd] at hi
    have hd' : ¬ 1 < d := hd
    have hn : d ≤ 1 := by omega
    simp [fiFjordIndexSeq, fiRunFjordIndex, fiFjInterp, Gen.vps_fjord_index_seq, fiRun, fiStmtKnown, fiCondsKnown,
      fiLoopHead, fiBlocks, fiGuard, fiFjAtom, fi_fj_step, fiFjRet, FiFjSt.init, vps_distance,
      fi_binaryDilationRef_taxicab, hd', hn, hi, fjordIndex]

/-- the generated sequence is the version with the test `ocean_dist > 1` (after the `fix:` commit) -/
theorem fi_fjord_guard_seen : fiFjordGuardSeen Gen.vps_fjord_index_seq = true := by decide

/-- the statement sequence before the `fix:` commit, under the same interpretation, is the model's `fjordInputOld` -/
theorem vps_fjord_index_old (land : Mat) (d : Int) :
    fiRunFjordIndex fiGenericFilterRef fiBinaryDilationRef fiTaxicab fiFjordIndexOldSeq land d
      = some (some (distance (fjordInputOld (fiNorm land) d))) ∧ fiFjordGuardSeen fiFjordIndexOldSeq = false := by
  refine ⟨?_, by decide⟩
  have hi : fiNegSub (binaryDilation (fiNorm land) (d - 1)) (fiNorm land) = fjordInputOld (fiNorm land) d := rfl
  simp [fiRunFjordIndex, fiFjInterp, fiFjordIndexOldSeq, fiRun, fiStmtKnown, fiCondsKnown,
    fiLoopHead, fiBlocks, fiGuard, fiFjAtom, fi_fj_step, fiFjRet, FiFjSt.init, vps_distance,
    fi_binaryDilationRef_taxicab, hi]

/-- two matrices of the same shape with the same entries inside the box -/
def FiGetEq (a b : Mat) : Prop := a.rows = b.rows ∧ a.cols = b.cols ∧ ∀ c i j, a.get c i j = b.get c i j

theorem fi_getEq_norm (land : Mat) (hl : C12.Land01 land) : FiGetEq (fiNorm land) land := by
  refine ⟨rfl, rfl, ?_⟩
  intro c i j
  by_cases hb : land.inBox i j = true
  · have hb' : (fiNorm land).inBox i j = true := hb
    rw [C12BFS.get_of_inBox _ c i j hb, C12BFS.get_of_inBox _ c i j hb']
    show (if land.val i j ≠ 0 then 1 else 0) = land.val i j
    rcases hl i j hb with h | h <;> simp [h]
  · have hb' : ¬ (fiNorm land).inBox i j = true := hb
    rw [C12BFS.get_of_not_inBox _ c i j hb, C12BFS.get_of_not_inBox _ c i j hb']

theorem fi_bdilate_congr (a b : Mat) (h : FiGetEq a b) : bdilate a = bdilate b := by
  obtain ⟨hr, hc, hg⟩ := h
  unfold bdilate bdilateAt
  simp only [hg, hr, hc]

theorem fi_getEq_refl (a : Mat) : FiGetEq a a := ⟨rfl, rfl, fun _ _ _ => rfl⟩

theorem fi_bdilateIter_getEq (a b : Mat) (h : FiGetEq a b) (k : Nat) : FiGetEq (bdilateIter a k) (bdilateIter b k) := by
  induction k with
  | zero => exact h
  | succ k ih =>
    rw [bdilateIter, bdilateIter, fi_bdilate_congr _ _ ih]
    exact fi_getEq_refl _

theorem fi_notOcean_getEq (a b : Mat) (h : FiGetEq a b) (d : Int) : FiGetEq (notOcean a d) (notOcean b d) := by
  unfold notOcean binaryDilation
  rw [h.1, h.2.1]
  split_ifs
  · exact fi_bdilateIter_getEq a b h _
  · exact fi_bdilateIter_getEq a b h _
  · exact h

/-- `fjordInput` reads `land` through `get` only -/
theorem fi_fjordInput_congr (a b : Mat) (h : FiGetEq a b) (d : Int) : fjordInput a d = fjordInput b d := by
  have hn := fi_notOcean_getEq a b h d
  unfold fjordInput
  simp only [hn.2.2, h.2.2, h.1, h.2.1]

/-- **`fjord_index`** on a 0 / 1 land matrix (the hypothesis of the theorems of `LadimProofs/C12Fjord.lean`) is
`Fjord.fjordIndex land d` -/
theorem vps_fjord_index_land01 (land : Mat) (hl : C12.Land01 land) (d : Int) :
    fiFjordIndexSeq fiGenericFilterRef fiBinaryDilationRef fiTaxicab land d = some (some (fjordIndex land d)) := by
  rw [vps_fjord_index]
  unfold fjordIndex
  rw [fi_fjordInput_congr _ _ (fi_getEq_norm land hl)]

/-- the hypothesis `Land01` is needed: the code normalises its argument (`astype(bool)`), the model does not.  For the
1 × 1 matrix `[[2]]` the code gives `[[-2]]` (land), the model `[[-4]]`. -/
theorem vps_fjord_index_not01 :
    (fjordIndex (fiNorm ⟨1, 1, fun _ _ => 2⟩) 0).val 0 0 = -2 ∧ (fjordIndex ⟨1, 1, fun _ _ => 2⟩ 0).val 0 0 = -4 := by
  decide

/-! ### `descent` -/

theorem fi_de_step_gf (gf : FiGenericFilter) (t : List (List Int)) (s : FiDeSt) :
    fiDeStep gf t s "assign"
        "idx_direction = generic_filter(input=weights, function=_descent_filter_type, footprint=_TAXICAB_FOOTPRINT, mode='constant', cval=-1)"
      = (match gf fiDescentFilterTypeSeq t (-1) s.weights with
        | none => none
        | some none => some none
        | some (some m) => some (some { s with idx := some m })) := by
  have hs := fiDeStep.eq_def gf t s
  unfold fiDeStep.match_3 at hs
  simp only [hs, String.reduceEq, ↓reduceDIte]
  rfl

theorem fi_de_step_rest (gf : FiGenericFilter) (t : List (List Int)) (s : FiDeSt) :
    fiDeStep gf t s "assign" "u_values = np.array([0, -1, 1, 0, 0])"
      = some (some { s with uValues := some [0, -1, 1, 0, 0] }) ∧
    fiDeStep gf t s "assign" "v_values = np.array([0, 0, 0, -1, 1])"
      = some (some { s with vValues := some [0, 0, 0, -1, 1] }) ∧
    fiDeStep gf t s "assign" "u = u_values[idx_direction]"
      = some (match s.uValues, s.idx with
        | some l, some m => some { s with u := some fun i j => fiIndex l (m.val i j) }
        | _, _ => none) ∧
    fiDeStep gf t s "assign" "v = v_values[idx_direction]"
      = some (match s.vValues, s.idx with
        | some l, some m => some { s with v := some fun i j => fiIndex l (m.val i j) }
        | _, _ => none) := by
  have hs := fiDeStep.eq_def gf t s
  unfold fiDeStep.match_3 at hs
  simp only [hs, String.reduceEq, ↓reduceDIte, true_and]
  exact ⟨rfl, rfl⟩

/-- `u_values[idx]`, `v_values[idx]` are the model's `uOf`, `vOf` -/
theorem fi_index_uOf (n : Nat) : fiIndex [0, -1, 1, 0, 0] (n : Int) = uOf n := by
  unfold fiIndex
  rw [Int.toNat_natCast]
  match n with
  | 0 | 1 | 2 | 3 | 4 => rfl
  | _ + 5 => rfl

theorem fi_index_vOf (n : Nat) : fiIndex [0, 0, 0, -1, 1] (n : Int) = vOf n := by
  unfold fiIndex
  rw [Int.toNat_natCast]
  match n with
  | 0 | 1 | 2 | 3 | 4 => rfl
  | _ + 5 => rfl

/-- an empty matrix has no cell -/
theorem fi_get_empty (w : Mat) (h : w.rows * w.cols = 0) (c i j : Int) : w.get c i j = c := by
  unfold Mat.get
  rw [if_neg]
  rcases Nat.mul_eq_zero.1 h with h | h <;> omega

/-- **`descent`**: the interpretation of `Gen.vps_descent_seq` (with `Gen.vps_descent_filter_type_seq` as the filter
function) is the model's direction field: `u = uOf ∘ descentDir w`, `v = vOf ∘ descentDir w` (indexed `[row, column]`;
`v = +1` for "up" = row − 1: picture orientation, see F-C12a in `Bridge/FjordSeq.lean`) -/
theorem vps_descent (w : Mat) :
    fiDescentSeq fiGenericFilterRef fiTaxicab w
      = some (some (fun i j => uOf (descentDir w i j), fun i j => vOf (descentDir w i j))) := by
  by_cases h0 : w.rows * w.cols = 0
  · have hd : ∀ i j, descentDir w i j = 0 := fun i j =>
      C12.ocean_velocity_zero w i j (by rw [fi_get_empty w h0]; omega)
    have hu : (fun i j => uOf (descentDir w i j)) = fun _ _ => (0 : Int) := by funext i j; rw [hd]; rfl
    have hv : (fun i j => vOf (descentDir w i j)) = fun _ _ => (0 : Int) := by funext i j; rw [hd]; rfl
    have h0' : w.rows = 0 ∨ w.cols = 0 := Nat.mul_eq_zero.1 h0
    rw [hu, hv]
    simp [fiDescentSeq, fiDeInterp, Gen.vps_descent_seq, fiRun, fiStmtKnown, fiCondsKnown, fiLoopHead, fiBlocks,
      fiGuard, fiDeAtom, fi_de_step_gf, fi_de_step_rest, fiDeRet, FiDeSt.init,
      fi_genericFilterRef_descent, h0']
  · have h0' : ¬ (w.rows = 0 ∨ w.cols = 0) := fun h => h0 (Nat.mul_eq_zero.2 h)
    simp [fiDescentSeq, fiDeInterp, Gen.vps_descent_seq, fiRun, fiStmtKnown, fiCondsKnown, fiLoopHead, fiBlocks,
      fiGuard, fiDeAtom, fi_de_step_gf, fi_de_step_rest, fiDeRet, FiDeSt.init,
      fi_genericFilterRef_descent, fi_index_uOf, fi_index_vOf, h0']

/-- the composition that `_compute_fish_velocity` calls: `descent(fjord_index(land, d))` on a 0 / 1 land matrix is the
direction field of `Fjord.fjordIndex land d` — the `w` of `Fjord.nextCell` / `follow` in
`C12.follow_fjord_index_reaches_ocean` -/
theorem vps_descent_fjord_index (land : Mat) (hl : C12.Land01 land) (d : Int) :
    ((fiFjordIndexSeq fiGenericFilterRef fiBinaryDilationRef fiTaxicab land d).bind id).map
        (fiDescentSeq fiGenericFilterRef fiTaxicab)
      = some (some (some (fun i j => uOf (descentDir (fjordIndex land d) i j),
          fun i j => vOf (descentDir (fjordIndex land d) i j)))) := by
  rw [vps_fjord_index_land01 land hl]
  simp only [Option.bind_some, id, Option.map_some, vps_descent]

/-! ### constructors -/

section
variable {α : Type} [OfScientific α]

/-- **`IBM.__init__`**: `dt = config['dt']` (mandatory), `max_depth = config['ibm'].get('max_depth', 2)` (`config['ibm']`
mandatory), `max_age = 2**30`; `grid`, `state`, `forcing` are `None`; a missing mandatory key raises -/
theorem vps_ibm_ctor (cfgDt : Option α) (cfgIbm : Option (Option α)) :
    fiIbmCtorSeq cfgDt cfgIbm
      = some (match cfgDt, cfgIbm with
        | some dt, some md => some ⟨dt, md.getD 2.0, 1073741824.0⟩
        | _, _ => none) := by
  cases cfgDt <;> cases cfgIbm <;>
  simp [fiIbmCtorSeq, Gen.vps_ctor_seq, fiRun, fiStmtKnown, fiCondsKnown, fiLoopHead, fiBlocks, fiGuard,
    fiIcAtom, fiIcStep, fiIcRet, fiIcFin, FiIbmSt.init]

/-- the `max_age` that `Bridge.vps_update_seq` (`LadimProofs/Bridge/BioSeq.lean`) assumes is the one the constructor
sets -/
theorem vps_ibm_ctor_max_age (cfgDt : Option α) (cfgIbm : Option (Option α)) (a : FiIbmAttrs α)
    (h : fiIbmCtorSeq cfgDt cfgIbm = some (some a)) : a.maxAge = 1073741824.0 := by
  rw [vps_ibm_ctor] at h
  cases cfgDt <;> cases cfgIbm <;> simp at h
  rw [← h]

/-- **`Grid.__init__`**: the constructor of the base class, nothing else -/
theorem vps_grid_ctor : fiGridCtorSeq = some (some true) := by
  simp [fiGridCtorSeq, Gen.vps_grid_ctor_seq, fiRun, fiStmtKnown, fiCondsKnown, fiLoopHead, fiBlocks,
    fiGuard, fiGcStep]

/-- **`Forcing.__init__`**: the constructor of the base class; the cache is empty; `fish_swim_speed = 0.14`,
`use_currents = False`, `ocean_distance = config['gridforce'].get('ocean_distance', 10)` (`config['gridforce']`
mandatory) -/
theorem vps_forcing_ctor (cfgGridforce : Option (Option α)) :
    fiForcingCtorSeq cfgGridforce
      = some (cfgGridforce.map fun e => ⟨⟨none, none⟩, 0.14, false, e.getD 10.0⟩) := by
  cases cfgGridforce <;>
  simp [fiForcingCtorSeq, Gen.vps_forcing_ctor_seq, fiRun, fiStmtKnown, fiCondsKnown, fiLoopHead, fiBlocks,
    fiGuard, fiFcStep, fiFcFin, FiForcSt.init]

end

/-! ### `fish_u`, `fish_v`, `velocity` -/

section
variable {α : Type} [Add α] [Sub α] [Mul α] [Div α] [LT α] [DecidableLT α] [OfScientific α]
  [HasRound α] [HasTrunc α] [HasOfInt α]

/-- for the sign `s` that the generated text of `_compute_fish_velocity` shows -/
theorem vps_fish_u_of (s : VSign) (h : Seq.vSignSeen Gen.vps_compute_fish_velocity_seq = some s)
    (M : Mat) (oceanDistance dx00 speed : α) (cache : FiCache α) :
    fiFishUSeq M oceanDistance dx00 speed cache
      = some (some (fiFishUSpec (fishField s M (oceanDistCells oceanDistance dx00) speed) cache)) := by
  have hc := vps_compute_fish_velocity_of s h M oceanDistance dx00 speed
  obtain ⟨u, v⟩ := cache
  cases u <;>
  simp [fiFishUSeq, Gen.vps_fish_u_seq, fiRun, fiStmtKnown, fiCondsKnown, fiLoopHead, fiBlocks, fiGuard,
    fiFuAtom, fiCacheStep, fiFuRet, fiFishUSpec, hc]

theorem vps_fish_v_of (s : VSign) (h : Seq.vSignSeen Gen.vps_compute_fish_velocity_seq = some s)
    (M : Mat) (oceanDistance dx00 speed : α) (cache : FiCache α) :
    fiFishVSeq M oceanDistance dx00 speed cache
      = some (some (fiFishVSpec (fishField s M (oceanDistCells oceanDistance dx00) speed) cache)) := by
  have hc := vps_compute_fish_velocity_of s h M oceanDistance dx00 speed
  obtain ⟨u, v⟩ := cache
  cases v <;>
  simp [fiFishVSeq, Gen.vps_fish_v_seq, fiRun, fiStmtKnown, fiCondsKnown, fiLoopHead, fiBlocks, fiGuard,
    fiFvAtom, fiCacheStep, fiFvRet, fiFishVSpec, hc]

/-- **`fish_u`**: the interpretation of `Gen.vps_fish_u_seq` (with `Gen.vps_compute_fish_velocity_seq` at the call)
returns the cached array, after filling the cache — both components — with `Fjord.fishField s …` if `_fish_u` is
`None`; `s` is the sign with which the generated text stores `v` (F-C12a) -/
theorem vps_fish_u :
    ∃ s, Seq.vSignSeen Gen.vps_compute_fish_velocity_seq = some s ∧
      ∀ (M : Mat) (oceanDistance dx00 speed : α) (cache : FiCache α),
        fiFishUSeq M oceanDistance dx00 speed cache
          = some (some (fiFishUSpec (fishField s M (oceanDistCells oceanDistance dx00) speed) cache)) := by
  obtain ⟨s, h⟩ := vps_vsign_seen
  exact ⟨s, h, vps_fish_u_of s h⟩

/-- **`fish_v`** -/
theorem vps_fish_v :
    ∃ s, Seq.vSignSeen Gen.vps_compute_fish_velocity_seq = some s ∧
      ∀ (M : Mat) (oceanDistance dx00 speed : α) (cache : FiCache α),
        fiFishVSeq M oceanDistance dx00 speed cache
          = some (some (fiFishVSpec (fishField s M (oceanDistCells oceanDistance dx00) speed) cache)) := by
  obtain ⟨s, h⟩ := vps_vsign_seen
  exact ⟨s, h, vps_fish_v_of s h⟩

/-- from the cache that the constructor leaves (`vps_forcing_ctor`): `fish_u` computes the field once, `fish_v` then
reads the cache — the arrays that `fish_velocity` indexes are `(fishField s …).u`, `(fishField s …).v` -/
theorem vps_fish_uv_after_ctor (f : Fjord.Field α) :
    fiFishUSpec f ⟨none, none⟩ = (some f.u, ⟨some f.u, some f.v⟩) ∧
    fiFishVSpec f (fiFishUSpec f ⟨none, none⟩).2 = (some f.v, ⟨some f.u, some f.v⟩) := ⟨rfl, rfl⟩

/-- **`velocity`**: the interpretation of `Gen.vps_velocity_seq` (with `Gen.vps_fish_velocity_seq` at the call
`self.fish_velocity(X, Y)`) is the fish velocity `Fjord.fishVelocity …`, plus the current of the base class if
`use_currents` -/
theorem vps_velocity (i0 j0 : Int) (shape : Nat × Nat) (fishU fishV : Int → Int → α) (X Y : α) (useCurrents : Bool)
    (cur : α × α) :
    fiVelocitySeq i0 j0 shape fishU fishV X Y useCurrents cur
      = some (some (fiVelocitySpec (fishVelocity i0 j0 shape fishU fishV X Y) useCurrents cur)) := by
  have hf := vps_fish_velocity i0 j0 shape fishU fishV X Y
  cases useCurrents <;>
  simp [fiVelocitySeq, Gen.vps_velocity_seq, fiRun, fiStmtKnown, fiCondsKnown, fiLoopHead, fiBlocks,
    fiGuard, fiVlAtom, fiVlStep, fiVlRet, fiVelocitySpec, hf]

/-- with `use_currents = False` (the value the constructor sets, and nothing changes it): the fish velocity alone -/
theorem vps_velocity_no_currents (i0 j0 : Int) (shape : Nat × Nat) (fishU fishV : Int → Int → α) (X Y : α)
    (cur : α × α) :
    fiVelocitySeq i0 j0 shape fishU fishV X Y false cur = some (some (fishVelocity i0 j0 shape fishU fishV X Y)) := by
  rw [vps_velocity]; rfl

end
end Bridge
