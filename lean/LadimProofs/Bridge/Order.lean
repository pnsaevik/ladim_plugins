import LadimModel.Generated.Formulas
/-!
# Bridge (C05, C09) — order of the rules in the shrimp, sand eel and lunar eel updates

The hand-written models of these three modules are per-rule (`Bio.shrimpMix`, `Bio.shrimpMigrate`, `Develop.*`,
`Bio.sandeelZ`, `Bio.eelZ`); the harness composes them in the order below.  The theorems pin that order to the
statement sequence of `update_ibm` in /repo's current source (`Gen.*_update_seq`, regenerated on every run): every
statement is unconditional, and the calls are exactly these, in this order.
-/
open Ladim

namespace Bridge

/-- the unconditional statements of a sequence that are method calls or bare function calls, in order -/
def callsOf (seq : List (List (Bool × String) × String × String)) : List String :=
  (seq.filter (fun s => s.2.1 = "call" || s.2.1 = "expr")).map (fun s => s.2.2)

/-- every statement of the sequence is outside any `if` / `for` -/
def unconditional (seq : List (List (Bool × String) × String × String)) : Bool := seq.all (fun s => s.1.isEmpty)

/- `rfl`, not `decide`: the computed list and the stated one are then compared as terms (equal literals are identical);
`decide` would compare every text with itself byte by byte. -/
theorem shrimp_order :
    unconditional Gen.shrimp_update_seq = true ∧
    callsOf Gen.shrimp_update_seq = ["initialize", "update_ibm_forcing", "growth", "mixing", "diel_migration"] := by
  constructor
  · rfl
  · rfl

theorem sandeel_order :
    unconditional Gen.sandeel_update_seq = true ∧
    callsOf Gen.sandeel_update_seq =
      ["initialize_hatch_rate",
       "egg_development(self.bottom_temp(), state['stage'], state['hatch_rate'], state['active'], self.dt)",
       "larval_development(temp, state['stage'], state['active'], self.dt)",
       "vertical_diffuse"] := by
  constructor
  · rfl
  · rfl

theorem eel_order :
    callsOf Gen.eel_update_seq = ["init_grid", "horizontal_advect", "vertical_diffuse"] ∧
    (Gen.eel_update_seq.filter (fun s => !s.1.isEmpty)).map (fun s => (s.1, s.2.2)) =
      [([(true, "self.xs_dx is None")], "init_grid")] := by
  constructor
  · rfl
  · rfl

end Bridge
