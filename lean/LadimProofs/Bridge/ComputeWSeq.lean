import LadimModel.Grid.ComputeWSeq
import LadimProofs.Bridge.Runners
import LadimProofs.C14
/-!
# Bridge (C14, C15) — `compute_w`: the cell-by-cell model *is* the whole-array numpy program

The generated statement sequences of `chemicals/gridforce.py`, interpreted by `LadimModel/Grid/ComputeWSeq.lean` (every
statement and every `return` text must be a known one), and the hand-written model `LadimModel/Grid/ComputeW.lean`:

* `compute_w_seq` — COMPLETE equality for `Gen.compute_w_seq` (all 47 statements, up to the `return`): on arrays of the
  shapes of `CwArgs` (`pn`, `pm`: `(J, I)`; `u`: `(T, K, J, I-1)`; `v`: `(T, K, J-1, I)`; `z_w`: `(T, K+1, J, I)`; `z_r`:
  `(T, K, J, I)`) with `K ≥ 3` the run returns a valid array of shape `(T, K+1, J-2+2, I-2+2)` whose element
  `(t, k, j, i)` is `ComputeW.computeW (grid t) (u t) (v t) k j i` for every `t`, every `k ≤ K` and EVERY `j`, `i : Int`
  (inside the interior, on the padded ring, and outside the array: the condition of `np.pad` is the model's
  `1 ≤ j ∧ j+2 ≤ J ∧ 1 ≤ i ∧ i+2 ≤ I`).  The only hypothesis is `K ≥ 3`; `compute_w_seq_few_layers`: for `K < 3` the
  run raises.  Intermediates (`cwHuon_f`, `cwHvom_f`, `cwDW_f`, `cwW1_f`, `cwWscl_f`, `cwVert_f`, `cwVertW_f`): the
  interior arrays hold, at index `(j, i)`, the model's `dW`, `wcum`, `wscl`, `vert`, `vertW` of rho cell `(j+1, i+1)` — the
  offset of the slices `[1:-1, 1:-1]`; the final `np.pad` shifts back by one.
* `forcing_compute_w_seq` — `Forcing.compute_w` with the callee interpreted from `Gen.compute_w_seq`: `computeW` on the
  grid `pm = 1/dx`, `pn = 1/dy` (in this order into `compute_w(pn, pm, …)`), `u[k, j, i] = u_in[k, j, i+1]`,
  `v[k, j, i] = v_in[k, j+1, i]`, one time, `w[0]`.
* `s_stretch_seq`, `sdepth_seq` — no model function exists: self-contained closed forms (`cwSsS`, `cwSsCurve`, `cwSdS`,
  `cwSdZ`); `sdepth_w_vt1`, `sdepth_w_vt2`: for `stagger = 'w'`, `C[0] = -1`, `C[N] = 0` the lowest level is `-H` and the
  highest `0`; `cwSdZ_vt2`: `Vtransform = 2` is `(hc·S + H·C)/(hc + H)·H`.
* `compute_w_seq_linear`, `compute_w_seq_lateral_zero` — C14's `w_linear`, `w_lateral_zero` for the array the code returns.

No discrepancy between model and code was found.
-/
open Ladim Ladim.Seq Ladim.ComputeW

set_option linter.unusedSectionVars false
set_option linter.unusedVariables false
set_option linter.unusedSimpArgs false
set_option linter.auxLemma false

namespace Bridge

/-! ## `compute_w`: the program without its texts -/
section
variable {α : Type} [Add α] [Sub α] [Mul α] [Div α] [Neg α] [OfScientific α]

theorem cw_and_of_imp {a b : Prop} (hab : a → b) (ha : a) : a ∧ b := ⟨ha, hab ha⟩

theorem cwA2_add (A B : CwA2 α) : A + B = CwA2.zip (· + ·) A B := rfl
theorem cwA2_mul (A B : CwA2 α) : A * B = CwA2.zip (· * ·) A B := rfl
theorem cwA3_add (A B : CwA3 α) : A + B = CwA3.zip (· + ·) A B := rfl
theorem cwA3_sub (A B : CwA3 α) : A - B = CwA3.zip (· - ·) A B := rfl
theorem cwA3_mul (A B : CwA3 α) : A * B = CwA3.zip (· * ·) A B := rfl
theorem cwA3_div (A B : CwA3 α) : A / B = CwA3.zip (· / ·) A B := rfl
theorem cwA4_add (A B : CwA4 α) : A + B = CwA4.zip (· + ·) A B := rfl
theorem cwA4_sub (A B : CwA4 α) : A - B = CwA4.zip (· - ·) A B := rfl
theorem cwA4_mul (A B : CwA4 α) : A * B = CwA4.zip (· * ·) A B := rfl
theorem cwA4_div (A B : CwA4 α) : A / B = CwA4.zip (· / ·) A B := rfl

variable (x : CwArgs α)

/-- the values of the names of `compute_w` at the moment they are assigned, as compositions of the array operations
(the same compositions as in `cwStep`; `cw_run_state` checks that by `rfl`) -/
def cwHzR : CwA4 α := x.aZw.kFrom 1 - x.aZw.kTo 1
def cwHzU : CwA4 α := ((cwHzR x).iTo 1 + (cwHzR x).iFrom 1).scale 0.5
def cwHzV : CwA4 α := ((cwHzR x).jTo 1 + (cwHzR x).jFrom 1).scale 0.5
def cwOnU : CwA2 α := (x.aPn.iTo 1 + x.aPn.iFrom 1).sdiv 2.0
def cwOmV : CwA2 α := (x.aPm.jTo 1 + x.aPm.jFrom 1).sdiv 2.0
def cwHuon : CwA4 α := cwHzU x * x.aU * (cwOnU x).lift24 x.aU.nt x.aU.nk
def cwHvom : CwA4 α := cwHzV x * x.aV * (cwOmV x).lift24 x.aV.nt x.aV.nk
def cwDW : CwA4 α :=
  ((cwHuon x).jMid 1 1).iTo 1 - ((cwHuon x).jMid 1 1).iFrom 1 + ((cwHvom x).jTo 1).iMid 1 1
    - ((cwHvom x).jFrom 1).iMid 1 1
def cwW0 : CwA4 α := (cwDW x).kFirst1.scale 0.0
def cwW1 : CwA4 α := (cwW0 x).catK (cwDW x).cumsumK
def cwWrk : CwA4 α := (cwW1 x).kLast1 / (((x.aZw.kLast1).jMid 1 1).iMid 1 1 - ((x.aZw.kFirst1).jMid 1 1).iMid 1 1)
def cwW2 : CwA4 α :=
  cwW1 x - (cwWrk x).bcastK (cwW1 x).nk *
    ((x.aZw.jMid 1 1).iMid 1 1 - (((x.aZw.kFirst1).jMid 1 1).iMid 1 1).bcastK x.aZw.nk)
def cwWscl : CwA4 α :=
  cwW2 x * ((x.aPm.jMid 1 1).iMid 1 1 * (x.aPn.jMid 1 1).iMid 1 1).lift24 (cwW2 x).nt (cwW2 x).nk
def cwWrkU : CwA4 α := x.aU * (x.aZr.iFrom 1 - x.aZr.iTo 1) * (x.aPm.iTo 1 + x.aPm.iFrom 1).lift24 x.aU.nt x.aU.nk
def cwVertU : CwA4 α := ((cwWrkU x).iTo 1 + (cwWrkU x).iFrom 1).scale 0.25
def cwWrkV : CwA4 α := x.aV * (x.aZr.jFrom 1 - x.aZr.jTo 1) * (x.aPn.jTo 1 + x.aPn.jFrom 1).lift24 x.aV.nt x.aV.nk
def cwVertV : CwA4 α := ((cwWrkV x).jTo 1 + (cwWrkV x).jFrom 1).scale 0.25
def cwVert : CwA4 α := (cwVertU x).jMid 1 1 + (cwVertV x).iMid 1 1
def cwC1 : CwS α := ⟨true, 0.375⟩
def cwC2 : CwS α := ⟨true, 0.75⟩
def cwC3 : CwS α := ⟨true, 0.125⟩
def cwC4 : CwS α := ⟨true, 0.5625⟩
def cwC5 : CwS α := ⟨true, 0.0625⟩
def cwZrIn : CwA4 α := (x.aZr.jMid 1 1).iMid 1 1
def cwZwIn : CwA4 α := (x.aZw.jMid 1 1).iMid 1 1
def cwSlopeBot : CwA3 α := ((cwZrIn x).atK 0 - (cwZwIn x).atK 0) / ((cwZrIn x).atK 1 - (cwZrIn x).atK 0)
def cwB0 : CwA3 α :=
  ((cwVert x).atK 0 - cwSlopeBot x * ((cwVert x).atK 1 - (cwVert x).atK 0)).scaleS cwC1 + ((cwVert x).atK 0).scaleS cwC2
    - ((cwVert x).atK 1).scaleS cwC3
def cwB1 : CwA3 α :=
  ((cwVert x).atK 0).scaleS cwC1 + ((cwVert x).atK 1).scaleS cwC2 - ((cwVert x).atK 2).scaleS cwC3
def cwM : CwA4 α :=
  ((cwVert x).kMid 1 2 + (cwVert x).kMid 2 1).scaleS cwC4 - ((cwVert x).kMid 0 3 + (cwVert x).kFrom 3).scaleS cwC5
def cwSlopeTop : CwA3 α :=
  ((cwZwIn x).atKNeg 1 - (cwZrIn x).atKNeg 1) / ((cwZrIn x).atKNeg 1 - (cwZrIn x).atKNeg 2)
def cwT0 : CwA3 α :=
  ((cwVert x).atKNeg 1 + cwSlopeTop x * ((cwVert x).atKNeg 1 - (cwVert x).atKNeg 2)).scaleS cwC1
    + ((cwVert x).atKNeg 1).scaleS cwC2 - ((cwVert x).atKNeg 2).scaleS cwC3
def cwT1 : CwA3 α :=
  ((cwVert x).atKNeg 1).scaleS cwC1 + ((cwVert x).atKNeg 2).scaleS cwC2 - ((cwVert x).atKNeg 3).scaleS cwC3
def cwVertWArr : CwA4 α :=
  (cwB0 x).newK.catK ((cwB1 x).newK.catK ((cwM x).catK ((cwT1 x).newK.catK (cwT0 x).newK)))
def cwVert2 : CwA4 α := cwWscl x + cwVertWArr x
def cwRet : CwA4 α := (cwVert2 x).pad11.neg

/-- the run of `Gen.compute_w_seq` goes through every statement; the returned array is the composition `cwRet`; no
statement raises exactly when `K ≥ 3` (`vert[:, 2]`, `vert[:, -3]` need three layers) -/
theorem cw_run_state :
    ∃ s, runStrictRet cwAtom cwStep Gen.compute_w_seq (CwSt.init x.aPn x.aPm x.aU x.aV x.aZw x.aZr) = some (some s) ∧
      s.ret = some (cwRet x) ∧ s.good = decide (3 ≤ x.K) ∧ (3 ≤ x.K → (cwRet x).ok = true) := by
  have hs := @cwStep.eq_def α
  unfold cwStep.match_1 at hs
  refine ⟨?_, ?_, ?_, ?_⟩
  rotate_left
  · unfold Gen.compute_w_seq
    iterate 46 rw [Run.runStrictRet_plain (by simp only [String.reduceEq])
      (fun s => by simp only [hs, String.reduceEq, ↓reduceDIte]; rfl)]
    exact Run.runStrictRet_return rfl (by simp only [hs, String.reduceEq, ↓reduceDIte]; rfl)
  · rfl
  apply cw_and_of_imp
  · intro h hK
    dsimp only [CwSt.init] at h
    rw [decide_eq_true hK] at h
    exact (Bool.and_eq_true_iff.mp h).2
  -- the flags: unfolded, they are comparisons of the lengths of the level axis (the other axes agree by `rfl`)
  obtain ⟨T, K, J, I, pn, pm, u, v, zw, zr⟩ := x
  rw [Bool.eq_iff_iff]
  dsimp only [CwSt.init, CwArgs.aPn, CwArgs.aPm, CwArgs.aU, CwArgs.aV, CwArgs.aZw, CwArgs.aZr,
    cwA2_add, cwA2_mul, cwA3_add, cwA3_sub, cwA3_mul, cwA3_div, cwA4_add, cwA4_sub, cwA4_mul, cwA4_div,
    CwA2.zip, CwA3.zip, CwA4.zip, CwA2.sdiv, CwA4.scale, CwA3.scaleS, CwA4.scaleS, CwA4.neg, CwA2.jFrom, CwA2.jTo,
    CwA2.jMid, CwA2.iFrom, CwA2.iTo, CwA2.iMid, CwA4.kFrom, CwA4.kTo, CwA4.kMid, CwA4.kFirst1, CwA4.kLast1,
    CwA4.jFrom, CwA4.jTo, CwA4.jMid, CwA4.iFrom, CwA4.iTo, CwA4.iMid, CwA4.atK, CwA4.atKNeg, CwA3.newK,
    CwA2.lift24, CwA4.bcastK, CwA4.cumsumK, CwA4.catK, CwA4.pad11]
  simp only [Bool.and_self, BEq.rfl, Bool.true_and, Bool.and_true, Bool.and_eq_true, beq_iff_eq, decide_eq_true_eq]
  omega

/-! ## `compute_w`: every intermediate array is the model's function, cell by cell

No index-range hypotheses are needed up to `vert`: arrays are total functions, and a slice only shifts the index.  The
interior arrays (`dW`, `W`, `Wscl`, `vert`, …: shape `(T, ·, J-2, I-2)`) hold the model's value of the rho cell
`(j+1, i+1)`: the offsets of `[1:-1, 1:-1]`. -/

theorem cwHzR_f (t k : Nat) (j i : Int) : (cwHzR x).f t k j i = hzr (x.grid t) k j i := rfl
theorem cwHuon_f (t k : Nat) (j i : Int) : (cwHuon x).f t k j i = huon (x.grid t) (x.u t) k j i := rfl
theorem cwHvom_f (t k : Nat) (j i : Int) : (cwHvom x).f t k j i = hvom (x.grid t) (x.v t) k j i := rfl

theorem cwDW_f (t k : Nat) (j i : Int) :
    (cwDW x).f t k j i = dW (x.grid t) (x.u t) (x.v t) k (j + 1) (i + 1) := by
  show (cwHuon x).f t k (j + 1) i - (cwHuon x).f t k (j + 1) (i + 1) + (cwHvom x).f t k j (i + 1)
    - (cwHvom x).f t k (j + 1) (i + 1) = _
  simp only [cwHuon_f, cwHvom_f, dW, Int.add_sub_cancel]

theorem cwCsum_dW (g : Grid α) (u v : Nat → Int → Int → α) (j i : Int) (k : Nat) :
    cwCsum (fun l => dW g u v l j i) k = wcum g u v (k + 1) j i := by
  induction k with
  | zero => rfl
  | succ k ih => simp only [cwCsum, wcum, ih]

theorem cwW1_f (hK : 1 ≤ x.K) (t k : Nat) (j i : Int) :
    (cwW1 x).f t k j i = wcum (x.grid t) (x.u t) (x.v t) k (j + 1) (i + 1) := by
  have hnk : (cwW0 x).nk = 1 := by
    show min (x.K + 1 - 1) 1 = 1
    omega
  show (if k < (cwW0 x).nk then (0.0 : α) * (cwDW x).f t k j i
        else cwCsum (fun l => (cwDW x).f t l j i) (k - (cwW0 x).nk)) = _
  rw [hnk]
  cases k with
  | zero => rw [if_pos (by omega)]; simp only [cwDW_f, wcum]
  | succ k =>
    rw [if_neg (by omega)]
    simp only [cwDW_f, Nat.add_sub_cancel]
    exact cwCsum_dW _ _ _ _ _ _


theorem cwW1_nk (hK : 1 ≤ x.K) : (cwW1 x).nk = x.K + 1 := by
  show min (x.K + 1 - 1) 1 + (x.K + 1 - 1) = x.K + 1
  omega

theorem cwWscl_f (hK : 1 ≤ x.K) (t k : Nat) (j i : Int) :
    (cwWscl x).f t k j i = wscl (x.grid t) (x.u t) (x.v t) k (j + 1) (i + 1) := by
  show ((cwW1 x).f t k j i
      - (cwW1 x).f t (0 + ((cwW1 x).nk - 1)) j i / (x.zw t (0 + (x.K + 1 - 1)) (j + 1) (i + 1) - x.zw t 0 (j + 1) (i + 1))
        * (x.zw t k (j + 1) (i + 1) - x.zw t 0 (j + 1) (i + 1))) * (x.pm (j + 1) (i + 1) * x.pn (j + 1) (i + 1)) = _
  rw [cwW1_nk x hK]
  simp only [cwW1_f x hK, Nat.add_sub_cancel, Nat.zero_add]
  rfl

theorem cwWrkU_f (t k : Nat) (j i : Int) : (cwWrkU x).f t k j i = wrkU (x.grid t) (x.u t) k j i := rfl
theorem cwWrkV_f (t k : Nat) (j i : Int) : (cwWrkV x).f t k j i = wrkV (x.grid t) (x.v t) k j i := rfl

theorem cwVert_f (t k : Nat) (j i : Int) :
    (cwVert x).f t k j i = vert (x.grid t) (x.u t) (x.v t) k (j + 1) (i + 1) := by
  show 0.25 * ((cwWrkU x).f t k (j + 1) i + (cwWrkU x).f t k (j + 1) (i + 1))
    + 0.25 * ((cwWrkV x).f t k j (i + 1) + (cwWrkV x).f t k (j + 1) (i + 1)) = _
  simp only [cwWrkU_f, cwWrkV_f, vert, Int.add_sub_cancel]

theorem cwVert_nk : (cwVert x).nk = x.K := rfl


theorem cwVertW_f (hK : 3 ≤ x.K) (t k : Nat) (hk : k ≤ x.K) (j i : Int) :
    (cwVertWArr x).f t k j i = vertW (x.grid t) (x.u t) (x.v t) k (j + 1) (i + 1) := by
  have hM : (cwM x).nk = x.K - 3 := by
    show x.K - 2 - 1 = _
    omega
  have hgK : (x.grid t).K = x.K := rfl
  show (if k < 1 then (cwB0 x).f t j i else if k - 1 < 1 then (cwB1 x).f t j i
        else if k - 1 - 1 < (cwM x).nk then (cwM x).f t (k - 1 - 1) j i
        else if k - 1 - 1 - (cwM x).nk < 1 then (cwT1 x).f t j i else (cwT0 x).f t j i) = _
  rw [hM]
  simp only [vertW, hgK]
  by_cases h0 : k = 0
  · subst h0
    rw [if_pos (by omega), if_pos rfl]
    show 0.375 * ((cwVert x).f t 0 j i
          - (x.zr t 0 (j + 1) (i + 1) - x.zw t 0 (j + 1) (i + 1)) / (x.zr t 1 (j + 1) (i + 1) - x.zr t 0 (j + 1) (i + 1))
            * ((cwVert x).f t 1 j i - (cwVert x).f t 0 j i))
        + 0.75 * (cwVert x).f t 0 j i - 0.125 * (cwVert x).f t 1 j i = _
    simp only [cwVert_f]
    rfl
  by_cases h1 : k = 1
  · subst h1
    rw [if_neg (by omega), if_pos (by omega), if_neg (by omega), if_pos rfl]
    show 0.375 * (cwVert x).f t 0 j i + 0.75 * (cwVert x).f t 1 j i - 0.125 * (cwVert x).f t 2 j i = _
    simp only [cwVert_f]
  by_cases hKk : k = x.K
  · subst hKk
    rw [if_neg (by omega), if_neg (by omega), if_neg (by omega), if_neg (by omega), if_neg h0, if_neg h1, if_pos rfl]
    show 0.375 * ((cwVert x).f t (x.K - 1) j i
          + (x.zw t (x.K + 1 - 1) (j + 1) (i + 1) - x.zr t (x.K - 1) (j + 1) (i + 1))
              / (x.zr t (x.K - 1) (j + 1) (i + 1) - x.zr t (x.K - 2) (j + 1) (i + 1))
            * ((cwVert x).f t (x.K - 1) j i - (cwVert x).f t (x.K - 2) j i))
        + 0.75 * (cwVert x).f t (x.K - 1) j i - 0.125 * (cwVert x).f t (x.K - 2) j i = _
    simp only [cwVert_f, Nat.add_sub_cancel]
    rfl
  by_cases hK1 : k = x.K - 1
  · subst hK1
    rw [if_neg (by omega), if_neg (by omega), if_neg (by omega), if_pos (by omega), if_neg h0, if_neg h1,
      if_neg hKk, if_pos rfl]
    show 0.375 * (cwVert x).f t (x.K - 1) j i + 0.75 * (cwVert x).f t (x.K - 2) j i
        - 0.125 * (cwVert x).f t (x.K - 3) j i = _
    simp only [cwVert_f]
  · rw [if_neg (by omega), if_neg (by omega), if_pos (by omega), if_neg h0, if_neg h1, if_neg hKk, if_neg hK1]
    show 0.5625 * ((cwVert x).f t (k - 1 - 1 + 1) j i + (cwVert x).f t (k - 1 - 1 + 2) j i)
        - 0.0625 * ((cwVert x).f t (k - 1 - 1 + 0) j i + (cwVert x).f t (k - 1 - 1 + 3) j i) = _
    have e1 : k - 1 - 1 + 1 = k - 1 := by omega
    have e2 : k - 1 - 1 + 2 = k := by omega
    have e3 : k - 1 - 1 + 0 = k - 2 := by omega
    have e4 : k - 1 - 1 + 3 = k + 1 := by omega
    rw [e1, e2, e3, e4]
    simp only [cwVert_f]


theorem cwRet_f (hK : 3 ≤ x.K) (t k : Nat) (hk : k ≤ x.K) (j i : Int) :
    (cwRet x).f t k j i = computeW (x.grid t) (x.u t) (x.v t) k j i := by
  have hnj : (cwVert2 x).nj = x.J - 1 - 1 := rfl
  have hni : (cwVert2 x).ni = x.I - 1 - 1 := rfl
  have hgJ : (x.grid t).J = x.J := rfl
  have hgI : (x.grid t).I = x.I := rfl
  show -(if 1 ≤ j ∧ j < ((cwVert2 x).nj : Int) + 1 ∧ 1 ≤ i ∧ i < ((cwVert2 x).ni : Int) + 1
          then (cwWscl x).f t k (j - 1) (i - 1) + (cwVertWArr x).f t k (j - 1) (i - 1) else 0.0) = _
  rw [hnj, hni]
  unfold computeW
  rw [hgJ, hgI]
  by_cases h : 1 ≤ j ∧ j + 2 ≤ (x.J : Int) ∧ 1 ≤ i ∧ i + 2 ≤ (x.I : Int)
  · rw [if_pos h, if_pos (by omega), cwWscl_f x (by omega), cwVertW_f x hK t k hk, Int.sub_add_cancel,
      Int.sub_add_cancel]
  · rw [if_neg h, if_neg (by omega)]


theorem cwRet_shape (hK : 1 ≤ x.K) :
    (cwRet x).nt = x.T ∧ (cwRet x).nk = x.K + 1 ∧ (cwRet x).nj = x.J - 2 + 2 ∧ (cwRet x).ni = x.I - 2 + 2 := by
  refine ⟨rfl, ?_, ?_, ?_⟩
  · show min (x.K + 1 - 1) 1 + (x.K + 1 - 1) = x.K + 1
    omega
  · show x.J - 1 - 1 + 2 = _
    omega
  · show x.I - 1 - 1 + 2 = _
    omega

/-- **`compute_w`**: the interpretation of `Gen.compute_w_seq` on arrays of the shapes of `CwArgs` (`K ≥ 3` layers)
returns an array of shape `(T, K+1, J, I)` (for `J, I ≥ 2`) whose element `(t, k, j, i)`, for EVERY `j`, `i` (the
ring of zeros of `np.pad` included) and every w level `k ≤ K`, is `ComputeW.computeW` of the model on the grid of time
`t` with the currents of time `t` -/
theorem compute_w_seq (x : CwArgs α) (hK : 3 ≤ x.K) :
    ∃ W, cwRunArgs x Gen.compute_w_seq = some (some W) ∧ W.ok = true ∧
      W.nt = x.T ∧ W.nk = x.K + 1 ∧ W.nj = x.J - 2 + 2 ∧ W.ni = x.I - 2 + 2 ∧
      ∀ (t k : Nat) (j i : Int), k ≤ x.K → W.f t k j i = computeW (x.grid t) (x.u t) (x.v t) k j i := by
  obtain ⟨s, hs, hret, hgood, hok⟩ := cw_run_state x
  obtain ⟨h1, h2, h3, h4⟩ := cwRet_shape x (by omega)
  refine ⟨cwRet x, ?_, hok hK, h1, h2, h3, h4, fun t k j i hk => cwRet_f x hK t k hk j i⟩
  unfold cwRunArgs cwRun
  rw [hs]
  simp only [cwOutcome, hret, hgood, decide_eq_true hK, if_true]

/-- with fewer than three layers `compute_w` raises (`IndexError` at `vert[:, 2, :, :]` / `vert[:, -3, :, :]`) -/
theorem compute_w_seq_few_layers (x : CwArgs α) (hK : x.K < 3) : cwRunArgs x Gen.compute_w_seq = some none := by
  obtain ⟨s, hs, hret, hgood, -⟩ := cw_run_state x
  unfold cwRunArgs cwRun
  rw [hs]
  simp only [cwOutcome, hret, hgood, decide_eq_false (Nat.not_le.mpr hK)]
  rfl

end

section
variable {α : Type} [Add α] [Sub α] [Mul α] [Div α] [Neg α] [OfScientific α]

/-! ## `Forcing.compute_w` -/

theorem cw_fw_arg_u (y : CwFwArgs α) :
    ((⟨true, y.K, y.J, y.I + 1, y.uin⟩ : CwA3 α).newT).iMid 1 1 = y.toCw.aU := by
  show CwA4.mk true 1 y.K y.J (y.I + 1 - 1 - 1) _ = CwA4.mk true 1 y.K y.J (y.I - 1) _
  rw [Nat.add_sub_cancel]
  rfl

theorem cw_fw_arg_v (y : CwFwArgs α) :
    ((⟨true, y.K, y.J + 1, y.I, y.vin⟩ : CwA3 α).newT).jMid 1 1 = y.toCw.aV := by
  show CwA4.mk true 1 y.K (y.J + 1 - 1 - 1) y.I _ = CwA4.mk true 1 y.K (y.J - 1) y.I _
  rw [Nat.add_sub_cancel]
  rfl

/-- the run of `Gen.forcing_compute_w_seq` for a callee that returns `W` on the arrays of `CwFwArgs.toCw` -/
theorem cw_fw_run_of_callee (y : CwFwArgs α)
    (callee : CwA2 α → CwA2 α → CwA4 α → CwA4 α → CwA4 α → CwA4 α → Option (Option (CwA4 α))) (W : CwA4 α)
    (h : callee y.toCw.aPn y.toCw.aPm y.toCw.aU y.toCw.aV y.toCw.aZw y.toCw.aZr = some (some W))
    (hok : W.ok = true) (hnt : 0 < W.nt) :
    cwFwRunArgs y callee Gen.forcing_compute_w_seq = some (some W.at0) := by
  have hpn : (⟨true, y.J, y.I, y.dy⟩ : CwA2 α).sdiv 1.0 = y.toCw.aPn := rfl
  have hpm : (⟨true, y.J, y.I, y.dx⟩ : CwA2 α).sdiv 1.0 = y.toCw.aPm := rfl
  have hzw : (⟨true, y.K + 1, y.J, y.I, y.zw⟩ : CwA3 α).newT = y.toCw.aZw := rfl
  have hzr : (⟨true, y.K, y.J, y.I, y.zr⟩ : CwA3 α).newT = y.toCw.aZr := rfl
  unfold cwFwRunArgs cwFwRun Gen.forcing_compute_w_seq
  have hs := @cwFwStep.eq_def α
  unfold cwFwStep.match_3 at hs
  iterate 6 rw [Run.runStrictRet_plain (by simp only [String.reduceEq])
    (fun s => by simp only [hs, String.reduceEq, ↓reduceDIte]; rfl)]
  -- the call: the six arguments are the arrays of `CwFwArgs.toCw`
  rw [Run.runStrictRet_step rfl (by simp only [String.reduceEq])
    (by simp only [hs, String.reduceEq, ↓reduceDIte, CwFwSt.init, hpn, hpm, hzw, hzr, cw_fw_arg_u, cw_fw_arg_v, h]; rfl)]
  rw [Run.runStrictRet_return rfl (by simp only [hs, String.reduceEq, ↓reduceDIte]; rfl)]
  simp only [cwFwOutcome, CwA4.at0, hok, hnt, decide_true, Bool.and_self]
  rfl

/-- the grid of the model as `Forcing.compute_w` sets it up: `pm = 1/dx`, `pn = 1/dy` -/
def cwFwGrid (y : CwFwArgs α) : Grid α :=
  ⟨y.K, y.J, y.I, fun j i => 1.0 / y.dx j i, fun j i => 1.0 / y.dy j i, y.zw, y.zr⟩

/-- **`Forcing.compute_w`**, with the callee interpreted from `Gen.compute_w_seq`: the returned 3-D array (shape
`(K+1, J, I)` for `J, I ≥ 2`) is `ComputeW.computeW` on the grid with `pm = 1/dx`, `pn = 1/dy`, with the `u` face east of
rho cell `(j, i)` read from `u_in[k, j, i+1]` and the `v` face north of it from `v_in[k, j+1, i]` -/
theorem forcing_compute_w_seq (y : CwFwArgs α) (hK : 3 ≤ y.K) :
    ∃ W : CwA3 α,
      cwFwRunArgs y (fun pn pm u v zw zr => cwRun pn pm u v zw zr Gen.compute_w_seq) Gen.forcing_compute_w_seq
        = some (some W) ∧ W.ok = true ∧ W.n0 = y.K + 1 ∧ W.nj = y.J - 2 + 2 ∧ W.ni = y.I - 2 + 2 ∧
      ∀ (k : Nat) (j i : Int), k ≤ y.K →
        W.f k j i = computeW (cwFwGrid y) (fun k j i => y.uin k j (i + 1)) (fun k j i => y.vin k (j + 1) i) k j i := by
  obtain ⟨W, hrun, hok, hnt, hnk, hnj, hni, hf⟩ := compute_w_seq y.toCw hK
  have hnt' : 0 < W.nt := by rw [hnt]; exact Nat.one_pos
  refine ⟨W.at0, cw_fw_run_of_callee y _ W hrun hok hnt', ?_, hnk, hnj, hni, fun k j i hk => hf 0 k j i hk⟩
  show (W.ok && decide (0 < W.nt)) = true
  simp [hok, hnt']

end


/-! ## `s_stretch` and `sdepth`: closed forms (no model function exists) -/
section
variable {α : Type} [Add α] [Sub α] [Mul α] [Div α] [Neg α] [OfScientific α] [HasOfInt α] [HasExp α] [HasRpow α]

/-- the unstretched coordinate of `s_stretch`: mid-points of `N` layers for `'rho'`, the `N+1` end points for `'w'`;
anything else is a `ValueError` -/
def cwSsS (N : Nat) : CwStagger → Option (CwA1 α)
  | .rho => some (cwMidS N)
  | .w => some (cwLinspace (-1.0) 0.0 (N + 1))
  | .other => none

/-- the stretching curve `C(S)` of `s_stretch` for `Vstretching` 1 (Song–Haidvogel), 2, 4 (Shchepetkin); any other
value is a `ValueError` -/
def cwSsCurve (sinh cosh tanh : α → α) (ths thb : α) (vs : Nat) : Option (α → α) :=
  if vs = 1 then
    some fun S => (1.0 - thb) * (1.0 / sinh ths) * sinh (ths * S)
      + thb * (0.5 / tanh (0.5 * ths) * tanh (ths * (S + 0.5)) - 0.5)
  else if vs = 2 then
    some fun S =>
      rpow (S + 1.0) 1.0 * (1.0 + 1.0 / 1.0 * (1.0 - rpow (S + 1.0) 1.0)) * ((1.0 - cosh (ths * S)) / (cosh ths - 1.0))
      + (1.0 - rpow (S + 1.0) 1.0 * (1.0 + 1.0 / 1.0 * (1.0 - rpow (S + 1.0) 1.0))) * (sinh (thb * (S + 1.0)) / sinh thb - 1.0)
  else if vs = 4 then
    some fun S => (exp (thb * ((1.0 - cosh (ths * S)) / (cosh ths - 1.0))) - 1.0) / (1.0 - exp (-thb))
  else none

/-- **`s_stretch`**: the interpretation of `Gen.s_stretch_seq` returns the curve `cwSsCurve` at the points `cwSsS`; the
`stagger` check comes first (a bad `stagger` raises whatever `Vstretching` is) -/
theorem s_stretch_seq (sinh cosh tanh : α → α) (N : Nat) (ths thb : α) (stagger : CwStagger) (vs : Nat) :
    cwSsRun sinh cosh tanh N ths thb stagger vs Gen.s_stretch_seq
      = some ((cwSsS N stagger).bind fun S => (cwSsCurve sinh cosh tanh ths thb vs).map fun c => S.map c) := by
  cases stagger <;> rcases vs with _ | _ | _ | _ | _ | n <;> eq_refl

end

section
variable {α : Type} [Add α] [Sub α] [Mul α] [Div α] [Neg α] [OfScientific α] [HasOfInt α] {ι : Type}

/-- the unstretched coordinate of `sdepth`, `n = len(C)` points: NOTE `np.linspace(-1, 0, n)` here (`n`, not `n + 1`: `C`
already has one value per w level) -/
def cwSdS (n : Nat) : CwStagger → Option (CwA1 α)
  | .rho => some (cwMidS n)
  | .w => some (cwLinspace (-1.0) 0.0 n)
  | .other => none

/-- the depth of level `k` at a point of depth `H`: `Vtransform` 1 (Song–Haidvogel) and 2 (Shchepetkin) -/
def cwSdZ (hc : α) (vt : Nat) : Option (α → α → α → α) :=
  if vt = 1 then some fun S C H => hc * (S - C) + C * H
  else if vt = 2 then some fun S C H => (hc * S + C * H) / (1.0 + hc / H)
  else none

/-- **`sdepth`**: the interpretation of `Gen.sdepth_seq` returns `len(C)` levels with `z[k, p] = cwSdZ (S k) (C k) (H p)` -/
theorem sdepth_seq (H : ι → α) (hc : α) (C : CwA1 α) (stagger : CwStagger) (vt : Nat) :
    cwSdRun H hc C stagger vt Gen.sdepth_seq
      = some ((cwSdS C.n stagger).bind fun S => (cwSdZ hc vt).map fun z => (C.n, fun k p => z (S.f k) (C.f k) (H p))) := by
  cases stagger <;> rcases vt with _ | _ | _ | n <;> eq_refl

end

section
variable {α : Type} [Field α] [LinearOrder α] [IsStrictOrderedRing α] [HasOfInt α]

/-- the first point of `np.linspace(-1, 0, n)` (`n ≥ 2`); `ofInt 0 = 0`: the integer-to-float conversion of `0` -/
theorem cwLinspace_first (n : Nat) (hn : 2 ≤ n) (h0 : (ofInt 0 : α) = 0) : (cwLinspace (-1.0 : α) 0.0 n).f 0 = -1 := by
  show (if n ≤ 1 then (-1.0 : α) else if 0 + 1 = n then 0.0
        else ofInt ((0 : Nat) : Int) * ((0.0 - -1.0) / ofInt ((n : Int) - 1)) + -1.0) = -1
  rw [if_neg (by omega), if_neg (by omega)]
  have : ((0 : Nat) : Int) = 0 := rfl
  rw [this, h0]
  lits
  simp

/-- the last point of `np.linspace(-1, 0, n)` -/
theorem cwLinspace_last (n : Nat) (hn : 2 ≤ n) : (cwLinspace (-1.0 : α) 0.0 n).f (n - 1) = 0 := by
  show (if n ≤ 1 then (-1.0 : α) else if n - 1 + 1 = n then 0.0
        else ofInt ((n - 1 : Nat) : Int) * ((0.0 - -1.0) / ofInt ((n : Int) - 1)) + -1.0) = 0
  rw [if_neg (by omega), if_pos (by omega)]
  lits

/-- **`sdepth(…, stagger='w')`, `Vtransform = 1`**: with `N + 1 ≥ 2` w levels, `C[0] = -1` and `C[N] = 0` (what `s_stretch(…, 'w')`
delivers), the lowest level is the sea bed and the highest the surface — the boundary levels C14 / C15 rely on -/
theorem sdepth_w_vt1 {ι : Type} (H : ι → α) (hc : α) (C : CwA1 α) (N : Nat) (hn : C.n = N + 1) (hN : 1 ≤ N)
    (h0 : (ofInt 0 : α) = 0) (hbot : C.f 0 = -1) (htop : C.f N = 0) :
    ∃ z, cwSdRun H hc C .w 1 Gen.sdepth_seq = some (some (N + 1, z)) ∧ ∀ p, z 0 p = -H p ∧ z N p = 0 := by
  obtain ⟨n, f⟩ := C
  simp only at hn hbot htop
  subst hn
  have hl := cwLinspace_last (α := α) (N + 1) (by omega)
  rw [Nat.add_sub_cancel] at hl
  refine ⟨fun k p => hc * ((cwLinspace (-1.0 : α) 0.0 (N + 1)).f k - f k) + f k * H p, ?_, fun p => ⟨?_, ?_⟩⟩
  · rw [sdepth_seq]; rfl
  · show hc * ((cwLinspace (-1.0 : α) 0.0 (N + 1)).f 0 - f 0) + f 0 * H p = _
    rw [cwLinspace_first (N + 1) (by omega) h0, hbot]; ring
  · show hc * ((cwLinspace (-1.0 : α) 0.0 (N + 1)).f N - f N) + f N * H p = _
    rw [hl, htop]; ring

/-- the same for `Vtransform = 2`; the bed needs `H ≠ 0` and `hc + H ≠ 0` (the code divides by `1 + hc / H`) -/
theorem sdepth_w_vt2 {ι : Type} (H : ι → α) (hc : α) (C : CwA1 α) (N : Nat) (hn : C.n = N + 1) (hN : 1 ≤ N)
    (h0 : (ofInt 0 : α) = 0) (hbot : C.f 0 = -1) (htop : C.f N = 0) :
    ∃ z, cwSdRun H hc C .w 2 Gen.sdepth_seq = some (some (N + 1, z)) ∧
      ∀ p, (H p ≠ 0 → hc + H p ≠ 0 → z 0 p = -H p) ∧ z N p = 0 := by
  obtain ⟨n, f⟩ := C
  simp only at hn hbot htop
  subst hn
  have hl := cwLinspace_last (α := α) (N + 1) (by omega)
  rw [Nat.add_sub_cancel] at hl
  refine ⟨fun k p => (hc * (cwLinspace (-1.0 : α) 0.0 (N + 1)).f k + f k * H p) / (1.0 + hc / H p), ?_,
    fun p => ⟨fun hH hs => ?_, ?_⟩⟩
  · rw [sdepth_seq]; rfl
  · show (hc * (cwLinspace (-1.0 : α) 0.0 (N + 1)).f 0 + f 0 * H p) / (1.0 + hc / H p) = _
    rw [cwLinspace_first (N + 1) (by omega) h0, hbot]
    lits
    have : H p + hc ≠ 0 := by rwa [add_comm]
    field_simp
    ring
  · show (hc * (cwLinspace (-1.0 : α) 0.0 (N + 1)).f N + f N * H p) / (1.0 + hc / H p) = _
    rw [hl, htop]; simp

/-- `Vtransform = 2` in the usual notation: `z = (hc·S + H·C) / (hc + H) · H` -/
theorem cwSdZ_vt2 (hc S C H : α) (hH : H ≠ 0) (hs : hc + H ≠ 0) :
    (hc * S + C * H) / (1.0 + hc / H) = (hc * S + H * C) / (hc + H) * H := by
  lits
  have : H + hc ≠ 0 := by rwa [add_comm]
  field_simp
  ring

end

/-! ## C14 on the interpreted code -/
section
variable {α : Type} [Field α] [LinearOrder α] [IsStrictOrderedRing α]

/-- C14 on the code: the array that the interpreted `compute_w` returns is linear in the currents (same grid, the
currents combined point by point) -/
theorem compute_w_seq_linear (x : CwArgs α) (a b : α) (u₁ u₂ v₁ v₂ : Nat → Nat → Int → Int → α) (hK : 3 ≤ x.K) :
    ∃ W W₁ W₂,
      cwRunArgs { x with u := fun t => C14.comb a b (u₁ t) (u₂ t), v := fun t => C14.comb a b (v₁ t) (v₂ t) }
        Gen.compute_w_seq = some (some W) ∧
      cwRunArgs { x with u := u₁, v := v₁ } Gen.compute_w_seq = some (some W₁) ∧
      cwRunArgs { x with u := u₂, v := v₂ } Gen.compute_w_seq = some (some W₂) ∧
      ∀ (t k : Nat) (j i : Int), k ≤ x.K → W.f t k j i = a * W₁.f t k j i + b * W₂.f t k j i := by
  obtain ⟨W, hW, -, -, -, -, -, hf⟩ := compute_w_seq
    { x with u := fun t => C14.comb a b (u₁ t) (u₂ t), v := fun t => C14.comb a b (v₁ t) (v₂ t) } hK
  obtain ⟨W₁, hW₁, -, -, -, -, -, hf₁⟩ := compute_w_seq { x with u := u₁, v := v₁ } hK
  obtain ⟨W₂, hW₂, -, -, -, -, -, hf₂⟩ := compute_w_seq { x with u := u₂, v := v₂ } hK
  refine ⟨W, W₁, W₂, hW, hW₁, hW₂, fun t k j i hk => ?_⟩
  rw [hf t k j i hk, hf₁ t k j i hk, hf₂ t k j i hk]
  exact C14.w_linear (x.grid t) a b (u₁ t) (u₂ t) (v₁ t) (v₂ t) k j i

/-- C14 on the code: zero on the lateral boundary (and anywhere outside the interior) -/
theorem compute_w_seq_lateral_zero (x : CwArgs α) (hK : 3 ≤ x.K) :
    ∃ W, cwRunArgs x Gen.compute_w_seq = some (some W) ∧
      ∀ (t k : Nat) (j i : Int), k ≤ x.K → ¬ (1 ≤ j ∧ j + 2 ≤ (x.J : Int) ∧ 1 ≤ i ∧ i + 2 ≤ (x.I : Int)) →
        W.f t k j i = 0 := by
  obtain ⟨W, hW, -, -, -, -, -, hf⟩ := compute_w_seq x hK
  exact ⟨W, hW, fun t k j i hk h => (hf t k j i hk).trans (C14.w_lateral_zero (x.grid t) _ _ k j i h)⟩

end
end Bridge
