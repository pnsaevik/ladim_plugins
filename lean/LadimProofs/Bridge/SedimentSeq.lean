import LadimModel.IBM.SedimentSeq
import LadimProofs.Bridge.Runners
import LadimProofs.C08
/-!
# Bridge (C05, C07, C08, C20) — the methods of the sedimentation and mine IBMs are the statement sequences of the code

`Gen.sed_*_seq` / `Gen.mine_*_seq` (guard, kind and text of every statement of the methods `initialize`, `resuspend`,
`diffuse`, `sink`, `bury`, `kill_old`, `shear_velocity_btm` of `sedimentation/ibm.py` and `mine/ibm.py`, regenerated
from the current source) are interpreted for one particle by `LadimModel/IBM/SedimentSeq.lean` (strict runner
`Seq.runFn`: every statement, condition and `return` expression must be a known text, also in branches not taken).
The order of the method calls in `update_ibm` is `Bridge.sed_update_seq` / `Bridge.mine_update_seq`
(`LadimProofs/Bridge/Seq.lean`); the `sed_call_*` / `mine_call_*` theorems below say that the `call` steps used there
are the interpretations of the method bodies.

* `sed_shear_velocity_seq`, `mine_shear_velocity_seq`: (cache afterwards, returned value) = `Grain.Cache.get cache t
  (Sed.ustar ub vb)`; no hypothesis.  `*_fresh`, `*_same_step`: `C08.cache_fresh`, `C08.cache_same_step` on it.
* `sed_resuspend_seq_full`, `sed_diffuse_seq_full`, `mine_resuspend_seq_full`: closed forms with the value the cache
  protocol returns; no hypothesis.  With `Coherent cache t (ustar e.ub e.vb)` (the cache is stale at step `t`, or holds
  the particle's bottom shear velocity): `sed_resuspend_seq` = `Sed.resuspend e a`, `sed_diffuse_seq` =
  `Sed.diffuse c e xi a z`, `mine_resuspend_seq` = `Sed.Mine.resusp c e active` (there also: the flag is a value the
  carrier holds, `c.carrier.store active = active`, and the state has the variable `active` or no resuspension is
  configured — `mine_resuspend_seq_raises`: otherwise the code raises, while `Sed.Mine.update` returns a particle).
* `sed_bury_seq` = `Sed.bury H a z` (alive untouched); `mine_bury_seq`: `Sed.bury` on `self.active()`, the flag written
  iff `has_active()`, `alive &= ~at_seabed` on the selected particles iff no resuspension; no hypothesis.
* `sed_sink_seq` = `Sed.sink dt w a z`; `mine_sink_seq` = `Sed.sink dt (if vadv then w + wvel else w) act z`;
  `mine_diffuse_seq` = `if act = 0 then z else Sed.mixMine vdiff dt xi z`; no hypothesis.
* `sed_kill_old_seq`, `mine_kill_old_seq`: `(age + state.dt, alive && age + state.dt ≤ lifespan)` for EVERY particle —
  the left-hand side of `Bridge.sed_kill_old` / `Bridge.mine_kill_old` (`LadimProofs/Bridge/Age.lean`), i.e. the
  generated windows `Gen.sed_kill_old` / `Gen.mine_kill_old`; no hypothesis.
* `sed_initialize_seq`: `if isZero sink_vel then newSink else sink_vel`, whatever the number of other new particles.

Only the operations of the scalar type are used (no field or order laws): the statements hold for every scalar type,
`Float` included.
-/
open Ladim Ladim.Seq Ladim.Sed Ladim.Grain

set_option linter.unusedSimpArgs false
set_option linter.unusedVariables false
set_option linter.unusedSectionVars false
set_option linter.unnecessarySeqFocus false
namespace Bridge
variable {α : Type} [Add α] [Sub α] [Mul α] [Div α] [Neg α] [LT α] [DecidableLT α]
  [LE α] [DecidableLE α] [OfScientific α] [HasSqrt α]

/-! ### `shear_velocity_btm` -/

theorem sed_shear_velocity_seq (cache : Cache α) (t : Int) (H ub vb : α) :
    Seq.runSedShearVelocity Gen.sed_shear_velocity_seq cache t H ub vb
      = some (some (cache.get t (Sed.ustar ub vb))) := by
  by_cases h : cache.tstep < t <;>
  simp only [Seq.runSedShearVelocity, Gen.sed_shear_velocity_seq, Run.runFn_exec, Run.runFn_ret, Run.runFn_pass,
    Run.guardVal_cons, Run.guardVal_nil, String.reduceEq, ↓reduceIte, imp_self, List.all_cons, List.all_nil,
    Seq.fnStmtKnown, Seq.fnGuardKnown, Option.isSome_some, Bool.and_self, beq_iff_eq, Bool.false_eq_true,
    decide_eq_true_eq, Seq.usAtom.eq_def, Seq.sedUsStep.eq_def, Seq.usCommon.eq_def, Seq.usVelocity, Seq.usRet.eq_def,
    Seq.UsSt.init, Cache.get, Sed.ustar, h]

theorem mine_shear_velocity_seq (cache : Cache α) (t : Int) (H ub vb : α) :
    Seq.runMineShearVelocity Gen.mine_shear_velocity_seq cache t H ub vb
      = some (some (cache.get t (Sed.ustar ub vb))) := by
  by_cases h : cache.tstep < t <;>
  simp only [Seq.runMineShearVelocity, Gen.mine_shear_velocity_seq, Run.runFn_exec, Run.runFn_ret, Run.runFn_pass,
    Run.guardVal_cons, Run.guardVal_nil, String.reduceEq, ↓reduceIte, imp_self, List.all_cons, List.all_nil,
    Seq.fnStmtKnown, Seq.fnGuardKnown, Option.isSome_some, Bool.and_self, beq_iff_eq, Bool.false_eq_true,
    decide_eq_true_eq, Seq.usAtom.eq_def, Seq.mineUsStep.eq_def, Seq.usCommon.eq_def, Seq.usVelocity,
    Seq.usRet.eq_def, Seq.UsSt.init, Cache.get, Sed.ustar, h]

/-- `C08.cache_fresh` on the interpretation: the step counter has increased since the cached evaluation — the value is
computed anew from the current bottom velocity and the step is stored -/
theorem sed_shear_velocity_fresh (cache : Cache α) (t : Int) (H ub vb : α) (h : cache.tstep < t) :
    ∃ r, Seq.runSedShearVelocity Gen.sed_shear_velocity_seq cache t H ub vb = some (some r)
      ∧ r.2 = Sed.ustar ub vb ∧ r.1.tstep = t :=
  ⟨_, sed_shear_velocity_seq cache t H ub vb, C08.cache_fresh cache t _ h⟩

/-- `C08.cache_same_step` on the interpretation: within the same step the cached value is returned, whatever the
bottom velocity is now, and the cache is left as it is -/
theorem sed_shear_velocity_same_step (cache : Cache α) (H ub vb : α) :
    Seq.runSedShearVelocity Gen.sed_shear_velocity_seq cache cache.tstep H ub vb = some (some (cache, cache.value)) := by
  rw [sed_shear_velocity_seq]
  have h := C08.cache_same_step cache (Sed.ustar ub vb)
  exact congrArg (fun r => some (some r)) (Prod.ext h.2 h.1)

theorem mine_shear_velocity_fresh (cache : Cache α) (t : Int) (H ub vb : α) (h : cache.tstep < t) :
    ∃ r, Seq.runMineShearVelocity Gen.mine_shear_velocity_seq cache t H ub vb = some (some r)
      ∧ r.2 = Sed.ustar ub vb ∧ r.1.tstep = t :=
  ⟨_, mine_shear_velocity_seq cache t H ub vb, C08.cache_fresh cache t _ h⟩

theorem mine_shear_velocity_same_step (cache : Cache α) (H ub vb : α) :
    Seq.runMineShearVelocity Gen.mine_shear_velocity_seq cache cache.tstep H ub vb
      = some (some (cache, cache.value)) := by
  rw [mine_shear_velocity_seq]
  have h := C08.cache_same_step cache (Sed.ustar ub vb)
  exact congrArg (fun r => some (some r)) (Prod.ext h.2 h.1)

/-- the cache may be used at step `t` by a particle whose bottom shear velocity is `v`: it is stale (and will be
recomputed), or it holds `v` -/
def Coherent (cache : Cache α) (t : Int) (v : α) : Prop := cache.tstep < t ∨ cache.value = v

theorem get_of_coherent {cache : Cache α} {t : Int} {v : α} (h : Coherent cache t v) : (cache.get t v).2 = v := by
  unfold Cache.get
  by_cases hs : cache.tstep < t
  · simp [hs]
  · rcases h with h | h
    · exact absurd h hs
    · simp [hs, h]

theorem coherent_get {cache : Cache α} {t : Int} {v : α} (h : Coherent cache t v) :
    (cache.get t v).1.value = v ∧ ¬ (cache.get t v).1.tstep < t := by
  unfold Cache.get
  by_cases hs : cache.tstep < t
  · simp [hs]
  · rcases h with h | h
    · exact absurd h hs
    · simp [hs, h]

/-! ### `resuspend` -/

theorem sed_resuspend_seq_full (cache : Cache α) (t : Int) (e : Sed.Env α) (a : Nat) :
    Seq.runSedResuspend Gen.sed_resuspend_seq cache t e a = some (some (
      match e.taucrit with
      | none => (a, cache)
      | some tc => (if tc ≤ shearStress (cache.get t (ustar e.ub e.vb)).2 then 1 else a,
          (cache.get t (ustar e.ub e.vb)).1))) := by
  rcases hg : cache.get t (ustar e.ub e.vb) with ⟨k, v⟩
  cases h : e.taucrit <;>
  simp only [Seq.runSedResuspend, Gen.sed_resuspend_seq, Run.runFn_exec, Run.runFn_ret, Run.runFn_pass, Run.runFn_nil,
    Run.guardVal_cons, Run.guardVal_nil, String.reduceEq, ↓reduceIte, List.all_cons, List.all_nil, Seq.fnStmtKnown,
    Seq.fnGuardKnown, Option.isSome_some, Bool.and_self, beq_iff_eq, Bool.false_eq_true, decide_eq_true_eq,
    Seq.resAtom.eq_def, Seq.resStep.eq_def, Seq.resRet.eq_def, Seq.resFin, Seq.ResSt.init, Seq.sedShearVelocitySeq,
    sed_shear_velocity_seq, Option.isNone_none, Option.isNone_some, hg, h]

theorem sed_resuspend_seq (cache : Cache α) (t : Int) (e : Sed.Env α) (a : Nat)
    (hc : Coherent cache t (ustar e.ub e.vb)) :
    Seq.runSedResuspend Gen.sed_resuspend_seq cache t e a = some (some (Sed.resuspend e a,
      if e.taucrit.isSome then (cache.get t (ustar e.ub e.vb)).1 else cache)) := by
  rw [sed_resuspend_seq_full, get_of_coherent hc]
  unfold Sed.resuspend
  cases e.taucrit <;> simp

theorem mine_resuspend_seq_full (c : Mine.Config α) (cache : Cache α) (t : Int) (e : Mine.Env α) (active : Nat) :
    Seq.runMineResuspend Gen.mine_resuspend_seq c cache t e active = some (
      match c.taucrit with
      | none => some (active, cache)
      | some tc =>
        if c.hasActive then
          some (if tc ≤ shearStress (cache.get t (ustar e.ub e.vb)).2 then 1 else active,
            (cache.get t (ustar e.ub e.vb)).1)
        else none) := by
  rcases hg : cache.get t (ustar e.ub e.vb) with ⟨k, v⟩
  cases h : c.taucrit <;> cases hA : c.hasActive <;>
  simp only [Seq.runMineResuspend, Gen.mine_resuspend_seq, Run.runFn_exec, Run.runFn_ret, Run.runFn_pass,
    Run.runFn_nil, Run.guardVal_cons, Run.guardVal_nil, String.reduceEq, ↓reduceIte, List.all_cons, List.all_nil,
    Seq.fnStmtKnown, Seq.fnGuardKnown, Option.isSome_some, Bool.and_self, beq_iff_eq, Bool.false_eq_true,
    decide_eq_true_eq, Seq.resAtom.eq_def, Seq.resStep.eq_def, Seq.resRet.eq_def, Seq.resFin, Seq.ResSt.init,
    Seq.mineShearVelocitySeq, mine_shear_velocity_seq, Option.isNone_none, Option.isNone_some, hg, h, hA]

theorem store_one (k : Carrier) : k.store 1 = 1 := by cases k <;> rfl
theorem store_zero (k : Carrier) : k.store 0 = 0 := by cases k <;> rfl

theorem mine_resuspend_seq (c : Mine.Config α) (cache : Cache α) (t : Int) (e : Mine.Env α) (active : Nat)
    (hA : c.hasActive = true ∨ c.taucrit = none) (hs : c.carrier.store active = active)
    (hc : Coherent cache t (ustar e.ub e.vb)) :
    Seq.runMineResuspend Gen.mine_resuspend_seq c cache t e active = some (some (Mine.resusp c e active,
      if c.taucrit.isSome then (cache.get t (ustar e.ub e.vb)).1 else cache)) := by
  rw [mine_resuspend_seq_full, get_of_coherent hc]
  unfold Mine.resusp
  cases h : c.taucrit with
  | none => simp
  | some tc =>
    have hA' : c.hasActive = true := by
      rcases hA with hA | hA
      · exact hA
      · rw [h] at hA; cases hA
    by_cases hle : tc ≤ shearStress (ustar e.ub e.vb) <;> simp [hA', hle, hs, store_one]

/-- the code raises (`AttributeError`: `self.state.active`) when resuspension is configured and the state has no
variable `active`; `Sed.Mine.update` returns a particle there -/
theorem mine_resuspend_seq_raises (c : Mine.Config α) (cache : Cache α) (t : Int) (e : Mine.Env α) (active : Nat)
    (tc : α) (hA : c.hasActive = false) (h : c.taucrit = some tc) :
    Seq.runMineResuspend Gen.mine_resuspend_seq c cache t e active = some none := by
  rw [mine_resuspend_seq_full, h]; simp [hA]

/-! ### `bury` -/

theorem sed_bury_seq (H z : α) (a : Nat) (alive : Bool) :
    Seq.runSedBury Gen.sed_bury_seq H z a alive = some (some ((Sed.bury H a z).1, (Sed.bury H a z).2, alive)) := by
  simp only [Seq.runSedBury, Gen.sed_bury_seq, Run.runFn_exec, Run.runFn_nil, Run.guardVal_nil, String.reduceEq,
    imp_self, decide_eq_true_eq, Seq.sedBuryStep.eq_def, Seq.buryCommon.eq_def, Seq.buryActive, Seq.buryFin,
    Seq.BurySt.init, Sed.bury]
  by_cases ha : a = 0 <;> by_cases hz : H < z <;> simp [ha, hz]

theorem mine_bury_seq (c : Mine.Config α) (H z : α) (active : Nat) (alive : Bool) :
    Seq.runMineBury Gen.mine_bury_seq c H z active alive = some (some (
      (Sed.bury H (if c.hasActive then active else 1) z).1,
      (if c.hasActive then (Sed.bury H (if c.hasActive then active else 1) z).2 else active),
      (if (if c.hasActive then active else 1) ≠ 0 ∧ c.taucrit.isNone then
        alive && decide ((Sed.bury H (if c.hasActive then active else 1) z).2 ≠ 0) else alive))) := by
  cases hA : c.hasActive <;> cases ht : c.taucrit <;>
  simp only [Seq.runMineBury, Gen.mine_bury_seq, Run.runFn_exec, Run.runFn_pass, Run.runFn_nil, Run.guardVal_cons,
    Run.guardVal_nil, String.reduceEq, ↓reduceIte, imp_self, List.all_cons, List.all_nil, Seq.fnStmtKnown,
    Seq.fnGuardKnown, Option.isSome_some, Bool.and_self, beq_iff_eq, Bool.false_eq_true, decide_eq_true_eq,
    Seq.mineBuryAtom.eq_def, Seq.mineBuryStep.eq_def, Seq.buryCommon.eq_def, Seq.buryActive, Seq.buryFin,
    Seq.BurySt.init, Option.isNone_none, Option.isNone_some, Sed.bury, hA, ht] <;>
  by_cases ha : active = 0 <;> by_cases hz : H < z <;> simp [ha, hz]

/-! ### `diffuse` -/

theorem sed_diffuse_seq_full (c : Sed.Config α) (cache : Cache α) (t : Int) (e : Sed.Env α) (xi : α) (a : Nat)
    (z : α) :
    Seq.runSedDiffuse Gen.sed_diffuse_seq c cache t e xi a z = some (some (
      match c.mixing with
      | .none => (z, cache)
      | .const v => (if a = 0 then z else mixConst v e.H c.dt xi z, (cache.get t (ustar e.ub e.vb)).1)
      | .boundedLinear m =>
        (if a = 0 then z else mixBoundedLinear m e.H c.dt (cache.get t (ustar e.ub e.vb)).2 xi z,
          (cache.get t (ustar e.ub e.vb)).1))) := by
  rcases hg : cache.get t (ustar e.ub e.vb) with ⟨k, v⟩
  cases h : c.mixing <;>
  simp only [Seq.runSedDiffuse, Gen.sed_diffuse_seq, Run.runFn_exec, Run.runFn_ret, Run.runFn_pass, Run.runFn_nil,
    Run.guardVal_cons, Run.guardVal_nil, String.reduceEq, ↓reduceIte, List.all_cons, List.all_nil, Seq.fnStmtKnown,
    Seq.fnGuardKnown, Option.isSome_some, Bool.and_self, beq_iff_eq, Bool.false_eq_true, decide_eq_true_eq,
    Seq.sedDiffAtom.eq_def, Seq.sedDiffStep.eq_def, Seq.diffRet.eq_def, Seq.diffFin, Seq.DiffSt.init,
    Seq.sedShearVelocitySeq, sed_shear_velocity_seq, hg, h] <;>
  by_cases ha : a = 0 <;> simp [ha]

theorem sed_diffuse_seq (c : Sed.Config α) (cache : Cache α) (t : Int) (e : Sed.Env α) (xi : α) (a : Nat) (z : α)
    (hc : Coherent cache t (ustar e.ub e.vb)) :
    Seq.runSedDiffuse Gen.sed_diffuse_seq c cache t e xi a z = some (some (Sed.diffuse c e xi a z,
      match c.mixing with
      | .none => cache
      | _ => (cache.get t (ustar e.ub e.vb)).1)) := by
  rw [sed_diffuse_seq_full, get_of_coherent hc]
  unfold Sed.diffuse
  cases c.mixing <;> by_cases ha : a = 0 <;> simp [ha]

theorem mine_diffuse_seq (vdiff dt xi : α) (act : Nat) (z : α) :
    Seq.runMineDiffuse Gen.mine_diffuse_seq vdiff dt xi act z
      = some (some (if act = 0 then z else mixMine vdiff dt xi z)) := by
  simp only [Seq.runMineDiffuse, Gen.mine_diffuse_seq, Run.runFn_exec, Run.runFn_nil, Run.guardVal_nil,
    String.reduceEq, decide_eq_true_eq, Seq.mineDiffStep.eq_def, Seq.MDiffSt.init, mixMine]
  by_cases ha : act = 0 <;> simp [ha]

/-! ### `sink` -/

theorem sed_sink_seq (dt w : α) (a : Nat) (z : α) :
    Seq.runSedSink Gen.sed_sink_seq dt w a z = some (some (Sed.sink dt w a z)) := by
  simp only [Seq.runSedSink, Gen.sed_sink_seq, Run.runFn_exec, Run.runFn_nil, Run.guardVal_nil, String.reduceEq,
    imp_self, decide_eq_true_eq, Seq.sedSinkStep.eq_def, Seq.sinkCommon.eq_def, Seq.SinkSt.init, Sed.sink]
  by_cases ha : a = 0 <;> simp [ha]

theorem mine_sink_seq (dt w wvel : α) (vadv : Bool) (act : Nat) (z : α) :
    Seq.runMineSink Gen.mine_sink_seq dt w wvel vadv act z
      = some (some (Sed.sink dt (if vadv then w + wvel else w) act z)) := by
  cases vadv <;>
  simp only [Seq.runMineSink, Gen.mine_sink_seq, Run.runFn_exec, Run.runFn_pass, Run.runFn_nil, Run.guardVal_cons,
    Run.guardVal_nil, String.reduceEq, ↓reduceIte, imp_self, List.all_cons, List.all_nil, Seq.fnStmtKnown,
    Seq.fnGuardKnown, Option.isSome_some, Bool.and_self, beq_iff_eq, Bool.false_eq_true, decide_eq_true_eq,
    Seq.mineSinkAtom.eq_def, Seq.mineSinkStep.eq_def, Seq.sinkCommon.eq_def, Seq.SinkSt.init, Sed.sink] <;>
  by_cases ha : act = 0 <;> simp [ha]

/-! ### `kill_old` -/

theorem sed_kill_old_seq (stateDt lifespan age : α) (alive : Bool) :
    Seq.runSedKillOld Gen.sed_kill_old_seq stateDt lifespan age alive
      = some (some (age + stateDt, alive && decide (age + stateDt ≤ lifespan))) := by
  simp only [Seq.runSedKillOld, Gen.sed_kill_old_seq, Run.runFn_exec, Run.runFn_nil, Run.guardVal_nil,
    String.reduceEq, ↓reduceIte, imp_self, Seq.sedKillStep.eq_def, Seq.killCommon.eq_def, Seq.killFin,
    Seq.KillSt.init]

theorem mine_kill_old_seq (stateDt lifespan age : α) (alive : Bool) :
    Seq.runMineKillOld Gen.mine_kill_old_seq stateDt lifespan age alive
      = some (some (age + stateDt, alive && decide (age + stateDt ≤ lifespan))) := by
  simp only [Seq.runMineKillOld, Gen.mine_kill_old_seq, Run.runFn_exec, Run.runFn_nil, Run.guardVal_nil,
    String.reduceEq, ↓reduceIte, imp_self, Seq.mineKillStep.eq_def, Seq.killCommon.eq_def, Seq.killFin,
    Seq.KillSt.init]

/-! ### `initialize` -/

theorem sed_initialize_seq (numOthers : Nat) (newSink sinkVel : α) :
    Seq.runSedInitialize Gen.sed_initialize_seq numOthers newSink sinkVel
      = some (some (if isZero sinkVel then newSink else sinkVel)) := by
  cases hz : isZero sinkVel <;> cases numOthers <;>
  simp only [Seq.runSedInitialize, Gen.sed_initialize_seq, Run.runFn_exec, Run.runFn_pass, Run.runFn_nil,
    Run.guardVal_cons, Run.guardVal_nil, String.reduceEq, ↓reduceIte, List.all_cons, List.all_nil, Seq.fnStmtKnown,
    Seq.fnGuardKnown, Option.isSome_some, Bool.and_self, beq_iff_eq, Bool.false_eq_true, decide_eq_true_eq,
    Seq.sedInitAtom.eq_def, Seq.sedInitStep.eq_def, Seq.SedInitSt.init, Option.map, ne_eq, Nat.succ_ne_zero,
    one_ne_zero, not_false_eq_true, not_true_eq_false, Nat.zero_add, Nat.add_zero, hz]

/-! ### the `call` steps of the interpreter of `update_ibm` (`Seq.sedStep`, `Seq.mineStep`; `LadimProofs/Bridge/Seq.lean`) -/

theorem sed_call_initialize (c : Sed.Config α) (e : Sed.Env α) (xi : α) (s : SedSt α) (numOthers : Nat) :
    Seq.sedStep c e xi s "call" "initialize"
      = (Seq.runSedInitialize Gen.sed_initialize_seq numOthers e.newSink s.sinkVel).join.map
          (fun v => { s with sinkVel := v }) := by
  rw [sed_initialize_seq]; simp [Seq.sedStep.eq_def]

theorem sed_call_resuspend (c : Sed.Config α) (e : Sed.Env α) (xi : α) (s : SedSt α) (cache : Cache α) (t : Int)
    (hc : Coherent cache t (ustar e.ub e.vb)) (hs : c.carrier.store s.active = s.active) :
    Seq.sedStep c e xi s "call" "resuspend"
      = (Seq.runSedResuspend Gen.sed_resuspend_seq cache t e s.active).join.map
          (fun r => { s with active := r.1 }) := by
  have h : c.carrier.store (resuspend e s.active) = resuspend e s.active := by
    unfold resuspend
    cases e.taucrit with
    | none => exact hs
    | some tc => by_cases hle : tc ≤ shearStress (ustar e.ub e.vb) <;> simp [hle, hs, store_one]
  rw [sed_resuspend_seq _ _ _ _ hc]; simp [Seq.sedStep.eq_def, h]

theorem sed_call_diffuse (c : Sed.Config α) (e : Sed.Env α) (xi : α) (s : SedSt α) (cache : Cache α) (t : Int)
    (hc : Coherent cache t (ustar e.ub e.vb)) :
    Seq.sedStep c e xi s "call" "diffuse"
      = (Seq.runSedDiffuse Gen.sed_diffuse_seq c cache t e xi s.active s.z).join.map
          (fun r => { s with z := r.1 }) := by
  rw [sed_diffuse_seq _ _ _ _ _ _ _ hc]; simp [Seq.sedStep.eq_def]

theorem sed_call_sink (c : Sed.Config α) (e : Sed.Env α) (xi : α) (s : SedSt α) :
    Seq.sedStep c e xi s "call" "sink"
      = (Seq.runSedSink Gen.sed_sink_seq c.dt s.sinkVel s.active s.z).join.map (fun z => { s with z := z }) := by
  rw [sed_sink_seq]; simp [Seq.sedStep.eq_def]

theorem sed_call_bury (c : Sed.Config α) (e : Sed.Env α) (xi : α) (s : SedSt α) :
    Seq.sedStep c e xi s "call" "bury"
      = (Seq.runSedBury Gen.sed_bury_seq e.H s.z s.active s.alive).join.map
          (fun r => { s with z := r.1, active := r.2.1, alive := r.2.2 }) := by
  rw [sed_bury_seq]; simp [Seq.sedStep.eq_def]

theorem sed_call_kill_old (c : Sed.Config α) (e : Sed.Env α) (xi : α) (s : SedSt α) :
    Seq.sedStep c e xi s "call" "kill_old"
      = (Seq.runSedKillOld Gen.sed_kill_old_seq c.stateDt c.lifespan s.age s.alive).join.map
          (fun r => { s with age := r.1, alive := r.2 }) := by
  rw [sed_kill_old_seq]; simp [Seq.sedStep.eq_def]

theorem mine_call_resuspend (c : Mine.Config α) (e : Mine.Env α) (xi : α) (s : MineSt α) (cache : Cache α) (t : Int)
    (hA : c.hasActive = true ∨ c.taucrit = none) (hs : c.carrier.store s.act = s.act)
    (hc : Coherent cache t (ustar e.ub e.vb)) :
    Seq.mineStep c e xi s "call" "resuspend"
      = (Seq.runMineResuspend Gen.mine_resuspend_seq c cache t e s.act).join.map
          (fun r => { s with act := r.1 }) := by
  rw [mine_resuspend_seq _ _ _ _ _ hA hs hc]; simp [Seq.mineStep.eq_def]

theorem mine_call_diffuse (c : Mine.Config α) (e : Mine.Env α) (xi : α) (s : MineSt α) :
    Seq.mineStep c e xi s "call" "diffuse"
      = (Seq.runMineDiffuse Gen.mine_diffuse_seq c.vdiff c.dt xi s.act s.z).join.map
          (fun z => { s with z := z }) := by
  rw [mine_diffuse_seq]; simp [Seq.mineStep.eq_def]

theorem mine_call_sink (c : Mine.Config α) (e : Mine.Env α) (xi : α) (s : MineSt α) :
    Seq.mineStep c e xi s "call" "sink"
      = (Seq.runMineSink Gen.mine_sink_seq c.dt s.sinkVel e.w c.vadv s.act s.z).join.map
          (fun z => { s with z := z }) := by
  rw [mine_sink_seq]; simp [Seq.mineStep.eq_def]

/-- `s.act` is the value of `self.active()`: 1 when the state has no variable `active` (`MineSt.init`) -/
theorem mine_call_bury (c : Mine.Config α) (e : Mine.Env α) (xi : α) (s : MineSt α)
    (hact : c.hasActive = false → s.act = 1) :
    Seq.mineStep c e xi s "call" "bury"
      = (Seq.runMineBury Gen.mine_bury_seq c e.H s.z s.act s.alive).join.map
          (fun r => { s with z := r.1, act := r.2.1, alive := r.2.2 }) := by
  rw [mine_bury_seq]
  cases hA : c.hasActive with
  | true => simp [Seq.mineStep.eq_def, hA]
  | false => simp [Seq.mineStep.eq_def, hA, hact hA]

theorem mine_call_kill_old (c : Mine.Config α) (e : Mine.Env α) (xi : α) (s : MineSt α) :
    Seq.mineStep c e xi s "call" "kill_old"
      = (Seq.runMineKillOld Gen.mine_kill_old_seq c.stateDt c.lifespan s.age s.alive).join.map
          (fun r => { s with age := r.1, alive := r.2 }) := by
  rw [mine_kill_old_seq]; simp [Seq.mineStep.eq_def]

end Bridge
