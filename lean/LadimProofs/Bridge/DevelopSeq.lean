import LadimProofs.Basic
import LadimProofs.C09
import LadimModel.IBM.DevelopSeq
import LadimProofs.Bridge.Runners
/-!
# Bridge (C05, C09, C16) — sand eel and shrimp: the method bodies are the hand-written per-particle rules

`Gen.sandeel_*_seq` / `Gen.shrimp_*_seq` (guard, kind and text of every statement of `sandeel/ibm.py` and
`shrimp/ibm.py`, regenerated from /repo on every run) are interpreted on ONE particle by
`LadimModel/IBM/DevelopSeq.lean` (strict runner `BioSeq.runProc`; locals unbound until assigned; one supply of random
numbers, every request logged).  The theorems say what each interpretation is.

sand eel
* `sandeel_ctor_seq`               : `D ← config['ibm']['vertical_mixing']`, `dt ← config['dt']`,
  `maxdepth ← config['ibm']['max_depth']`; no defaults: a missing key raises.
* `sandeel_hatch_time_func_seq`    : `hatch_time(rate, temp) = spline(rate, min(10, max(2, temp)))`, `spline` =
  `RectBivariateSpline` (parameter `mk`) on the tables of the source; `sandeel_hatch_time_is_model`: if that spline is the
  quadratic-by-linear interpolant `sandeelSplineClosed`, it is `Dev.hatchTime`.
* `sandeel_initialize_hatch_rate_seq` : one uniform number, only where `hatch_rate == 0` (closed form; no model function).
* `sandeel_bottom_temp_seq`        : `temp[0, round(Y - j0), round(X - i0)]` (closed form; no model function).
* `sandeel_egg_development_seq`    = `Dev.eggDevelop (hatch_time(hatch_rate, temp)) dt`.
* `sandeel_larval_development_seq` = `Dev.larvaDevelop temp dt`.
* `sandeel_reflexive_seq`          = `Bio.reflexive`;  `sandeel_vertical_diffuse_seq` = `Bio.sandeelZ` for an active
  particle (one normal number), nothing (and no number) for an inactive one.
* `sandeel_update_seq`             : the whole `update_ibm` = `Dev.sandeelDevelop` (egg rule with the BOTTOM temperature
  at the nearest cell and the hatch rate AFTER its initialisation, then the larval rule with the temperature at the
  particle — an egg that hatches in this step grows as a larva in the same step), then `Bio.sandeelZ` iff the particle is
  active AFTER development; order of the draws: uniform (iff `hatch_rate == 0`), normal (iff active).

shrimp
* `shrimp_ctor_seq`, `shrimp_ctor_raises` : the six stage tables, `dt`; `KeyError` unless `'active'` is listed.
* `shrimp_initialize_seq`          : `depth_quantile` ← a uniform number where it is 0, `stage` ← 1 where it is 0 (closed form).
* `shrimp_update_forcing_seq`      : `temp`, `salt` read at the particle (closed form).
* `shrimp_growth_seq`              = `Bio.shrimpStage` (stage clipped to `[1, 6]`), `Gen.shrimp_delta_age`, `active = stage < 6`,
  `Dev.shrimpLength`; raises when `state['temp']` is unbound.
* `shrimp_mixing_seq`              = `Bio.shrimpMix` with `vertical_mixing[min(5, int(stage)) - 1]`, one normal number.
* `shrimp_sunheight_seq`           = `Gen.shrimp_sunheight`.
* `shrimp_diel_migration_seq`      = `Bio.shrimpMigrate` towards `Bio.shrimpPreferred`, day iff `sunheight > 0`.
* `shrimp_update_seq`              : the whole `update_ibm`: growth uses the temperature read at the OLD position, mixing
  and migration use the stage AFTER growth, migration starts from the depth AFTER mixing and uses the quantile AFTER
  initialisation.

The runs are walked through by `simp` with the one-statement rules `Run.runProc_exec` / `_pass`
(`LadimProofs/Bridge/Runners.lean`) and the interpreters unfolded by `….eq_def`; the switches of a particle and
the outcome of a draw are split before the run.

Scalar laws used: `z * (-1) = -z` (shrimp mixing), `7.48 = 7.480` (length table: the source text has `7.48`, the model
`7.480`); everything else is computation — `exp`, `rpow`, `sqrt`, `round`, `trunc` … are arbitrary functions.
-/
open Ladim Ladim.DevSeq Ladim.BioSeq

set_option linter.unusedSectionVars false
set_option linter.unusedVariables false
set_option linter.unusedSimpArgs false
set_option linter.unnecessarySeqFocus false
namespace Bridge
variable {α : Type} [Field α] [LinearOrder α] [IsStrictOrderedRing α]
  [HasSqrt α] [HasExp α] [HasLog α] [HasSin α] [HasCos α] [HasAsin α] [HasRpow α] [HasPi α]

/- the runner, one statement at a time (`LadimProofs/Bridge/Runners.lean`) -/
attribute [local simp] Run.runProc_exec Run.runProc_pass Run.runProc_nil Run.guardVal_nil Run.guardVal_cons
  BioSeq.stmtKnown BioSeq.guardKnown

/-! ### tools -/

theorem dev_mul_neg_one (z : α) : z * (-1.0) = -z := mul_neg_one_lit z

/-! ## sand eel -/

/-! ### `__init__` -/

/-- **sand eel `__init__`**: which configuration key goes to which attribute; there are no defaults — the outcome is a
raise (`none`) as soon as one of `config['ibm']`, its keys `vertical_mixing` / `max_depth`, or `config['dt']` is missing -/
theorem sandeel_ctor_seq (c : SandeelConfig α) :
    sandeelCtorRun c = some (
      c.ibm.bind fun m => (m "vertical_mixing").bind fun D => c.dt.bind fun dt => (m "max_depth").bind fun md =>
        some ⟨some D, some dt, some md, true, true, true⟩) := by
  obtain ⟨dt, ibm⟩ := c
  cases ibm with
  | none =>
    simp [sandeelCtorRun, Gen.sandeel_ctor_seq, sandeelCtorStep.eq_def]
  | some m =>
    cases h1 : m "vertical_mixing" with
    | none => simp [sandeelCtorRun, Gen.sandeel_ctor_seq, sandeelCtorStep.eq_def, h1]
    | some D =>
      cases dt with
      | none => simp [sandeelCtorRun, Gen.sandeel_ctor_seq, sandeelCtorStep.eq_def, h1]
      | some dt =>
        cases h2 : m "max_depth" <;> simp [sandeelCtorRun, Gen.sandeel_ctor_seq, sandeelCtorStep.eq_def, h1, h2]

/-! ### `get_hatch_time_func` -/

/-- **`get_hatch_time_func`**: the returned function clamps the temperature to `[temp_tab[0], temp_tab[-1]] = [2, 10]`
(`min(10, max(2, temp))`, in this nesting) and evaluates the `RectBivariateSpline(kx=2, ky=1)` built from the three
tables of the source at `(rate, clamped temp)`; `mk` = construction + evaluation of the spline (parameter) -/
theorem sandeel_hatch_time_func_seq (mk : List α → List α → List (List α) → Nat → Nat → α → α → α) :
    sandeelHatchFuncRun mk = some (some fun rate temp => some (some
      (mk [0.0, 0.5, 1.0] [2.0, 4.0, 7.0, 10.0]
        [[61.0, 51.0, 39.0, 25.0], [82.0, 67.0, 48.0, 30.0], [135.0, 116.0, 82.0, 55.0]] 2 1 rate
        (fmin 10.0 (fmax 2.0 temp))))) := by
  simp [sandeelHatchFuncRun, devDefBody, devWithoutDef, hatchFnDef, Gen.sandeel_hatch_time_func_seq,
    List.filterMap_cons, hatchTabStep.eq_def, hatchFnStep.eq_def, devReturned.eq_def]

/-- the hand-written `Dev.hatchTime` is the closed-form interpolant at the clamped temperature -/
theorem sandeel_hatchTime_closed (rate temp : α) :
    Dev.hatchTime rate temp = sandeelSplineClosed rate (fmin 10.0 (fmax 2.0 temp)) := rfl

/-- HYPOTHESIS `hspl` (spline evaluation is a parameter): the spline through the table is quadratic in the rate and
piecewise linear in the temperature.  Then the function object `get_hatch_time_func()` returns is `Dev.hatchTime`. -/
theorem sandeel_hatch_time_is_model (mk : List α → List α → List (List α) → Nat → Nat → α → α → α)
    (hspl : mk [0.0, 0.5, 1.0] [2.0, 4.0, 7.0, 10.0]
      [[61.0, 51.0, 39.0, 25.0], [82.0, 67.0, 48.0, 30.0], [135.0, 116.0, 82.0, 55.0]] 2 1 = sandeelSplineClosed) :
    sandeelHatchFuncRun mk = some (some fun rate temp => some (some (Dev.hatchTime rate temp))) := by
  rw [sandeel_hatch_time_func_seq, hspl]
  rfl

/-! ### `initialize_hatch_rate` -/

/-- **`initialize_hatch_rate`**: a particle whose `hatch_rate` is 0 gets the next uniform number (the call raises when
the supply is empty); every other particle keeps its value and no number is taken for it — whatever the other particles
are (`anyOther`) -/
theorem sandeel_initialize_hatch_rate_seq (anyOther : Bool) (hr : α) (rng : Rng α) :
    sandeelInitRun anyOther hr rng = some (if Bio.isZeroS hr then rng.pop .uniform else some (hr, rng)) := by
  cases h : Bio.isZeroS hr <;> cases anyOther <;> cases h2 : rng.pop .uniform <;>
  simp [sandeelInitRun, Gen.sandeel_initialize_hatch_rate_seq, hatchInitAtom.eq_def, hatchInitStep.eq_def, h, h2]

/-! ### `bottom_temp` -/

/-- **`bottom_temp`**: the value of s-level 0 (the bottom layer) of the forcing's current temperature array at the grid
cell nearest to the particle, row `round(Y - j0)`, column `round(X - i0)` — not an interpolation, and independent of the
particle's depth -/
theorem sandeel_bottom_temp_seq [HasRound α] [HasTrunc α] (i0 j0 : α) (bt : Int → Int → α) (x y : α) :
    sandeelBottomRun i0 j0 bt x y = some (some (bt (trunc (round (y - j0))) (trunc (round (x - i0))))) := by
  simp [sandeelBottomRun, Gen.sandeel_bottom_temp_seq, bottomStep.eq_def, devReturned.eq_def]

/-! ### `egg_development`, `larval_development` -/

/-- **`egg_development`** = `Dev.eggDevelop` with `development_days = hatch_time(hatch_rate, temp)` (rate first): only
particles with `stage < 1` advance, by `dt / (days·60·60·24)`, and `active` becomes `stage ≥ 1` for exactly these -/
theorem sandeel_egg_development_seq (f : α → α → α) (temp stage hr dt : α) (active : Bool) :
    sandeelEggRun (fun r t => some (some (f r t))) temp stage hr active dt
      = some (some (Dev.eggDevelop (f hr temp) dt ⟨stage, active⟩)) := by
  simp [sandeelEggRun, Gen.sandeel_egg_development_seq, eggDevStep.eq_def, devBind.eq_def]
  unfold Dev.eggDevelop
  by_cases h1 : stage < (1.0 : α) <;> simp [h1, Gen.sandeel_egg_increase]
  rfl

/-- **`larval_development`** = `Dev.larvaDevelop`: only particles with `1 ≤ stage < 2` grow (`Gen.sandeel_larval_stage`),
and `active` becomes `stage < 2` for exactly these -/
theorem sandeel_larval_development_seq (temp stage dt : α) (active : Bool) :
    sandeelLarvaRun temp stage active dt = some (some (Dev.larvaDevelop temp dt ⟨stage, active⟩)) := by
  simp [sandeelLarvaRun, Gen.sandeel_larval_development_seq, larvaDevStep.eq_def]
  unfold Dev.larvaDevelop
  by_cases h1 : (1.0 : α) ≤ stage <;> by_cases h2 : stage < (2.0 : α) <;> simp [h1, h2, Gen.sandeel_larval_stage]

/-! ### `reflexive`, `vertical_diffuse` -/

/-- **`reflexive`** = `Bio.reflexive` -/
theorem sandeel_reflexive_seq (r lo hi : α) :
    sandeelReflexiveRun r lo hi = some (some (Bio.reflexive lo hi r)) := by
  simp [sandeelReflexiveRun, Gen.sandeel_reflexive_seq, reflStep.eq_def, devReturned.eq_def, Bio.reflexive,
    Bio.npClip]

theorem sandeel_reflexive_known : sandeelReflexiveKnown (α := α) = true := by
  simp [sandeelReflexiveKnown, Gen.sandeel_reflexive_seq, reflStep.eq_def]

/-- **`vertical_diffuse`**: an active particle takes the next normal number and moves to `Bio.sandeelZ` (bounds `0` and
`min(maxdepth, sample_depth(X, Y))`); an inactive particle stays and takes no number -/
theorem sandeel_vertical_diffuse_seq (e : SandeelEnv α) (x y z : α) (a : Bool) (rng : Rng α) :
    sandeelVertRun e x y z a rng = some (
      if a then (rng.pop .normal).map fun rg => (Bio.sandeelZ e.D e.dt e.maxdepth (e.sampleDepth x y) rg.1 z, rg.2)
      else some (z, rng)) := by
  cases a
  · simp [sandeelVertRun, Gen.sandeel_vertical_diffuse_seq, vertStep.eq_def, selMap2.eq_def, sandeel_reflexive_known]
  · cases h : rng.pop .normal <;>
    simp [sandeelVertRun, Gen.sandeel_vertical_diffuse_seq, vertStep.eq_def, h, selMap2.eq_def, devBind.eq_def,
      sandeel_reflexive_seq, Bio.sandeelZ]

/-! ### `update_ibm` -/

/-- the whole update for a `hatch_time` function that returns `f rate temp` -/
theorem sandeel_update_core [HasRound α] [HasTrunc α] (e : SandeelEnv α) (f : α → α → α)
    (hh : e.hatchTime = fun r t => some (some (f r t))) (x y z stage hr : α) (active : Bool) (u xi : α)
    (rest : List α) :
    (sandeelUpdateRun e x y z stage hr active (u :: xi :: rest)).map
        (Option.map fun s => (s.x, s.y, s.z, (⟨s.stage, s.active⟩ : Dev.Eel α), s.hatchRate, s.rng.log, s.rng.supply))
      = some (some (
          let new := Bio.isZeroS hr
          let hr' := if new then u else hr
          let bt := e.bottomTemp (trunc (round (y - e.j0))) (trunc (round (x - e.i0)))
          let p' := Dev.larvaDevelop (e.fieldTemp x y z) e.dt (Dev.eggDevelop (f hr' bt) e.dt ⟨stage, active⟩)
          (x, y,
            if p'.active then Bio.sandeelZ e.D e.dt e.maxdepth (e.sampleDepth x y) (if new then xi else u) z else z,
            p', hr',
            (if new then [.uniform] else []) ++ (if p'.active then [.normal] else []),
            if new then (if p'.active then rest else xi :: rest)
            else (if p'.active then xi :: rest else u :: xi :: rest)))) := by
  dsimp only
  have s1 : ∀ s, sandeelUpdStep e s "assign" "self.state = state" = some (some s) := fun _ => by
    simp only [sandeelUpdStep.eq_def]
  have s2 : ∀ s, sandeelUpdStep e s "assign" "self.grid = grid" = some (some s) := fun _ => by
    simp only [sandeelUpdStep.eq_def]
  have s3 : ∀ s, sandeelUpdStep e s "assign" "self.forcing = forcing" = some (some s) := fun _ => by
    simp only [sandeelUpdStep.eq_def]
  have s4 : ∀ s, sandeelUpdStep e s "call" "initialize_hatch_rate" =
      devBind (sandeelInitRun e.anyOtherNew s.hatchRate s.rng) fun r =>
        some (some { s with hatchRate := r.1, rng := r.2 }) := fun _ => by simp only [sandeelUpdStep.eq_def]
  have s5 : ∀ s, sandeelUpdStep e s "expr"
      "egg_development(self.bottom_temp(), state['stage'], state['hatch_rate'], state['active'], self.dt)" =
      devBind (sandeelBottomRun e.i0 e.j0 e.bottomTemp s.x s.y) fun bt =>
        devBind (sandeelEggRun e.hatchTime bt s.stage s.hatchRate s.active e.dt) fun p =>
          some (some { s with stage := p.stage, active := p.active }) := fun _ => by simp only [sandeelUpdStep.eq_def]
  have s6 : ∀ s, sandeelUpdStep e s "assign" "temp = forcing.field(state['X'], state['Y'], state['Z'], 'temp')" =
      some (some { s with temp := some (e.fieldTemp s.x s.y s.z) }) := fun _ => by simp only [sandeelUpdStep.eq_def]
  have s7 : ∀ s t, s.temp = some t →
      sandeelUpdStep e s "expr" "larval_development(temp, state['stage'], state['active'], self.dt)" =
      devBind (sandeelLarvaRun t s.stage s.active e.dt) fun p =>
        some (some { s with stage := p.stage, active := p.active }) := by
    intro s t ht
    obtain ⟨x, y, z, st, h, a, tm, rg⟩ := s
    simp only at ht
    subst ht
    simp only [sandeelUpdStep.eq_def]
  have s8 : ∀ s, sandeelUpdStep e s "call" "vertical_diffuse" =
      devBind (sandeelVertRun e s.x s.y s.z s.active s.rng) fun r => some (some { s with z := r.1, rng := r.2 }) :=
    fun _ => by simp only [sandeelUpdStep.eq_def]
  generalize hbt : e.bottomTemp (trunc (round (y - e.j0))) (trunc (round (x - e.i0))) = bt
  -- initialisation of the hatch rate
  have k4 : sandeelUpdStep e ⟨x, y, z, stage, hr, active, none, ⟨u :: xi :: rest, []⟩⟩ "call" "initialize_hatch_rate" =
      some (some ⟨x, y, z, stage, if Bio.isZeroS hr then u else hr, active, none,
        if Bio.isZeroS hr then ⟨xi :: rest, [.uniform]⟩ else ⟨u :: xi :: rest, []⟩⟩) := by
    rw [s4, sandeel_initialize_hatch_rate_seq]
    cases Bio.isZeroS hr <;> simp [devBind, Rng.pop]
  generalize hhr : (if Bio.isZeroS hr then u else hr) = hr' at k4 ⊢
  generalize hrng : (if Bio.isZeroS hr then (⟨xi :: rest, [.uniform]⟩ : Rng α) else ⟨u :: xi :: rest, []⟩) = rng1 at k4
  -- eggs
  have k5 : sandeelUpdStep e ⟨x, y, z, stage, hr', active, none, rng1⟩ "expr"
      "egg_development(self.bottom_temp(), state['stage'], state['hatch_rate'], state['active'], self.dt)" =
      some (some ⟨x, y, z, (Dev.eggDevelop (f hr' bt) e.dt ⟨stage, active⟩).stage, hr',
        (Dev.eggDevelop (f hr' bt) e.dt ⟨stage, active⟩).active, none, rng1⟩) := by
    rw [s5, sandeel_bottom_temp_seq]
    simp only [devBind]
    rw [hh, sandeel_egg_development_seq, hbt]
  generalize hp1 : Dev.eggDevelop (f hr' bt) e.dt ⟨stage, active⟩ = p1 at k5 ⊢
  -- larvae
  have k7 : sandeelUpdStep e ⟨x, y, z, p1.stage, hr', p1.active, some (e.fieldTemp x y z), rng1⟩ "expr"
      "larval_development(temp, state['stage'], state['active'], self.dt)" =
      some (some ⟨x, y, z, (Dev.larvaDevelop (e.fieldTemp x y z) e.dt p1).stage, hr',
        (Dev.larvaDevelop (e.fieldTemp x y z) e.dt p1).active, some (e.fieldTemp x y z), rng1⟩) := by
    rw [s7 _ _ rfl, sandeel_larval_development_seq]
    rfl
  generalize hp2 : Dev.larvaDevelop (e.fieldTemp x y z) e.dt p1 = p2 at k7 ⊢
  -- vertical mixing
  have k8 : sandeelUpdStep e ⟨x, y, z, p2.stage, hr', p2.active, some (e.fieldTemp x y z), rng1⟩ "call"
      "vertical_diffuse" =
      some (some ⟨x, y,
        if p2.active then Bio.sandeelZ e.D e.dt e.maxdepth (e.sampleDepth x y) (if Bio.isZeroS hr then xi else u) z else z,
        p2.stage, hr', p2.active, some (e.fieldTemp x y z),
        if p2.active then
          (if Bio.isZeroS hr then ⟨rest, [.uniform, .normal]⟩ else ⟨xi :: rest, [.normal]⟩)
        else rng1⟩) := by
    rw [s8, sandeel_vertical_diffuse_seq, ← hrng]
    cases p2.active <;> cases Bio.isZeroS hr <;> simp [devBind, Rng.pop]
  unfold sandeelUpdateRun Gen.sandeel_update_seq
  rw [Run.runProc_step rfl (by decide) (s1 _), Run.runProc_step rfl (by decide) (s2 _), Run.runProc_step rfl (by decide) (s3 _),
    Run.runProc_step rfl (by decide) k4, Run.runProc_step rfl (by decide) k5, Run.runProc_step rfl (by decide) (s6 _),
    Run.runProc_step rfl (by decide) k7, Run.runProc_step rfl (by decide) k8, Run.runProc_nil]
  obtain ⟨st2, a2⟩ := p2
  subst hrng hhr
  cases a2 <;> cases Bio.isZeroS hr <;> simp

/-- **sand eel `update_ibm`** (all of `Gen.sandeel_update_seq`, every call running the callee's generated sequence), for
the module-level `hatch_time = get_hatch_time_func()` (`hh`) under the spline hypothesis `hspl`:
stage and `active` = `Dev.sandeelDevelop` with the BOTTOM temperature of the nearest cell for the eggs, the temperature
at the particle for the larvae, and the hatch rate as it is AFTER `initialize_hatch_rate`; the depth =
`Bio.sandeelZ` iff the particle is active AFTER development; `X`, `Y` untouched.  Draws: the FIRST number of the supply
is the uniform hatch rate (taken iff `hatch_rate == 0`), the next one the normal mixing number (taken iff active). -/
theorem sandeel_update_seq [HasRound α] [HasTrunc α] (e : SandeelEnv α)
    (mk : List α → List α → List (List α) → Nat → Nat → α → α → α)
    (hspl : mk [0.0, 0.5, 1.0] [2.0, 4.0, 7.0, 10.0]
      [[61.0, 51.0, 39.0, 25.0], [82.0, 67.0, 48.0, 30.0], [135.0, 116.0, 82.0, 55.0]] 2 1 = sandeelSplineClosed)
    (hh : sandeelHatchFuncRun mk = some (some e.hatchTime))
    (x y z stage hr : α) (active : Bool) (u xi : α) (rest : List α) :
    (sandeelUpdateRun e x y z stage hr active (u :: xi :: rest)).map
        (Option.map fun s => (s.x, s.y, s.z, (⟨s.stage, s.active⟩ : Dev.Eel α), s.hatchRate, s.rng.log, s.rng.supply))
      = some (some (
          let new := Bio.isZeroS hr
          let hr' := if new then u else hr
          let bt := e.bottomTemp (trunc (round (y - e.j0))) (trunc (round (x - e.i0)))
          let p' := Dev.sandeelDevelop bt (e.fieldTemp x y z) hr' e.dt ⟨stage, active⟩
          (x, y,
            if p'.active then Bio.sandeelZ e.D e.dt e.maxdepth (e.sampleDepth x y) (if new then xi else u) z else z,
            p', hr',
            (if new then [.uniform] else []) ++ (if p'.active then [.normal] else []),
            if new then (if p'.active then rest else xi :: rest)
            else (if p'.active then xi :: rest else u :: xi :: rest)))) := by
  rw [sandeel_hatch_time_is_model mk hspl] at hh
  have hh' : e.hatchTime = fun r t => some (some (Dev.hatchTime r t)) := by
    injection hh with hh; injection hh with hh; exact hh.symm
  exact sandeel_update_core e Dev.hatchTime hh' x y z stage hr active u xi rest

/-! ## shrimp -/

/-! ### `__init__` -/

/-- **shrimp `__init__`**: with all keys present and `'active'` among `config['ibm']['variables']` — which key goes to
which attribute (`maxdepth_ngh ← 'maxdepth_night'`, `mindepth_ngh ← 'mindepth_night'`); no defaults -/
theorem shrimp_ctor_seq (dt : α) (m : String → Option (List α)) (vars : List String) (vm vs xd xn nd nn : List α)
    (h1 : m "vertical_mixing" = some vm) (h2 : m "vertical_speed" = some vs) (h3 : m "maxdepth_day" = some xd)
    (h4 : m "maxdepth_night" = some xn) (h5 : m "mindepth_day" = some nd) (h6 : m "mindepth_night" = some nn)
    (hv : "active" ∈ vars) :
    shrimpCtorRun ⟨some dt, some m, some vars⟩ =
      some (some ⟨some vm, some vs, some xd, some xn, some nd, some nn, some dt, true, true, true⟩) := by
  simp [shrimpCtorRun, Gen.shrimp_ctor_seq, shrimpCtorAtom.eq_def, shrimpCtorStep.eq_def, h1, h2, h3, h4, h5, h6, hv]

/-- … and `KeyError` when `'active'` is not listed -/
theorem shrimp_ctor_raises (dt : α) (m : String → Option (List α)) (vars : List String) (vm vs xd xn nd nn : List α)
    (h1 : m "vertical_mixing" = some vm) (h2 : m "vertical_speed" = some vs) (h3 : m "maxdepth_day" = some xd)
    (h4 : m "maxdepth_night" = some xn) (h5 : m "mindepth_day" = some nd) (h6 : m "mindepth_night" = some nn)
    (hv : "active" ∉ vars) :
    shrimpCtorRun ⟨some dt, some m, some vars⟩ = some none := by
  simp [shrimpCtorRun, Gen.shrimp_ctor_seq, shrimpCtorAtom.eq_def, shrimpCtorStep.eq_def, h1, h2, h3, h4, h5, h6, hv]

/-! ### `initialize` -/

/-- **`initialize`**: `depth_quantile` gets the next uniform number where it is 0 (raises on an empty supply), `stage`
becomes 1 where it is 0; nothing else changes, and no number is taken for an initialised particle — whatever the other
particles are -/
theorem shrimp_initialize_seq (anyOther : Bool) (p : Shrimp α) (rng : Rng α) :
    shrimpInitRun anyOther p rng = some (
      if Bio.isZeroS p.q then
        (rng.pop .uniform).map fun rg =>
          ({ p with q := rg.1, stage := if Bio.isZeroS p.stage then 1.0 else p.stage }, rg.2)
      else some ({ p with stage := if Bio.isZeroS p.stage then 1.0 else p.stage }, rng)) := by
  obtain ⟨x, y, z, stage, age, q, active, temp, salt, len⟩ := p
  cases hq : Bio.isZeroS q
  · cases hs : Bio.isZeroS stage <;> cases anyOther <;>
    simp [shrimpInitRun, Gen.shrimp_initialize_seq, shrimpInitAtom.eq_def, shrimpInitStep.eq_def, hq, hs]
  · cases hp : rng.pop .uniform
    · simp [shrimpInitRun, Gen.shrimp_initialize_seq, shrimpInitAtom.eq_def, shrimpInitStep.eq_def, hq, hp]
    · cases hs : Bio.isZeroS stage <;> cases anyOther <;>
      simp [shrimpInitRun, Gen.shrimp_initialize_seq, shrimpInitAtom.eq_def, shrimpInitStep.eq_def, hq, hp, hs]

/-! ### `update_ibm_forcing` -/

/-- **`update_ibm_forcing`**: temperature and salinity at the particle's position -/
theorem shrimp_update_forcing_seq (ft fs : α → α → α → α) (p : Shrimp α) :
    shrimpForcRun ft fs p = some (some { p with temp := some (ft p.x p.y p.z), salt := some (fs p.x p.y p.z) }) := by
  simp [shrimpForcRun, Gen.shrimp_update_forcing_seq, shrimpForcStep.eq_def]

/-! ### `growth` -/

/-- **`growth`**: `age += Gen.shrimp_delta_age`, `stage = Bio.shrimpStage` (increment at the temperature clipped to
`[3, 8]`, result clipped to `[1, 6]`), `active = stage < 6`, `length = Dev.shrimpLength stage` (all with the NEW stage) -/
theorem shrimp_growth_seq (dt T : α) (p : Shrimp α) (hT : p.temp = some T) :
    shrimpGrowRun dt p = some (some { p with
      age := p.age + Gen.shrimp_delta_age T dt,
      stage := Bio.shrimpStage T dt p.stage,
      active := decide (Bio.shrimpStage T dt p.stage < 6.0),
      length := Dev.shrimpLength (Bio.shrimpStage T dt p.stage) }) := by
  obtain ⟨x, y, z, stage, age, q, active, temp, salt, len⟩ := p
  simp only at hT
  subst hT
  have h748 : (7.480 : α) = 7.48 := by norm_num
  simp [shrimpGrowRun, Gen.shrimp_growth_seq, shrimpGrowStep.eq_def, interp, Bio.shrimpStage, Bio.npClip,
    Gen.shrimp_delta_stage, Gen.shrimp_delta_age, Dev.shrimpLength, h748]
  rfl

/-- … and it raises when `state['temp']` does not exist -/
theorem shrimp_growth_raises (dt : α) (p : Shrimp α) (hT : p.temp = none) : shrimpGrowRun dt p = some none := by
  obtain ⟨x, y, z, stage, age, q, active, temp, salt, len⟩ := p
  simp only at hT
  subst hT
  simp [shrimpGrowRun, Gen.shrimp_growth_seq, shrimpGrowStep.eq_def]

/-! ### `mixing` -/

/-- **`mixing`** = `Bio.shrimpMix` with the mixing coefficient of the particle's stage,
`vertical_mixing[min(5, int(stage)) - 1]` (numpy indexing: `IndexError` = `none`), and the next normal number -/
theorem shrimp_mixing_seq [HasTrunc α] (vm : List α) (dt : α) (p : Shrimp α) (rng : Rng α) :
    shrimpMixRun vm dt p rng = some (
      (npIndex vm (shrimpIntStage p.stage)).bind fun v =>
        (rng.pop .normal).map fun rg => ({ p with z := Bio.shrimpMix v dt rg.1 p.z }, rg.2)) := by
  obtain ⟨x, y, z, stage, age, q, active, temp, salt, len⟩ := p
  cases hv : npIndex vm (shrimpIntStage stage) <;> cases hp : rng.pop .normal <;>
  simp [shrimpMixRun, Gen.shrimp_mixing_seq, shrimpMixStep.eq_def, hv, hp, Bio.shrimpMix, dev_mul_neg_one]
  lits
  split_ifs <;> ring

/-- the table reads of `mixing` / `diel_migration` succeed for tables with (at least) the five pelagic stages whenever
the integer part of the stage is at least 1 — as it is after `growth`, which clips the stage to `[1, 6]`.  (For an
integer part 0 the index is `-1`: numpy then silently reads the LAST entry.) -/
theorem shrimp_table_read [HasTrunc α] (l : List α) (hl : 5 ≤ l.length) (s : α) (h : 1 ≤ trunc s) :
    ∃ v, npIndex l (shrimpIntStage s) = some v := by
  have h0 : 0 ≤ min 5 (trunc s) - 1 := by omega
  have h4 : (min 5 (trunc s) - 1).toNat < l.length := by omega
  refine ⟨l[(min 5 (trunc s) - 1).toNat], ?_⟩
  unfold npIndex shrimpIntStage
  rw [if_pos h0]
  exact List.getElem?_eq_getElem h4

/-! ### `sunheight`, `diel_migration` -/

/-- **`sunheight`** = `Gen.shrimp_sunheight` of `(tm_yday, tm_hour)` of the time stamp -/
theorem shrimp_sunheight_seq {τ : Type} (tt : τ → α × α) (t : τ) (lon lat : α) :
    shrimpSunheightRun tt t lon lat = some (some (Gen.shrimp_sunheight (tt t).1 (tt t).2 lon lat)) := by
  simp [shrimpSunheightRun, Gen.shrimp_sunheight_seq, sunStep.eq_def, devReturned.eq_def, Gen.shrimp_sunheight]


/-- **`diel_migration`** = `Bio.shrimpMigrate` towards `Bio.shrimpPreferred` of the day band (sun above the horizon at
the particle's longitude / latitude: `sunheight > 0`) or the night band of the particle's stage; the time is
`state.timestamp` if the state has that attribute, else `state['time']`.  Hypotheses: the five table reads succeed. -/
theorem shrimp_diel_migration_seq [HasTrunc α] {τ : Type} (e : ShrimpEnv α τ) (p : Shrimp α)
    (speed maxDay maxNgh minDay minNgh : α)
    (h1 : npIndex e.vertSpeed (shrimpIntStage p.stage) = some speed)
    (h2 : npIndex e.maxDay (shrimpIntStage p.stage) = some maxDay)
    (h3 : npIndex e.maxNgh (shrimpIntStage p.stage) = some maxNgh)
    (h4 : npIndex e.minDay (shrimpIntStage p.stage) = some minDay)
    (h5 : npIndex e.minNgh (shrimpIntStage p.stage) = some minNgh) :
    shrimpDielRun e p = some (some (
      let time := if e.hasTimestamp then e.timestamp else e.timeVar
      let isDay := decide (0.0 < Gen.shrimp_sunheight (e.timetuple time).1 (e.timetuple time).2
        (e.lonlat p.x p.y).1 (e.lonlat p.x p.y).2)
      let pref := Bio.shrimpPreferred (if isDay then minDay else minNgh) (if isDay then maxDay else maxNgh) p.q
      { p with z := Bio.shrimpMigrate e.dt speed pref p.z })) := by
  obtain ⟨x, y, z, stage, age, q, active, temp, salt, len⟩ := p
  simp only at h1 h2 h3 h4 h5
  -- the statements after the two `time = …` branches, from either time stamp
  have tail : ∀ b tm, (runProc (shrimpDielAtom b) (shrimpDielStep e) (Gen.shrimp_diel_migration_seq.drop 2)
      ⟨⟨x, y, z, stage, age, q, active, temp, salt, len⟩, some tm, none, none, none, none, none, none, none, none, none,
        none, none, none, none, none, none, none, none⟩).map (Option.map fun s => s.p) = some (some (
      let isDay := decide (0.0 < Gen.shrimp_sunheight (e.timetuple tm).1 (e.timetuple tm).2
        (e.lonlat x y).1 (e.lonlat x y).2)
      let pref := Bio.shrimpPreferred (if isDay then minDay else minNgh) (if isDay then maxDay else maxNgh) q
      ⟨x, y, Bio.shrimpMigrate e.dt speed pref z, stage, age, q, active, temp, salt, len⟩)) := by
    intro b tm
    simp [Gen.shrimp_diel_migration_seq, shrimpDielStep.eq_def, h1, h2, h3, h4, h5, devBind.eq_def,
      shrimp_sunheight_seq, Bio.shrimpMigrate, Bio.shrimpPreferred]
  unfold shrimpDielRun
  rw [← List.take_append_drop 2 Gen.shrimp_diel_migration_seq]
  generalize Gen.shrimp_diel_migration_seq.drop 2 = rest at tail
  cases ht : e.hasTimestamp
  · simpa [Gen.shrimp_diel_migration_seq, shrimpDielAtom.eq_def, shrimpDielStep.eq_def] using tail false e.timeVar
  · simpa [Gen.shrimp_diel_migration_seq, shrimpDielAtom.eq_def, shrimpDielStep.eq_def] using tail true e.timestamp

/-! ### `update_ibm` -/

/-- the stage after `initialize` and `growth`: the stage the later rules (`mixing`, `diel_migration`) see -/
def shrimpStageAfter {τ : Type} (e : ShrimpEnv α τ) (p : Shrimp α) : α :=
  Bio.shrimpStage (e.fieldTemp p.x p.y p.z) e.dt (if Bio.isZeroS p.stage then 1.0 else p.stage)

/-- **shrimp `update_ibm`** (all of `Gen.shrimp_update_seq`, every call running the callee's generated sequence).
Hypotheses: the six stage tables have an entry at the index `min(5, int(stage)) - 1` of the stage AFTER growth.
`initialize` (quantile ← FIRST number of the supply iff it is 0; stage 0 ↦ 1), then temperature / salinity at the OLD
position, then `growth` on the initialised stage with that temperature, then `mixing` (next number, normal) with the
coefficient of the NEW stage from the old depth, then `diel_migration` from the MIXED depth with the NEW stage's
speed / bands and the initialised quantile. -/
theorem shrimp_update_seq [HasTrunc α] {τ : Type} (e : ShrimpEnv α τ) (p : Shrimp α) (u xi : α) (rest : List α)
    (vm speed maxDay maxNgh minDay minNgh : α)
    (h0 : npIndex e.vertMix (shrimpIntStage (shrimpStageAfter e p)) = some vm)
    (h1 : npIndex e.vertSpeed (shrimpIntStage (shrimpStageAfter e p)) = some speed)
    (h2 : npIndex e.maxDay (shrimpIntStage (shrimpStageAfter e p)) = some maxDay)
    (h3 : npIndex e.maxNgh (shrimpIntStage (shrimpStageAfter e p)) = some maxNgh)
    (h4 : npIndex e.minDay (shrimpIntStage (shrimpStageAfter e p)) = some minDay)
    (h5 : npIndex e.minNgh (shrimpIntStage (shrimpStageAfter e p)) = some minNgh) :
    (shrimpUpdateRun e p (u :: xi :: rest)).map (Option.map fun s => (s.p, s.rng.log, s.rng.supply))
      = some (some (
          let new := Bio.isZeroS p.q
          let q' := if new then u else p.q
          let T := e.fieldTemp p.x p.y p.z
          let stage1 := shrimpStageAfter e p
          let z1 := Bio.shrimpMix vm e.dt (if new then xi else u) p.z
          let time := if e.hasTimestamp then e.timestamp else e.timeVar
          let isDay := decide (0.0 < Gen.shrimp_sunheight (e.timetuple time).1 (e.timetuple time).2
            (e.lonlat p.x p.y).1 (e.lonlat p.x p.y).2)
          let pref := Bio.shrimpPreferred (if isDay then minDay else minNgh) (if isDay then maxDay else maxNgh) q'
          (⟨p.x, p.y, Bio.shrimpMigrate e.dt speed pref z1, stage1, p.age + Gen.shrimp_delta_age T e.dt, q',
              decide (stage1 < 6.0), some T, some (e.fieldSalt p.x p.y p.z), Dev.shrimpLength stage1⟩,
            if new then [.uniform, .normal] else [.normal],
            if new then rest else xi :: rest))) := by
  obtain ⟨x, y, z, stage, age, q, active, temp, salt, len⟩ := p
  dsimp only [shrimpStageAfter] at h0 h1 h2 h3 h4 h5 ⊢
  have s1 : ∀ s, shrimpUpdStep e s "assign" "self.grid = grid" = some (some s) := fun _ => by
    simp only [shrimpUpdStep.eq_def]
  have s2 : ∀ s, shrimpUpdStep e s "assign" "self.state = state" = some (some s) := fun _ => by
    simp only [shrimpUpdStep.eq_def]
  have s3 : ∀ s, shrimpUpdStep e s "assign" "self.forcing = forcing" = some (some s) := fun _ => by
    simp only [shrimpUpdStep.eq_def]
  have s4 : ∀ s, shrimpUpdStep e s "call" "initialize" =
      devBind (shrimpInitRun e.anyOtherStageNew s.p s.rng) fun r => some (some ⟨r.1, r.2⟩) := fun _ => by
        simp only [shrimpUpdStep.eq_def]
  have s5 : ∀ s, shrimpUpdStep e s "call" "update_ibm_forcing" =
      devBind (shrimpForcRun e.fieldTemp e.fieldSalt s.p) fun p => some (some { s with p := p }) := fun _ => by
        simp only [shrimpUpdStep.eq_def]
  have s6 : ∀ s, shrimpUpdStep e s "call" "growth" =
      devBind (shrimpGrowRun e.dt s.p) fun p => some (some { s with p := p }) := fun _ => by
        simp only [shrimpUpdStep.eq_def]
  have s7 : ∀ s, shrimpUpdStep e s "call" "mixing" =
      devBind (shrimpMixRun e.vertMix e.dt s.p s.rng) fun r => some (some ⟨r.1, r.2⟩) := fun _ => by
        simp only [shrimpUpdStep.eq_def]
  have s8 : ∀ s, shrimpUpdStep e s "call" "diel_migration" =
      devBind (shrimpDielRun e s.p) fun p => some (some { s with p := p }) := fun _ => by
        simp only [shrimpUpdStep.eq_def]
  generalize hT : e.fieldTemp x y z = T at h0 h1 h2 h3 h4 h5 ⊢
  generalize hS : e.fieldSalt x y z = S
  generalize hs0 : (if Bio.isZeroS stage then (1.0 : α) else stage) = stage0 at h0 h1 h2 h3 h4 h5 ⊢
  have k4 : shrimpUpdStep e ⟨⟨x, y, z, stage, age, q, active, temp, salt, len⟩, ⟨u :: xi :: rest, []⟩⟩ "call" "initialize" =
      some (some ⟨⟨x, y, z, stage0, age, if Bio.isZeroS q then u else q, active, temp, salt, len⟩,
        if Bio.isZeroS q then ⟨xi :: rest, [.uniform]⟩ else ⟨u :: xi :: rest, []⟩⟩) := by
    rw [s4, shrimp_initialize_seq, ← hs0]
    cases Bio.isZeroS q <;> simp [devBind, Rng.pop]
  generalize hq : (if Bio.isZeroS q then u else q) = q' at k4 ⊢
  generalize hrng : (if Bio.isZeroS q then (⟨xi :: rest, [.uniform]⟩ : Rng α) else ⟨u :: xi :: rest, []⟩) = rng1 at k4
  have k5 : shrimpUpdStep e ⟨⟨x, y, z, stage0, age, q', active, temp, salt, len⟩, rng1⟩ "call" "update_ibm_forcing" =
      some (some ⟨⟨x, y, z, stage0, age, q', active, some T, some S, len⟩, rng1⟩) := by
    rw [s5, shrimp_update_forcing_seq, ← hT, ← hS]
    rfl
  have k6 : shrimpUpdStep e ⟨⟨x, y, z, stage0, age, q', active, some T, some S, len⟩, rng1⟩ "call" "growth" =
      some (some ⟨⟨x, y, z, Bio.shrimpStage T e.dt stage0, age + Gen.shrimp_delta_age T e.dt, q',
        decide (Bio.shrimpStage T e.dt stage0 < 6.0), some T, some S,
        Dev.shrimpLength (Bio.shrimpStage T e.dt stage0)⟩, rng1⟩) := by
    rw [s6, shrimp_growth_seq e.dt T _ rfl]
    rfl
  generalize hs1 : Bio.shrimpStage T e.dt stage0 = stage1 at h0 h1 h2 h3 h4 h5 k6 ⊢
  have k7 : shrimpUpdStep e ⟨⟨x, y, z, stage1, age + Gen.shrimp_delta_age T e.dt, q', decide (stage1 < 6.0), some T,
        some S, Dev.shrimpLength stage1⟩, rng1⟩ "call" "mixing" =
      some (some ⟨⟨x, y, Bio.shrimpMix vm e.dt (if Bio.isZeroS q then xi else u) z, stage1,
        age + Gen.shrimp_delta_age T e.dt, q', decide (stage1 < 6.0), some T, some S, Dev.shrimpLength stage1⟩,
        if Bio.isZeroS q then ⟨rest, [.uniform, .normal]⟩ else ⟨xi :: rest, [.normal]⟩⟩) := by
    rw [s7, shrimp_mixing_seq, ← hrng]
    dsimp only
    rw [h0]
    cases Bio.isZeroS q <;> simp [devBind, Rng.pop]
  generalize hz1 : Bio.shrimpMix vm e.dt (if Bio.isZeroS q then xi else u) z = z1 at k7 ⊢
  have k8 := shrimp_diel_migration_seq e ⟨x, y, z1, stage1, age + Gen.shrimp_delta_age T e.dt, q',
    decide (stage1 < 6.0), some T, some S, Dev.shrimpLength stage1⟩ speed maxDay maxNgh minDay minNgh h1 h2 h3 h4 h5
  dsimp only at k8
  have k8' : ∀ rg, shrimpUpdStep e ⟨⟨x, y, z1, stage1, age + Gen.shrimp_delta_age T e.dt, q', decide (stage1 < 6.0),
        some T, some S, Dev.shrimpLength stage1⟩, rg⟩ "call" "diel_migration" =
      some (some ⟨⟨x, y,
        Bio.shrimpMigrate e.dt speed
          (Bio.shrimpPreferred
            (if decide (0.0 < Gen.shrimp_sunheight
                (e.timetuple (if e.hasTimestamp then e.timestamp else e.timeVar)).1
                (e.timetuple (if e.hasTimestamp then e.timestamp else e.timeVar)).2
                (e.lonlat x y).1 (e.lonlat x y).2) then minDay else minNgh)
            (if decide (0.0 < Gen.shrimp_sunheight
                (e.timetuple (if e.hasTimestamp then e.timestamp else e.timeVar)).1
                (e.timetuple (if e.hasTimestamp then e.timestamp else e.timeVar)).2
                (e.lonlat x y).1 (e.lonlat x y).2) then maxDay else maxNgh) q') z1,
        stage1, age + Gen.shrimp_delta_age T e.dt, q', decide (stage1 < 6.0), some T, some S,
        Dev.shrimpLength stage1⟩, rg⟩) := by
    intro rg
    rw [s8]
    dsimp only
    rw [k8]
    rfl
  unfold shrimpUpdateRun Gen.shrimp_update_seq
  rw [Run.runProc_step rfl (by decide) (s1 _), Run.runProc_step rfl (by decide) (s2 _), Run.runProc_step rfl (by decide) (s3 _),
    Run.runProc_step rfl (by decide) k4, Run.runProc_step rfl (by decide) k5, Run.runProc_step rfl (by decide) k6,
    Run.runProc_step rfl (by decide) k7, Run.runProc_step rfl (by decide) (k8' _), Run.runProc_nil]
  cases Bio.isZeroS q <;> simp

end Bridge
