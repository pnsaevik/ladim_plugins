import LadimProofs.Basic
import LadimModel.Forcing.RomsSeq
import LadimProofs.Bridge.RunSeq
/-!
# Bridge (C06, C14) — the forcing state machine *is* the code

`Gen.forcing_init_seq` and `Gen.forcing_step_seq` are the statements of `Forcing._remaining_initialization` and
`Forcing._update_one_step` (guards, order, text), regenerated from /repo on every run.  Interpreted statement by
statement (`LadimModel/Forcing/RomsSeq.lean`; an unknown statement or condition makes the run fail) they are exactly
`Roms.init` and `Roms.updateOne`, the functions the C06 theorems are about.  In addition the diagnosed vertical
velocity, which the code carries through the same machine (`W`, `Wnew`, `dW`), stays the image of the horizontal
velocity under `compute_w` at every step of every schedule, because `compute_w` is linear (C14).
-/
open Ladim

set_option linter.unusedSectionVars false
set_option linter.unusedVariables false
set_option linter.auxLemma false
set_option linter.unusedSimpArgs false
set_option linter.unnecessarySeqFocus false
namespace Bridge
variable {α : Type} [Field α] [LinearOrder α] [IsStrictOrderedRing α] [HasOfInt α]

open Seq

/-- A side condition of a runner lemma (`Bridge/RunSeq.lean`): the value of a condition or of a statement, a kind that is
not `return`.  The texts are matched by `simp` — equal literals are syntactically equal, different ones get a proof from
the first position where they differ; evaluation would compare their encodings — with the facts `hs` about the
configuration; what is left holds by unfolding. -/
local macro "texts" "[" hs:Lean.Parser.Tactic.simpLemma,* "]" : tactic =>
  `(tactic| (simp only [String.reduceEq, ↓reduceDIte, $hs,*] <;> rfl))

/-- the second half of `_update_one_step` (from `if t in self.steps` on), with velocity interpolation on and scalar
interpolation off -/
theorem forcing_step_move (fr : Roms.Frames α) (cw : α → α) (t : Int) (s : FSt α)
    (hv : s.interpVel = true) (hi : s.interpScal = false) :
    run (stepAtom fr t) (stepStep fr cw t) (Gen.forcing_step_seq.drop 12) s =
      some (if fr.steps.contains t then { s with U := s.Unew, W := s.Wnew, S := s.Snew }
        else { s with U := s.U + s.dU, W := s.W + s.dW }) := by
  delta stepAtom stepAtom.match_1 stepStep stepStep.match_1
  cases h2 : fr.steps.contains t
  · iterate 4 rw [Run.run_at_skip rfl (Run.guardVal_cons_neg (by texts []))]
    iterate 3 rw [Run.run_at_assign rfl ((Run.guardVal_cons_pos (by texts [])).trans (Run.guardVal_pos (by texts [hv])))
        (by texts [])]
    rw [Run.run_at_skip rfl ((Run.guardVal_cons_pos (by texts [])).trans (Run.guardVal_cons_neg (by texts [hi]))),
      Run.run_at_end rfl]
    rfl
  · iterate 3 rw [Run.run_at_assign rfl (Run.guardVal_pos (by texts [])) (by texts [])]
    rw [Run.run_at_assign rfl ((Run.guardVal_cons_pos (by texts [])).trans (Run.guardVal_pos (by texts [])))
        (by texts [])]
    iterate 4 rw [Run.run_at_skip rfl (Run.guardVal_cons_neg (by texts []))]
    rw [Run.run_at_end rfl]
    rfl

theorem forcing_step_explicit (fr : Roms.Frames α) (cw : α → α) (t : Int) (s : FSt α)
    (hnext : fr.steps.contains (t - 1) = true → (Roms.nextStep fr.steps (t - 1)).isSome = true) :
    run (stepAtom fr t) (stepStep fr cw t) Gen.forcing_step_seq s = some (stepExplicit fr cw t s) := by
  obtain rest := forcing_step_move fr cw t
  show run _ _ (Gen.forcing_step_seq.drop 0) s = _
  cases h1 : fr.steps.contains (t - 1)
  · delta stepAtom stepAtom.match_1 stepStep stepStep.match_1 at rest ⊢
    iterate 3 rw [Run.run_at_step rfl rfl (by texts []) (by texts [])]
    iterate 9 rw [Run.run_at_skip rfl (Run.guardVal_cons_neg (by texts [h1]))]
    rw [rest _ rfl rfl]
    simp only [stepExplicit, h1]
    rfl
  · obtain ⟨nx, hnx⟩ := Option.isSome_iff_exists.mp (hnext h1)
    have e : t - 1 + (nx - (t - 1)) = nx := by omega
    delta stepAtom stepAtom.match_1 stepStep stepStep.match_1 at rest ⊢
    iterate 3 rw [Run.run_at_step rfl rfl (by texts []) (by texts [])]
    rw [Run.run_at_assign rfl (Run.guardVal_pos (by texts [h1])) (by texts [hnx])]
    iterate 3 rw [Run.run_at_assign rfl (Run.guardVal_pos (by texts [h1])) (by texts [])]
    iterate 4 rw [Run.run_at_assign rfl ((Run.guardVal_cons_pos (by texts [h1])).trans (Run.guardVal_pos (by texts [])))
        (by texts [])]
    rw [Run.run_at_skip rfl ((Run.guardVal_cons_pos (by texts [h1])).trans (Run.guardVal_cons_neg (by texts []))),
      rest _ rfl rfl]
    simp only [stepExplicit, h1, hnx, e]
    rfl

/-- the closed form of `_update_one_step`, projected to the C06 state, is `Roms.updateOne` -/
theorem stepExplicit_roms (fr : Roms.Frames α) (cw : α → α) (t l : Int) (s : FSt α) :
    (stepExplicit fr cw t s).roms t = Roms.updateOne fr (s.roms l) t := by
  unfold stepExplicit Roms.updateOne FSt.roms
  cases h1 : fr.steps.contains (t - 1) <;> cases h2 : fr.steps.contains t <;>
    cases hn : Roms.nextStep fr.steps (t - 1) <;> simp

theorem forcing_step (fr : Roms.Frames α) (cw : α → α) (t last : Int) (s : FSt α)
    (hnext : fr.steps.contains (t - 1) = true → (Roms.nextStep fr.steps (t - 1)).isSome = true) :
    (run (stepAtom fr t) (stepStep fr cw t) Gen.forcing_step_seq s).map (fun r => r.roms t)
      = some (Roms.updateOne fr (s.roms last) t) := by
  rw [forcing_step_explicit fr cw t s hnext, Option.map_some, stepExplicit_roms fr cw t last s]

/-- `compute_w` as far as the state machine is concerned: a linear map of the horizontal velocity (`C14.compute_w` is
linear in `(u, v)`; this is the one-cell image of that statement) -/
structure LinearW (cw : α → α) : Prop where
  add : ∀ a b, cw (a + b) = cw a + cw b
  smul : ∀ c a, cw (c * a) = c * cw a

theorem LinearW.sub {cw : α → α} (h : LinearW cw) (a b : α) : cw (a - b) = cw a - cw b := by
  have : a - b = a + (-1) * b := by ring
  rw [this, h.add, h.smul]; ring

theorem LinearW.div {cw : α → α} (h : LinearW cw) (a c : α) : cw (a / c) = cw a / c := by
  have : a / c = c⁻¹ * a := by rw [div_eq_inv_mul]
  rw [this, h.smul, div_eq_inv_mul]

/-- the vertical velocity carried by the machine is the image of the horizontal velocity it carries -/
def WInv (cw : α → α) (s : FSt α) : Prop := s.W = cw s.U ∧ s.Wnew = cw s.Unew ∧ s.dW = cw s.dU

/-! `_remaining_initialization`: the two ways it succeeds, each run once — the state it ends in, projected, is what
`Roms.init` gives, and its vertical velocity is the image of its horizontal velocity when `compute_w` is linear -/

/-- forcing exists before the start, and the last frame before it has a successor -/
theorem forcing_init_prestep (fr : Roms.Frames α) (cw : α → α) (z : α) (p nx : Int)
    (hp : Roms.prestepOf fr.steps = some p) (hn : Roms.nextStep fr.steps p = some nx) :
    ∃ s0, run (initAtom fr) (initStep fr cw) Gen.forcing_init_seq (FSt.blank z) = some s0 ∧
      Roms.init .stepdiff .next fr = some (s0.roms (-1)) ∧ (LinearW cw → WInv cw s0) := by
  refine Exists.intro ?s0 (And.intro ?hrun (And.intro ?hroms ?hW))
  case hrun =>
    delta Gen.forcing_init_seq initAtom initAtom.match_1 initStep initStep.match_1
    rw [Run.run_skip (Run.guardVal_neg (by texts []))]
    iterate 2 rw [Run.run_assign rfl (by texts [])]
    iterate 4 rw [Run.run_assign (Run.guardVal_pos (by texts [hp])) (by texts [hp, hn])]
    rw [Run.run_assign ((Run.guardVal_cons_pos (by texts [hp])).trans (Run.guardVal_pos (by texts []))) (by texts [])]
    iterate 9 rw [Run.run_assign (Run.guardVal_pos (by texts [hp])) (by texts [])]
    iterate 3 rw [Run.run_assign ((Run.guardVal_cons_pos (by texts [hp])).trans (Run.guardVal_pos (by texts [])))
        (by texts [])]
    iterate 18 rw [Run.run_skip (Run.guardVal_cons_neg (by texts [hp]))]
    rw [Run.run_assign rfl (by texts []), Run.run_nil]
  case hroms =>
    have e : p + (nx - p) = nx := by omega
    simp only [Roms.init, hp, hn, e]
    rfl
  case hW =>
    intro hl
    simp [WInv, hl.sub, hl.div, hl.smul]

/-- the simulation starts on the first frame, and there is a second one -/
theorem forcing_init_on_frame (fr : Roms.Frames α) (cw : α → α) (z : α) (s1 : Int) (rest : List Int)
    (hp : Roms.prestepOf fr.steps = none) (hs : fr.steps = 0 :: s1 :: rest) :
    ∃ s0, run (initAtom fr) (initStep fr cw) Gen.forcing_init_seq (FSt.blank z) = some s0 ∧
      Roms.init .stepdiff .next fr = some (s0.roms (-1)) ∧ (LinearW cw → WInv cw s0) := by
  refine Exists.intro ?s0 (And.intro ?hrun (And.intro ?hroms ?hW))
  case hrun =>
    delta Gen.forcing_init_seq initAtom initAtom.match_1 initStep initStep.match_1
    rw [Run.run_skip (Run.guardVal_neg (by texts []))]
    iterate 2 rw [Run.run_assign rfl (by texts [])]
    iterate 17 rw [Run.run_skip (Run.guardVal_cons_neg (by texts [hp]))]
    iterate 13 rw [Run.run_assign ((Run.guardVal_cons_pos (by texts [hp])).trans (Run.guardVal_pos (by texts [hs])))
        (by texts [hs])]
    iterate 4 rw [Run.run_assign ((Run.guardVal_cons_pos (by texts [hp])).trans ((Run.guardVal_cons_pos
        (by texts [hs])).trans (Run.guardVal_pos (by texts [])))) (by texts [hs])]
    rw [Run.run_skip ((Run.guardVal_cons_pos (by texts [hp])).trans (Run.guardVal_neg (by texts [hs]))),
      Run.run_assign rfl (by texts []), Run.run_nil]
  case hroms =>
    simp only [Roms.init, hp]
    simp only [hs]
    rfl
  case hW =>
    intro hl
    simp [WInv, hl.sub, hl.div]

theorem forcing_init (fr : Roms.Frames α) (cw : α → α) (z : α) :
    (run (initAtom fr) (initStep fr cw) Gen.forcing_init_seq (FSt.blank z)).map (fun r => r.roms (-1))
      = Roms.init .stepdiff .next fr := by
  cases hp : Roms.prestepOf fr.steps with
  | some p =>
    cases hn : Roms.nextStep fr.steps p with
    | none =>
      have hi : Roms.init .stepdiff .next fr = none := by simp only [Roms.init, hp, hn]
      rw [hi]
      delta Gen.forcing_init_seq initAtom initAtom.match_1 initStep initStep.match_1
      rw [Run.run_skip (Run.guardVal_neg (by texts []))]
      iterate 2 rw [Run.run_assign rfl (by texts [])]
      rw [Run.run_assign (Run.guardVal_pos (by texts [hp])) (by texts [hp]),
        Run.run_fail (Run.guardVal_pos (by texts [hp])) (by texts []) (by texts [hn])]
      rfl
    | some nx =>
      obtain ⟨s0, hrun, hroms, _⟩ := forcing_init_prestep fr cw z p nx hp hn
      rw [hrun, hroms]; rfl
  | none =>
    cases hb : fr.steps.head? == some 0 with
    | false =>
      have hi : Roms.init .stepdiff .next fr = none := by
        rcases hs : fr.steps with _ | ⟨a, _ | ⟨b, rest⟩⟩ <;> simp_all [Roms.init]
      rw [hi]
      delta Gen.forcing_init_seq initAtom initAtom.match_1 initStep initStep.match_1
      rw [Run.run_skip (Run.guardVal_neg (by texts []))]
      iterate 2 rw [Run.run_assign rfl (by texts [])]
      iterate 17 rw [Run.run_skip (Run.guardVal_cons_neg (by texts [hp]))]
      iterate 17 rw [Run.run_skip ((Run.guardVal_cons_pos (by texts [hp])).trans (Run.guardVal_cons_neg
          (by texts [hb])))]
      rw [Run.run_fail ((Run.guardVal_cons_pos (by texts [hp])).trans (Run.guardVal_pos (by texts [hb]))) (by texts [])
          (by texts [])]
      rfl
    | true =>
      rcases hs : fr.steps with _ | ⟨a, _ | ⟨b, rest⟩⟩
      · simp [hs] at hb
      · have ha : a = 0 := by simpa [hs] using hb
        subst ha
        have hi : Roms.init .stepdiff .next fr = none := by simp only [Roms.init, hp]; simp only [hs]
        rw [hi]
        delta Gen.forcing_init_seq initAtom initAtom.match_1 initStep initStep.match_1
        rw [Run.run_skip (Run.guardVal_neg (by texts []))]
        iterate 2 rw [Run.run_assign rfl (by texts [])]
        iterate 17 rw [Run.run_skip (Run.guardVal_cons_neg (by texts [hp]))]
        iterate 2 rw [Run.run_assign ((Run.guardVal_cons_pos (by texts [hp])).trans (Run.guardVal_pos (by texts [hs])))
            (by texts [hs])]
        rw [Run.run_fail ((Run.guardVal_cons_pos (by texts [hp])).trans (Run.guardVal_pos (by texts [hs])))
            (by texts []) (by texts [hs])]
        rfl
      · have ha : a = 0 := by simpa [hs] using hb
        subst ha
        obtain ⟨s0, hrun, hroms, _⟩ := forcing_init_on_frame fr cw z b rest hp hs
        rw [hrun, hroms]; rfl

theorem forcing_step_W (fr : Roms.Frames α) (cw : α → α) (hl : LinearW cw) (t : Int) (s : FSt α) (h : WInv cw s) :
    WInv cw (stepExplicit fr cw t s) := by
  obtain ⟨hW, hWn, hdW⟩ := h
  unfold stepExplicit WInv
  cases h1 : fr.steps.contains (t - 1) <;> cases h2 : fr.steps.contains t <;>
    cases hn : Roms.nextStep fr.steps (t - 1) <;>
    simp_all [hl.add, hl.sub, hl.div]

/-- … at every step of every schedule: `Forcing.update` runs `_update_one_step` for consecutive steps -/
theorem forcing_steps_W (fr : Roms.Frames α) (cw : α → α) (hl : LinearW cw) (n : Nat) (start : Int) (s : FSt α)
    (h : WInv cw s) : WInv cw (stepsExplicit fr cw s start n) := by
  induction n generalizing s start with
  | zero => simpa [stepsExplicit] using h
  | succ n ih => exact ih _ _ (forcing_step_W fr cw hl start s h)

end Bridge
