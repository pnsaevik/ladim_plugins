import LadimProofs.Bridge.Runners
import LadimProofs.C19
import LadimModel.Post.SettledSeq
/-!
# Bridge (C19) — settled particles: the hand-written last-instance selection *is* the statement sequence of the code

`Gen.settled_particles_seq` (regenerated from `sedimentation/ibm.py :: get_settled_particles` on every run),
interpreted statement by statement (`LadimModel/Post/SettledSeq.lean`: `np.unique(np.flip(pid), return_index=True)`,
`len - right_index - 1`, gather of the particle variables at `pid` and of the instance variables at `pinst`), selects
exactly `Post.settled pids`; and `Post.settled pids` is characterised completely over lists of naturals: its pids are
the pids that occur, strictly ascending (each exactly once, no other), and `(p, i)` is a row iff `i` is the largest
index with `pids[i] = p`.
-/
open Ladim Ladim.Post Ladim.Seq Ladim.Table

namespace Bridge

/-! ## lists of naturals -/

/-- a strictly increasing list is determined by its members -/
theorem sorted_ext : ∀ (l₁ l₂ : List Nat), l₁.Pairwise (· < ·) → l₂.Pairwise (· < ·) →
    (∀ q, q ∈ l₁ ↔ q ∈ l₂) → l₁ = l₂
  | [], [], _, _, _ => rfl
  | [], b :: bs, _, _, h => absurd ((h b).2 (by simp)) (by simp)
  | a :: as, [], _, _, h => absurd ((h a).1 (by simp)) (by simp)
  | a :: as, b :: bs, h₁, h₂, h => by
    rw [List.pairwise_cons] at h₁ h₂
    have hab : a = b := by
      have ha := (h a).1 (by simp)
      have hb := (h b).2 (by simp)
      simp only [List.mem_cons] at ha hb
      rcases ha with ha | ha
      · exact ha
      · rcases hb with hb | hb
        · exact hb.symm
        · have := h₁.1 b hb; have := h₂.1 a ha; omega
    subst hab
    congr 1
    apply sorted_ext as bs h₁.2 h₂.2
    intro q
    constructor
    · intro hq
      have hm := (h q).1 (List.mem_cons_of_mem _ hq)
      simp only [List.mem_cons] at hm
      rcases hm with rfl | hm
      · exact absurd (h₁.1 q hq) (by omega)
      · exact hm
    · intro hq
      have hm := (h q).2 (List.mem_cons_of_mem _ hq)
      simp only [List.mem_cons] at hm
      rcases hm with rfl | hm
      · exact absurd (h₂.1 q hq) (by omega)
      · exact hm

/-- `np.unique` does not see the order of the array: flipping changes nothing -/
theorem uniquePids_reverse (pids : List Nat) : uniquePids pids.reverse = uniquePids pids := by
  have h₁ := C19.uniquePids_spec pids.reverse
  have h₂ := C19.uniquePids_spec pids
  apply sorted_ext _ _ h₁.1 h₂.1
  intro q
  rw [h₁.2, h₂.2, List.mem_reverse]

theorem filterMap_eq_map_of_some {β γ : Type} (f : β → Option γ) (g : β → γ) :
    ∀ (l : List β), (∀ x ∈ l, f x = some (g x)) → l.filterMap f = l.map g
  | [], _ => rfl
  | x :: xs, h => by
    rw [List.filterMap_cons, h x (by simp), List.map_cons,
      filterMap_eq_map_of_some f g xs (fun y hy => h y (List.mem_cons_of_mem _ hy))]

theorem zip_map_self {β γ : Type} (g : β → γ) : ∀ (l : List β), l.zip (l.map g) = l.map (fun p => (p, g p))
  | [] => rfl
  | x :: xs => by rw [List.map_cons, List.zip_cons_cons, zip_map_self g xs, List.map_cons]

/-- index of the last occurrence, as the code computes it: `len - (first occurrence in the flipped array) - 1` -/
def lastIdx (pids : List Nat) (p : Nat) : Nat := pids.length - pids.reverse.findIdx (· == p) - 1

theorem lastIndex_of_mem (pids : List Nat) (p : Nat) (h : p ∈ pids) : lastIndex pids p = some (lastIdx pids p) := by
  unfold lastIndex lastIdx
  rw [List.findIdx?_eq_some_of_exists ⟨p, List.mem_reverse.2 h, by simp⟩]
  rfl

/-- the model's selection without the option: one row per distinct pid -/
theorem settled_eq_map (pids : List Nat) : settled pids = (uniquePids pids).map (fun p => (p, lastIdx pids p)) := by
  unfold settled
  apply filterMap_eq_map_of_some
  intro p hp
  rw [lastIndex_of_mem pids p (((C19.uniquePids_spec pids).2 p).1 hp)]
  rfl

/-! ## the model's selection, characterised (self-contained, over lists of naturals) -/

/-- the pids of the selection are the sorted distinct pids of the file -/
theorem settled_pids (pids : List Nat) : (settled pids).map (·.1) = uniquePids pids := by
  rw [settled_eq_map, List.map_map]
  exact (List.map_congr_left (fun _ _ => rfl)).trans (List.map_id _)

/-- pids ascending (strictly: no pid twice) -/
theorem settled_ascending (pids : List Nat) : ((settled pids).map (·.1)).Pairwise (· < ·) := by
  rw [settled_pids]; exact (C19.uniquePids_spec pids).1

/-- the pids of the selection are exactly the pids that occur: no pid is lost, no other pid appears -/
theorem settled_mem_pid (pids : List Nat) (p : Nat) : p ∈ (settled pids).map (·.1) ↔ p ∈ pids := by
  rw [settled_pids]; exact (C19.uniquePids_spec pids).2 p

theorem count_of_sorted (p : Nat) : ∀ (l : List Nat), l.Pairwise (· < ·) → p ∈ l → l.count p = 1
  | [], _, h => absurd h (by simp)
  | x :: xs, hs, h => by
    rw [List.pairwise_cons] at hs
    by_cases hx : x = p
    · subst hx
      have : x ∉ xs := fun hm => absurd (hs.1 x hm) (by omega)
      rw [List.count_cons_self, List.count_eq_zero_of_not_mem this]
    · have hm : p ∈ xs := by
        simp only [List.mem_cons] at h
        rcases h with h | h
        · exact absurd h.symm hx
        · exact h
      rw [List.count_cons_of_ne hx, count_of_sorted p xs hs.2 hm]

/-- every occurring pid appears exactly once -/
theorem settled_once (pids : List Nat) (p : Nat) (h : p ∈ pids) : ((settled pids).map (·.1)).count p = 1 :=
  count_of_sorted p _ (settled_ascending pids) ((settled_mem_pid pids p).2 h)

/-- no other pid appears -/
theorem settled_no_other (pids : List Nat) (p : Nat) (h : p ∉ pids) : ((settled pids).map (·.1)).count p = 0 :=
  List.count_eq_zero_of_not_mem (fun hm => h ((settled_mem_pid pids p).1 hm))

/-- `i` is the largest index with pid `p` -/
def IsLast (pids : List Nat) (p i : Nat) : Prop :=
  ∃ (hi : i < pids.length), pids[i] = p ∧ ∀ j (hj : j < pids.length), i < j → pids[j] ≠ p

theorem isLast_unique (pids : List Nat) (p i j : Nat) (hi : IsLast pids p i) (hj : IsLast pids p j) : i = j := by
  obtain ⟨hil, hie, hia⟩ := hi
  obtain ⟨hjl, hje, hja⟩ := hj
  rcases Nat.lt_trichotomy i j with h | h | h
  · exact absurd hje (hia j hjl h)
  · exact h
  · exact absurd hie (hja i hil h)

theorem lastIdx_isLast (pids : List Nat) (p : Nat) (h : p ∈ pids) : IsLast pids p (lastIdx pids p) :=
  C19.settled_is_last_instance pids p _ (lastIndex_of_mem pids p h)

/-- the rows of the selection: `(p, i)` is a row iff `i` is the largest index with `pids[i] = p` (instance 0
included).  With `settled_ascending` this determines the list. -/
theorem mem_settled_iff (pids : List Nat) (p i : Nat) : (p, i) ∈ settled pids ↔ IsLast pids p i := by
  rw [settled_eq_map, List.mem_map]
  constructor
  · rintro ⟨q, hq, he⟩
    have hqp : q = p := congrArg Prod.fst he
    have hi : lastIdx pids q = i := congrArg Prod.snd he
    subst hqp; subst hi
    exact lastIdx_isLast pids q (((C19.uniquePids_spec pids).2 q).1 hq)
  · intro hl
    have hp : p ∈ pids := by
      obtain ⟨hil, hie, _⟩ := hl
      exact hie ▸ List.getElem_mem hil
    refine ⟨p, ((C19.uniquePids_spec pids).2 p).2 hp, ?_⟩
    rw [isLast_unique pids p _ _ (lastIdx_isLast pids p hp) hl]

/-- every occurring pid has exactly one row, the row of its last occurrence -/
theorem settled_row_unique (pids : List Nat) (p : Nat) (h : p ∈ pids) :
    ∃ i, (p, i) ∈ settled pids ∧ IsLast pids p i ∧ ∀ i', (p, i') ∈ settled pids → i' = i :=
  ⟨lastIdx pids p, (mem_settled_iff pids p _).2 (lastIdx_isLast pids p h), lastIdx_isLast pids p h,
    fun i' hi' => isLast_unique pids p _ _ ((mem_settled_iff pids p i').1 hi') (lastIdx_isLast pids p h)⟩

/-- the selected index is the largest index with that pid -/
theorem settled_last (pids : List Nat) (p i : Nat) (h : (p, i) ∈ settled pids) (j : Nat)
    (hj : pids[j]? = some p) : j ≤ i := by
  obtain ⟨_, _, ha⟩ := (mem_settled_iff pids p i).1 h
  obtain ⟨hjl, hje⟩ := List.getElem?_eq_some_iff.1 hj
  by_contra hc
  exact ha j hjl (by omega) hje

/-! ## gather -/

theorem gather_eq_some_iff {β : Type} (v : List β) : ∀ (idx : List Nat) (w : List β),
    gather v idx = some w ↔ idx.map (fun i => v[i]?) = w.map some
  | [], w => by
    cases w <;> simp [gather]
  | i :: idx, w => by
    have ih := gather_eq_some_iff v idx
    unfold gather at ih ⊢
    rw [List.mapM_cons]
    cases hi : v[i]? with
    | none =>
      cases w <;> simp [hi]
    | some a =>
      cases hm : List.mapM (fun i => v[i]?) idx with
      | none =>
        cases w with
        | nil => simp
        | cons b w' =>
          have := (ih w').not.1 (by rw [hm]; simp)
          simp [hi, this]
      | some w₀ =>
        have h₀ := (ih w₀).1 hm
        cases w with
        | nil => simp
        | cons b w' =>
          simp only [hi, Option.pure_def, Option.bind_eq_bind, Option.bind_some, Option.some.injEq,
            List.cons.injEq, List.map_cons, h₀]
          constructor
          · rintro ⟨rfl, rfl⟩; exact ⟨rfl, rfl⟩
          · rintro ⟨rfl, hw⟩
            exact ⟨rfl, List.map_injective_iff.2 (Option.some_injective _) hw⟩

theorem gather_isSome_iff {β : Type} (v : List β) : ∀ (idx : List Nat),
    (gather v idx).isSome ↔ ∀ i ∈ idx, i < v.length
  | [] => by simp [gather]
  | i :: idx => by
    have ih := gather_isSome_iff v idx
    unfold gather at ih ⊢
    rw [List.mapM_cons]
    by_cases hi : i < v.length
    · rw [List.getElem?_eq_getElem hi]
      cases hm : List.mapM (fun i => v[i]?) idx with
      | none =>
        rw [hm] at ih
        simp only [Option.isSome_none, Bool.false_eq_true, false_iff] at ih
        simp only [Option.pure_def, Option.bind_eq_bind, Option.bind_some, Option.bind_none, Option.isSome_none,
          Bool.false_eq_true, List.mem_cons, forall_eq_or_imp, false_iff]
        exact fun h => ih h.2
      | some w =>
        rw [hm] at ih
        simp only [Option.isSome_some, true_iff] at ih
        simp only [Option.pure_def, Option.bind_eq_bind, Option.bind_some, Option.isSome_some, List.mem_cons,
          forall_eq_or_imp, true_iff]
        exact ⟨hi, ih⟩
    · rw [List.getElem?_eq_none (by omega)]
      simp only [Option.bind_eq_bind, Option.bind_none, Option.isSome_none, Bool.false_eq_true, List.mem_cons,
        forall_eq_or_imp, false_iff]
      exact fun h => hi h.1

theorem gatherVars_isSome_iff {β : Type} (d : VDim) (idx : List Nat) : ∀ (vars : List (String × VDim × List β)),
    (gatherVars vars d idx).isSome ↔ ∀ kv ∈ vars, kv.2.1 = d → ∀ i ∈ idx, i < kv.2.2.length
  | [] => by simp [gatherVars]
  | kv :: vars => by
    have ih := gatherVars_isSome_iff d idx vars
    unfold gatherVars at ih ⊢
    by_cases hd : kv.2.1 = d
    · have hb : (kv.2.1 == d) = true := by simpa using hd
      have hfl : List.filter (fun kv : String × VDim × List β => kv.2.1 == d) (kv :: vars)
          = kv :: List.filter (fun kv => kv.2.1 == d) vars := by rw [List.filter_cons]; simp only [hb, if_true]
      rw [hfl, List.mapM_cons]
      have hg := gather_isSome_iff kv.2.2 idx
      cases hk : gather kv.2.2 idx with
      | none =>
        rw [hk] at hg
        simp only [Option.isSome_none, Bool.false_eq_true, false_iff] at hg
        simp only [Option.map_none, Option.bind_eq_bind, Option.bind_none, Option.isSome_none, Bool.false_eq_true,
          List.mem_cons, forall_eq_or_imp, false_iff]
        exact fun h => hg (h.1 hd)
      | some w =>
        rw [hk] at hg
        simp only [Option.isSome_some, true_iff] at hg
        simp only [Option.map_some, Option.pure_def, Option.bind_eq_bind, Option.bind_some, List.mem_cons,
          forall_eq_or_imp]
        cases hm : List.mapM (fun kv : String × VDim × List β => Option.map (fun w => (kv.1, w)) (gather kv.2.2 idx))
            (List.filter (fun kv => kv.2.1 == d) vars) with
        | none =>
          rw [hm] at ih
          simp only [Option.isSome_none, Bool.false_eq_true, false_iff] at ih
          simp only [Option.bind_none, Option.isSome_none, Bool.false_eq_true, false_iff]
          exact fun h => ih h.2
        | some r =>
          rw [hm] at ih
          simp only [Option.isSome_some, true_iff] at ih
          simp only [Option.bind_some, Option.isSome_some, true_iff]
          exact ⟨fun _ => hg, ih⟩
    · have hb : ¬ (kv.2.1 == d) = true := by simpa using hd
      have hfl : List.filter (fun kv : String × VDim × List β => kv.2.1 == d) (kv :: vars)
          = List.filter (fun kv => kv.2.1 == d) vars := by rw [List.filter_cons]; simp only [hb]; rfl
      rw [hfl, ih]
      simp only [List.mem_cons, forall_eq_or_imp]
      exact ⟨fun h => ⟨fun h' => absurd h' hd, h⟩, fun h => h.2⟩

/-- the instance variable `pid` itself, gathered at the selected instances, is the coordinate `pid`: the entry
`dict(pid=pid)` of `all_vars`, its override by `pinst_vars['pid']` and the final `assign_coords(pid=pid)` agree -/
theorem gather_pid {β : Type} (ofPid : Nat → β) (pids : List Nat) :
    gather (pids.map ofPid) ((settled pids).map (·.2)) = some (((settled pids).map (·.1)).map ofPid) := by
  rw [gather_eq_some_iff, List.map_map, List.map_map, List.map_map]
  apply List.map_congr_left
  rintro ⟨p, i⟩ h
  obtain ⟨hi, he, _⟩ := (mem_settled_iff pids p i).1 h
  simp [hi, he]

/-! ## the statement sequence -/

section
variable {β : Type}

/-- the run on given results of `np.unique(.., return_index=True)` (`pid`, `ri`) and the resulting `pinst` -/
def outcomeOf (ofPid : Nat → β) (vars : List (String × VDim × List β)) (pid ri pinst : List Nat) :
    Option (SetSt β) :=
  match gatherVars vars .particle pid with
  | none => none
  | some f =>
    match gatherVars vars .particleInstance pinst with
    | none => none
    | some g =>
      some ⟨pid, ri, pinst, f, g, dictMerge (dictMerge [("pid", pid.map ofPid)] f) g,
        some ⟨pid, dictMerge (dictMerge (dictMerge [("pid", pid.map ofPid)] f) g) [("pid", pid.map ofPid)]⟩⟩

/-- what the code computes: the final values of the local variables of `get_settled_particles`; `none` = `IndexError`
(a particle variable shorter than some pid, or an instance variable shorter than some selected index) -/
def settledOutcome (ofPid : Nat → β) (pids : List Nat) (vars : List (String × VDim × List β)) : Option (SetSt β) :=
  outcomeOf ofPid vars ((settled pids).map (·.1))
    (((settled pids).map (·.1)).map (fun p => pids.reverse.findIdx (· == p))) ((settled pids).map (·.2))

theorem unique_flip (pids : List Nat) : (npUniqueIndex pids.reverse).1 = (settled pids).map (·.1) := by
  rw [settled_pids]; exact uniquePids_reverse pids

theorem pinst_eq (pids : List Nat) :
    ((npUniqueIndex pids.reverse).2).map (fun i => pids.length - i - 1) = (settled pids).map (·.2) := by
  show ((uniquePids pids.reverse).map _).map _ = _
  rw [uniquePids_reverse, settled_eq_map, List.map_map, List.map_map]
  rfl

theorem rightIndex_eq (pids : List Nat) :
    (npUniqueIndex pids.reverse).2 = ((settled pids).map (·.1)).map (fun p => pids.reverse.findIdx (· == p)) := by
  show (uniquePids pids.reverse).map _ = _
  rw [uniquePids_reverse, settled_pids]

/-- the statements, run on whatever `np.unique` returns -/
theorem settled_particles_raw (ofPid : Nat → β) (pids : List Nat) (vars : List (String × VDim × List β)) :
    runSettledSt ofPid pids vars Gen.settled_particles_seq =
      some (outcomeOf ofPid vars (npUniqueIndex pids.reverse).1 (npUniqueIndex pids.reverse).2
        ((npUniqueIndex pids.reverse).2.map (fun i => pids.length - i - 1))) := by
  simp only [runSettledSt, Gen.settled_particles_seq, Run.runStrictRet_exec, Run.guardVal_nil, setStep.eq_def,
    String.reduceEq, ↓reduceIte, SetSt.init, outcomeOf]
  cases gatherVars vars .particle (npUniqueIndex pids.reverse).1 with
  | none => eq_refl
  | some f =>
    simp only
    cases gatherVars vars .particleInstance ((npUniqueIndex pids.reverse).2.map (fun i => pids.length - i - 1)) <;>
      eq_refl

/-- **`get_settled_particles`, statement by statement, is the hand-written last-instance selection**: the run of the
generated sequence ends with `pid` = the pids of `Post.settled pids`, `pinst` = its instance indices, the particle
variables gathered at `pid`, the instance variables gathered at `pinst`, and returns the data set built from them;
it raises exactly when a gather is out of range.  No hypotheses. -/
theorem settled_particles_run (ofPid : Nat → β) (pids : List Nat) (vars : List (String × VDim × List β)) :
    runSettledSt ofPid pids vars Gen.settled_particles_seq = some (settledOutcome ofPid pids vars) := by
  rw [settled_particles_raw, pinst_eq, unique_flip, rightIndex_eq, settledOutcome]

/-- the selection of the code (`pid` zipped with `pinst`, in the order of the result) is `Post.settled` -/
theorem settled_particles_index (pids : List Nat) :
    runSettledIndex pids Gen.settled_particles_seq = some (some (settled pids)) := by
  rewrite [runSettledIndex, settled_particles_run]
  have hz : ∀ (l : List (Nat × Nat)), (l.map (·.1)).zip (l.map (·.2)) = l := fun l => by
    induction l with
    | nil => rfl
    | cons x xs ih => rw [List.map_cons, List.map_cons, List.zip_cons_cons, ih]
  simp only [settledOutcome, outcomeOf, gatherVars, List.filter_nil, List.mapM_nil, Option.pure_def, hz]

/-- the selection, in any run that returns: `pid` zipped with `pinst` is `Post.settled`, and the coordinate of the
returned data set is `pid` -/
theorem settled_particles_sel (ofPid : Nat → β) (pids : List Nat) (vars : List (String × VDim × List β)) (s : SetSt β)
    (h : runSettledSt ofPid pids vars Gen.settled_particles_seq = some (some s)) :
    s.pid.zip s.pinst = settled pids ∧ (s.ret.map (·.pid)) = some ((settled pids).map (·.1)) := by
  have hz : ∀ (l : List (Nat × Nat)), (l.map (·.1)).zip (l.map (·.2)) = l := fun l => by
    induction l with
    | nil => rfl
    | cons x xs ih => rw [List.map_cons, List.map_cons, List.zip_cons_cons, ih]
  rw [settled_particles_run, settledOutcome, outcomeOf] at h
  cases hf : gatherVars vars .particle ((settled pids).map (·.1)) with
  | none => rw [hf] at h; simp at h
  | some f =>
    cases hg : gatherVars vars .particleInstance ((settled pids).map (·.2)) with
    | none => rw [hf, hg] at h; simp at h
    | some g =>
      rw [hf, hg] at h
      simp only [Option.some.injEq] at h
      subst h
      exact ⟨hz _, rfl⟩

/-- **the returned data set**: coordinate `pid` = the pids of `Post.settled pids`; variables = `pid`, the particle
variables at those pids, the instance variables at the selected (last) instances — merged as Python dicts, `pid` set
to the coordinate; `some none` (`IndexError`) when a gather is out of range.  No hypotheses. -/
theorem settled_particles (ofPid : Nat → β) (pids : List Nat) (vars : List (String × VDim × List β)) :
    runSettled ofPid pids vars Gen.settled_particles_seq =
      some (match gatherVars vars .particle ((settled pids).map (·.1)),
                  gatherVars vars .particleInstance ((settled pids).map (·.2)) with
        | some f, some g =>
          some ⟨(settled pids).map (·.1),
            dictMerge (dictMerge (dictMerge [("pid", ((settled pids).map (·.1)).map ofPid)] f) g)
              [("pid", ((settled pids).map (·.1)).map ofPid)]⟩
        | _, _ => none) := by
  unfold runSettled
  rw [settled_particles_run, settledOutcome, outcomeOf]
  cases gatherVars vars .particle ((settled pids).map (·.1)) with
  | none => rfl
  | some f =>
    cases gatherVars vars .particleInstance ((settled pids).map (·.2)) with
    | none => rfl
    | some g => rfl

/-- the code returns (no `IndexError`) iff the particle table covers every pid of the file and every instance
variable covers every selected instance -/
theorem settled_particles_returns_iff (ofPid : Nat → β) (pids : List Nat) (vars : List (String × VDim × List β)) :
    (∃ d, runSettled ofPid pids vars Gen.settled_particles_seq = some (some d)) ↔
      (∀ kv ∈ vars, kv.2.1 = .particle → ∀ p ∈ pids, p < kv.2.2.length) ∧
      (∀ kv ∈ vars, kv.2.1 = .particleInstance → ∀ pi ∈ settled pids, pi.2 < kv.2.2.length) := by
  have h1 := gatherVars_isSome_iff .particle ((settled pids).map (·.1)) vars
  have h2 := gatherVars_isSome_iff .particleInstance ((settled pids).map (·.2)) vars
  have e1 : (∀ kv ∈ vars, kv.2.1 = .particle → ∀ p ∈ pids, p < kv.2.2.length) ↔
      (∀ kv ∈ vars, kv.2.1 = .particle → ∀ p ∈ (settled pids).map (·.1), p < kv.2.2.length) := by
    simp only [settled_mem_pid]
  have e2 : (∀ kv ∈ vars, kv.2.1 = .particleInstance → ∀ pi ∈ settled pids, pi.2 < kv.2.2.length) ↔
      (∀ kv ∈ vars, kv.2.1 = .particleInstance → ∀ i ∈ (settled pids).map (·.2), i < kv.2.2.length) := by
    simp only [List.mem_map, forall_exists_index, and_imp, forall_apply_eq_imp_iff₂]
  rw [e1, e2, ← h1, ← h2, settled_particles]
  cases gatherVars vars .particle ((settled pids).map (·.1)) with
  | none => simp
  | some f =>
    cases gatherVars vars .particleInstance ((settled pids).map (·.2)) with
    | none => simp
    | some g => simp

/-- in particular: instance variables as long as `pid` (they are, in a LADiM file) never raise -/
theorem settled_instance_in_range (pids : List Nat) (pi : Nat × Nat) (h : pi ∈ settled pids) : pi.2 < pids.length := by
  obtain ⟨hi, _, _⟩ := (mem_settled_iff pids pi.1 pi.2).1 h
  exact hi

/-! non-vacuity: repeats; a pid whose last (and only) instance is instance 0; the generated sequence itself, run on
data -/
example : settled [7] = [(7, 0)] := by decide
example : settled [4, 9, 9] = [(4, 0), (9, 2)] := by decide
example : settled ([] : List Nat) = [] := by decide
example : runSettledIndex [3, 1, 3, 2, 1] Gen.settled_particles_seq = some (some [(1, 4), (2, 3), (3, 2)]) :=
  settled_particles_index _

end

end Bridge
