import LadimModel.IBM.MemorySeq
import LadimProofs.Bridge.Runners
/-!
# Bridge (C11 / C10) — land-collision handlers: the hand-written model *is* the statement sequence of the code

`LadimModel/IBM/MemorySeq.lean` interprets the generated statement sequences (guard, kind and text of every statement,
regenerated from the current source) of

* `chemicals/ibm.py :: IBM.reposition / store_position / coastal_diffusion`, `mine/ibm.py :: IBM.reposition`,
* `chemicals/gridforce.py :: is_close_to_land / nearest_unmasked / Grid.is_close_to_land / Grid.nearest_sea`,
* `saithe/ibm.py :: IBM.spread`, `lunar_eel/ibm.py :: IBM.horizontal_advect`;

every statement text (also of `return` expressions, also in branches not taken) must be one the interpreter knows.  The
theorems of the second half of this file (`namespace Bridge`) say that the interpretations are the hand-written model:

* `chem_reposition_seq`, `mine_reposition_seq(_off)`: `np.intersect1d(self.pid, state.pid, return_indices=True)` = the
  model's lookup by pid (`Memory.lookup`), `onland` = `Memory.stuck` (mine: and the current `active` non-zero), re-seeding
  = `Chemicals.reseed` for exactly those; draws in the order of increasing pid, x call first; mine remembers copies.
  Hypothesis: distinct current pids (mine: one `active` entry per particle).
* `chem_store_position_seq`: `Memory.store`, with the `MemKind` that the generated text shows (`alias` = the code as it
  is, F-C11a; `snapshot` = the repair); `decides_effective` links that kind to `Memory.decides`.
* `is_close_to_land_seq` = `Nb.isCloseToLand`, `nearest_unmasked_seq` = `Nb.nearestUnmasked` (centre cell when all nine
  are masked), `chem_grid_close_to_land_seq`, `chem_grid_nearest_sea_seq`: `i0` for `X`, `j0` for `Y`, subtracted
  before rounding.  No hypotheses.
* `chem_coastal_diffusion_seq`: exactly the particles with `Nb.isCloseToLand` are re-seeded (array order of the draws).
* `saithe_spread_seq` (`Swim.saitheStep`), `eel_horizontal_advect_seq` (`Swim.eelStep`): one particle, no hypotheses.

Only the operations of the scalar type are used (no field or order laws, except irreflexivity of `<` in
`decides_effective`): the statements hold for every scalar type, `Float` included.  `namespace Bridge.MemSeq` holds the
lemmas (runner steps, numpy list operations, `maArgmin`, `intersect1d`, scatter / mask-scatter of re-seeded values).

A run is walked statement by statement with the lemmas of `Bridge.Run`; the statement texts are matched as the head of
`Bridge/Runners.lean` describes (the interpreter and its `match` unfolded by `delta f f.match_k`, then `String.reduceEq`).
-/
open Ladim Ladim.Seq Ladim.MemSeq Ladim.Memory Ladim.Nb

set_option linter.unusedSectionVars false
set_option linter.unusedVariables false
set_option linter.unusedSimpArgs false
namespace Bridge.MemSeq

section runner
variable {σ : Type} (atom : σ → String → Option Bool) (step : σ → String → String → Option (Option σ))

theorem run_raise_assign (rest : List Stmt) (s : σ) (t : String) (h : step s "assign" t = some none) :
    runStrictRet atom step (([], "assign", t) :: rest) s = some none :=
  Run.runStrictRet_raise rfl h

section mapped
variable {τ : Type} (f : Option σ → τ)

theorem run_gskip_m (c : String) (rest : List Stmt) (s : σ) (k t : String) (hc : atom s c = some false)
    (h : (step s k t).isSome = true) :
    (runStrictRet atom step (([(true, c)], k, t) :: rest) s).map f = (runStrictRet atom step rest s).map f :=
  congrArg _ (Run.runStrictRet_skip (Run.guardVal_neg hc) h)

end mapped
end runner

section pick
variable {β γ δ : Type} [LT γ] [DecidableLT γ]

theorem pfm_map (g : δ → β) (key : β → γ) (l : List δ) :
    pickFirstMin key (l.map g) = (pickFirstMin (fun c => key (g c)) l).map g := by
  unfold pickFirstMin
  rw [List.foldl_map]
  suffices h : ∀ acc : Option δ,
      List.foldl (fun best c => match best with
        | none => some (g c)
        | some b => if key (g c) < key b then some (g c) else some b) (acc.map g) l =
      (List.foldl (fun best c => match best with
        | none => some c
        | some b => if key (g c) < key (g b) then some c else some b) acc l).map g from h none
  induction l with
  | nil => intro acc; rfl
  | cons c cs ih =>
    intro acc
    simp only [List.foldl_cons]
    cases acc with
    | none => exact ih (some c)
    | some b =>
      simp only [Option.map_some]
      by_cases hlt : key (g c) < key (g b)
      · simp only [hlt, if_true]; exact ih (some c)
      · simp only [hlt, if_false]; exact ih (some b)

theorem pfm_mem_aux (key : β → γ) (l : List β) (b : β) : ∀ (acc : Option β), List.foldl (fun best c => match best with
        | none => some c
        | some b => if key c < key b then some c else some b) acc l = some b → b ∈ l ∨ acc = some b := by
  induction l with
  | nil => intro acc hb; exact Or.inr hb
  | cons c cs ih =>
    intro acc hb
    simp only [List.foldl_cons] at hb
    cases acc with
    | none =>
      rcases ih _ hb with h1 | h1
      · exact Or.inl (List.mem_cons_of_mem _ h1)
      · simp only [Option.some.injEq] at h1; subst h1; exact Or.inl (by simp)
    | some a =>
      by_cases hlt : key c < key a
      · simp only [hlt, if_true] at hb
        rcases ih _ hb with h1 | h1
        · exact Or.inl (List.mem_cons_of_mem _ h1)
        · simp only [Option.some.injEq] at h1; subst h1; exact Or.inl (by simp)
      · simp only [hlt, if_false] at hb
        rcases ih _ hb with h1 | h1
        · exact Or.inl (List.mem_cons_of_mem _ h1)
        · exact Or.inr h1

theorem pfm_mem (key : β → γ) (l : List β) (b : β) (h : pickFirstMin key l = some b) : b ∈ l := by
  rcases pfm_mem_aux key l b none h with h1 | h1
  · exact h1
  · cases h1

theorem argminFirst_eq {α : Type} [LT α] [DecidableLT α] (l : List ((Int × Int) × α)) :
    argminFirst l = pickFirstMin (fun e => e.2) l := by
  unfold argminFirst pickFirstMin
  congr 1
  funext best c
  cases best <;> rfl

/-- the masked `argmin` picks the cell that "filter the unmasked cells, then take the first minimum" picks; the first
cell when all are masked -/
theorem maArgmin_spec (c0 : β) (C' : List β) (D : β → γ) (Mk : β → Bool) :
    (c0 :: C')[maArgmin ((c0 :: C').map D) ((c0 :: C').map Mk)]? =
      some (((pickFirstMin (fun e : β × γ => e.2) (((c0 :: C').filter (fun c => !Mk c)).map (fun c => (c, D c)))).map
        (fun e => e.1)).getD c0) := by
  generalize hC : c0 :: C' = C
  have hz : ((C.map D).zip (C.map Mk)).zipIdx = C.zipIdx.map (fun e => ((D e.1, Mk e.1), e.2)) := by
    rw [List.zip_map', List.zipIdx_map]; rfl
  have hf : (C.filter (fun c => !Mk c)) = (C.zipIdx.filter (fun e => !Mk e.1)).map (fun e => e.1) := by
    conv => lhs; rw [← List.zipIdx_map_fst 0 C]
    rw [List.filter_map]; rfl
  unfold maArgmin
  rw [hz, List.filter_map, pfm_map, hf, List.map_map, pfm_map, Option.map_map]
  simp only [Function.comp_def]
  cases hr : pickFirstMin (fun c : β × Nat => D c.1) (C.zipIdx.filter (fun e => !Mk e.1)) with
  | none => simp [← hC]
  | some e =>
    have hm := pfm_mem _ _ _ hr
    rw [List.mem_filter] at hm
    have := List.mem_zipIdx_iff_getElem?.mp hm.1
    simpa using this

end pick

section nb
variable {α : Type} [Add α] [Sub α] [Mul α] [LT α] [DecidableLT α] [HasRound α] [HasTrunc α] [HasOfInt α]

theorem clamp_minmax (n : Nat) (a : Int) : min ((n : Int) - 1) (max 0 a) = clampI n a := by
  unfold clampI; omega

theorem is_close_to_land (M : Mask) (i j : α) :
    isCloseToLandSeq M i j =
      some (some (isCloseToLand ⟨M.rows, M.cols, fun b a => !M.val b a⟩ (trunc (round i)) (trunc (round j)))) := by
  delta isCloseToLandSeq Gen.is_close_to_land_seq closeStep closeStep.match_1
  iterate 8 rw [Run.runStrictRet_assign rfl (by simp only [String.reduceEq, ↓reduceDIte]; rfl)]
  rw [Run.runStrictRet_return rfl (by simp only [String.reduceEq, ↓reduceDIte]; rfl)]
  simp only [returned, Option.map_some, isCloseToLand, stencil8, CloseSt.init, List.map_cons, List.map_nil, List.zipWith,
    clamp_minmax, List.any_cons, List.any_nil, id]

/-- the last four statements of `nearest_unmasked`, from a state whose neighbour lists are the two coordinates of
`cells`: the cell at the masked `argmin` is returned -/
theorem nearest_tail (s : NearSt α) (cells : List (Int × Int)) (d : List α) (m : List Bool) (r : Int × Int)
    (hr : cells[maArgmin d m]? = some r) (hi : s.iNeigh = cells.map (·.1)) (hj : s.jNeigh = cells.map (·.2))
    (hd : s.dist2 = d) (hm : s.masked = m) :
    returned (fun s => s.ret) (runStrictRet noAtom nearStep (Gen.nearest_unmasked_seq.drop 8) s) = some (some r) := by
  subst hd hm
  have h1 : s.iNeigh[maArgmin s.dist2 s.masked]? = some r.1 := by rw [hi, List.getElem?_map, hr]; rfl
  have h2 : s.jNeigh[maArgmin s.dist2 s.masked]? = some r.2 := by rw [hj, List.getElem?_map, hr]; rfl
  delta Gen.nearest_unmasked_seq nearStep nearStep.match_1
  dsimp only [List.drop]
  rw [Run.runStrictRet_assign rfl (by simp only [String.reduceEq, ↓reduceDIte]; rfl),
    Run.runStrictRet_assign rfl (by simp only [String.reduceEq, ↓reduceDIte, h1, Option.map_some]; rfl),
    Run.runStrictRet_assign rfl (by simp only [String.reduceEq, ↓reduceDIte, h2, Option.map_some]; rfl),
    Run.runStrictRet_return rfl (by simp only [String.reduceEq, ↓reduceDIte]; rfl)]
  rfl

theorem nearest_unmasked (M : Mask) (i j : α) :
    nearestUnmaskedSeq M i j =
      some (some ((nearestUnmasked M i j (trunc (round i)) (trunc (round j))).getD
        (clampI M.cols (trunc (round i)), clampI M.rows (trunc (round j))))) := by
  have key := maArgmin_spec (clampI M.cols (trunc (round i) + 0), clampI M.rows (trunc (round j) + 0))
    (stencil9.tail.map (fun d => (clampI M.cols (trunc (round i) + d.1), clampI M.rows (trunc (round j) + d.2))))
    (fun c => dist2 i j c.1 c.2) (fun c => M.val c.2 c.1)
  rw [← argminFirst_eq] at key
  delta nearestUnmaskedSeq
  rw [Run.runStrictRet_split 8 rfl (by
      delta Gen.nearest_unmasked_seq nearStep nearStep.match_1
      dsimp only [List.take]
      iterate 8 rw [Run.runStrictRet_assign rfl (by simp only [String.reduceEq, ↓reduceDIte]; rfl)]
      rfl),
    nearest_tail _ _ _ _ _ key rfl rfl rfl rfl]
  unfold nearestUnmasked stencil9
  simp only [List.map_cons, List.tail_cons, Int.add_zero]

end nb
section uniq

theorem mem_insertUniq (v x : Nat) (l : List Nat) : x ∈ insertUniq v l ↔ x = v ∨ x ∈ l := by
  induction l with
  | nil => simp [insertUniq]
  | cons w ws ih =>
    unfold insertUniq
    by_cases h1 : v < w
    · simp [h1]
    · by_cases h2 : v = w
      · subst h2; simp
      · simp only [h1, h2, if_false, List.mem_cons, ih]
        constructor
        · rintro (h | h | h)
          · exact Or.inr (Or.inl h)
          · exact Or.inl h
          · exact Or.inr (Or.inr h)
        · rintro (h | h | h)
          · exact Or.inr (Or.inl h)
          · exact Or.inl h
          · exact Or.inr (Or.inr h)

theorem pairwise_insertUniq (v : Nat) (l : List Nat) (h : l.Pairwise (· < ·)) : (insertUniq v l).Pairwise (· < ·) := by
  induction l with
  | nil => simp [insertUniq]
  | cons w ws ih =>
    rw [List.pairwise_cons] at h
    unfold insertUniq
    by_cases h1 : v < w
    · simp only [h1, if_true, List.pairwise_cons]
      refine ⟨?_, h.1, h.2⟩
      intro x hx
      rcases List.mem_cons.mp hx with rfl | hx
      · exact h1
      · exact Nat.lt_trans h1 (h.1 x hx)
    · by_cases h2 : v = w
      · subst h2; simp only [Nat.lt_irrefl, if_false, if_true, List.pairwise_cons]; exact h
      · simp only [h1, h2, if_false, List.pairwise_cons]
        refine ⟨?_, ih h.2⟩
        intro x hx
        rcases (mem_insertUniq v x ws).mp hx with rfl | hx
        · omega
        · exact h.1 x hx

theorem mem_sortUniq (x : Nat) (l : List Nat) : x ∈ sortUniq l ↔ x ∈ l := by
  unfold sortUniq
  induction l with
  | nil => simp
  | cons a as ih => simp only [List.foldr_cons, mem_insertUniq, ih, List.mem_cons]

theorem pairwise_sortUniq (l : List Nat) : (sortUniq l).Pairwise (· < ·) := by
  unfold sortUniq
  induction l with
  | nil => simp
  | cons a as ih => exact pairwise_insertUniq a _ ih

end uniq

section lists
variable {β γ δ : Type}

theorem mapOpt_eq_some (f : β → Option γ) (g : β → γ) (l : List β) (h : ∀ b ∈ l, f b = some (g b)) :
    mapOpt f l = some (l.map g) := by
  induction l with
  | nil => rfl
  | cons b bs ih =>
    have h1 := h b (by simp)
    have h2 := ih (fun c hc => h c (List.mem_cons_of_mem _ hc))
    simp [mapOpt, h1, h2]

theorem idxOf_getElem_nodup (l : List Nat) (hn : l.Nodup) (j : Nat) (hj : j < l.length) : l.idxOf l[j] = j := by
  induction l generalizing j with
  | nil => simp at hj
  | cons a as ih =>
    rw [List.nodup_cons] at hn
    cases j with
    | zero => simp
    | succ j =>
      simp only [List.getElem_cons_succ, List.idxOf_cons]
      have hj' : j < as.length := by simpa using hj
      have hne : (a == as[j]) = false := by
        rw [beq_eq_false_iff_ne]; intro he; apply hn.1; rw [he]; exact List.getElem_mem hj'
      simp [hne, ih hn.2 j hj']

theorem maskSelect_map (f : β → γ) (dec : β → Bool) (V : List β) :
    maskSelect (V.map f) (V.map dec) = some ((V.filter dec).map f) := by
  unfold maskSelect
  simp only [List.length_map, if_true, Option.some.injEq]
  induction V with
  | nil => rfl
  | cons v vs ih =>
    simp only [List.map_cons, List.zip_cons_cons, List.filter_cons]
    cases dec v <;> simp [ih]

theorem count_map_true (dec : β → Bool) (V : List β) : (V.map dec).count true = (V.filter dec).length := by
  induction V with
  | nil => rfl
  | cons v vs ih =>
    simp only [List.map_cons, List.filter_cons, List.count_cons]
    cases dec v <;> simp [ih]

theorem scatter_spec (idx : List Nat) : ∀ (xs vals : List β), idx.Nodup → idx.length = vals.length →
    (∀ i ∈ idx, i < xs.length) →
    ∃ r, scatter xs idx vals = some r ∧ ∀ j, r[j]? = if j ∈ idx then vals[idx.idxOf j]? else xs[j]? := by
  induction idx with
  | nil =>
    intro xs vals _ hl _
    cases vals with
    | nil => exact ⟨xs, rfl, by simp⟩
    | cons => simp at hl
  | cons i is ih =>
    intro xs vals hn hl hb
    cases vals with
    | nil => simp at hl
    | cons v vs =>
      rw [List.nodup_cons] at hn
      have hi : i < xs.length := hb i (by simp)
      obtain ⟨r, hr, hrj⟩ := ih (xs.set i v) vs hn.2 (by simpa using hl)
        (fun k hk => by rw [List.length_set]; exact hb k (List.mem_cons_of_mem _ hk))
      refine ⟨r, by simp [scatter, hi, hr], ?_⟩
      intro j
      rw [hrj j]
      by_cases hji : j = i
      · subst hji
        simp [hn.1, List.getElem?_set, hi]
      · have hij : i ≠ j := fun h => hji h.symm
        have hb' : (i == j) = false := by rw [beq_eq_false_iff_ne]; exact hij
        by_cases hjs : j ∈ is
        · simp [hjs, List.idxOf_cons, hb']
        · simp [hjs, hji, List.getElem?_set, hij]


theorem gather_eq (xs : List β) (d : β) (idx : List Nat) (h : ∀ i ∈ idx, i < xs.length) :
    gather xs idx = some (idx.map (fun i => xs[i]?.getD d)) := by
  unfold gather
  apply mapOpt_eq_some
  intro i hi
  rw [List.getElem?_eq_getElem (h i hi)]; rfl

theorem idxOf_map_inj (f : Nat → Nat) (v : Nat) (L : List Nat) (h : ∀ w ∈ L, f w = f v → w = v) :
    (L.map f).idxOf (f v) = L.idxOf v := by
  induction L with
  | nil => rfl
  | cons w ws ih =>
    simp only [List.map_cons, List.idxOf_cons]
    by_cases hw : w = v
    · subst hw; simp
    · have h1 : (w == v) = false := by rw [beq_eq_false_iff_ne]; exact hw
      have h2 : (f w == f v) = false := by
        rw [beq_eq_false_iff_ne]; intro he; exact hw (h w (by simp) he)
      simp [h1, h2, ih (fun x hx => h x (List.mem_cons_of_mem _ hx))]

end lists

section memory
variable {α : Type} [LT α] [DecidableLT α]

theorem lookup_eq (mem : List (Rec α)) (v : Nat) : lookup mem v = mem[(mem.map (·.pid)).idxOf v]? := by
  unfold lookup
  induction mem with
  | nil => rfl
  | cons o os ih =>
    simp only [List.map_cons, List.idxOf_cons, List.find?_cons]
    by_cases h : o.pid = v
    · simp [h]
    · have : (o.pid == v) = false := by rw [beq_eq_false_iff_ne]; exact h
      simp [this, ih]

theorem lookup_some_of_mem (mem : List (Rec α)) (v : Nat) (h : v ∈ mem.map (·.pid)) :
    ∃ o, lookup mem v = some o ∧ o.pid = v := by
  cases hl : lookup mem v with
  | none =>
    exfalso
    unfold lookup at hl
    rw [List.find?_eq_none] at hl
    obtain ⟨o, ho, hov⟩ := List.mem_map.mp h
    exact hl o ho (by simpa using hov)
  | some o =>
    refine ⟨o, rfl, ?_⟩
    unfold lookup at hl
    simpa using List.find?_some hl

/-- the decision on the pid `v`: the current record with that pid has not moved (and passes the extra test) -/
def decV (mem cur : List (Rec α)) (ex : Nat → Bool) (v : Nat) : Bool :=
  match lookup cur v with
  | some r => stuck mem r && ex v
  | none => false

theorem mem_common (A B : List Nat) (v : Nat) : v ∈ sortUniq (A.filter (fun w => B.contains w)) ↔ v ∈ A ∧ v ∈ B := by
  rw [mem_sortUniq, List.mem_filter]; simp

theorem onland_eq (mem cur : List (Rec α)) (extra : Nat → Option Bool) (ex : Nat → Bool)
    (hex : ∀ v ∈ cur.map (·.pid), extra ((cur.map (·.pid)).idxOf v) = some (ex v)) :
    mapOpt (onlandAt (mem.map (·.x)) (mem.map (·.y)) (cur.map (·.x)) (cur.map (·.y)) extra)
        (intersect1d (mem.map (·.pid)) (cur.map (·.pid))) =
      some ((sortUniq ((mem.map (·.pid)).filter (fun w => (cur.map (·.pid)).contains w))).map (decV mem cur ex)) := by
  unfold intersect1d
  rw [mapOpt_eq_some _ (fun e => decV mem cur ex e.1), List.map_map]
  · rfl
  · intro e he
    obtain ⟨v, hv, rfl⟩ := List.mem_map.mp he
    rw [mem_common] at hv
    obtain ⟨o, ho, hov⟩ := lookup_some_of_mem mem v hv.1
    obtain ⟨r, hr, hrv⟩ := lookup_some_of_mem cur v hv.2
    have ho' := ho; have hr' := hr
    rw [lookup_eq] at ho' hr'
    simp only [onlandAt, List.getElem?_map, ho', hr', hex v hv.2, Option.map_some, decV, hr, stuck, hrv, ho]

end memory

section reseed
variable {α : Type} [Add α] [Sub α] [OfScientific α] [HasRound α]
open Chemicals

theorem idxOf_pid (cur : List (Rec α)) (hn : (cur.map (·.pid)).Nodup) (j : Nat) (hj : j < cur.length) :
    (cur.map (·.pid)).idxOf cur[j].pid = j := by
  have := idxOf_getElem_nodup (cur.map (·.pid)) hn j (by simpa using hj)
  simpa using this

theorem idxOf_pid_lt (cur : List (Rec α)) (v : Nat) (hv : v ∈ cur.map (·.pid)) :
    (cur.map (·.pid)).idxOf v < cur.length := by
  have := (List.idxOf_lt_length_iff (l := cur.map (·.pid)) (a := v)).mpr hv
  simpa using this

theorem pid_idxOf (cur : List (Rec α)) (v : Nat) (hv : v ∈ cur.map (·.pid)) :
    (cur[(cur.map (·.pid)).idxOf v]'(idxOf_pid_lt cur v hv)).pid = v := by
  have h := (List.idxOf_lt_length_iff (l := cur.map (·.pid)) (a := v)).mpr hv
  have := List.getElem_idxOf h
  rw [List.getElem_map] at this
  exact this

theorem reseed_scatter (cur : List (Rec α)) (hn : (cur.map (·.pid)).Nodup) (L : List Nat) (hL : L.Nodup)
    (hLB : ∀ v ∈ L, v ∈ cur.map (·.pid)) (fld : Rec α → α) (u : Nat → α) (used : Nat) :
    scatter (cur.map fld) (L.map (fun v => (cur.map (·.pid)).idxOf v))
        (List.zipWith reseed ((L.map (fun v => (cur.map (·.pid)).idxOf v)).map (fun i => (cur.map fld)[i]?.getD 0.0))
          (randN u used L.length)) =
      some (cur.map (fun r => if r.pid ∈ L then reseed (fld r) (u (used + L.idxOf r.pid)) else fld r)) := by
  have hinj : ∀ v ∈ L, ∀ w ∈ L, (cur.map (·.pid)).idxOf v = (cur.map (·.pid)).idxOf w → v = w := by
    intro v hv w hw he
    have h1 := pid_idxOf cur v (hLB v hv)
    have h2 := pid_idxOf cur w (hLB w hw)
    rw [← h1, ← h2]
    simp only [he]
  obtain ⟨r, hr, hrj⟩ := scatter_spec (L.map (fun v => (cur.map (·.pid)).idxOf v)) (cur.map fld)
    (List.zipWith reseed ((L.map (fun v => (cur.map (·.pid)).idxOf v)).map (fun i => (cur.map fld)[i]?.getD 0.0))
          (randN u used L.length))
    (by
      rw [List.Nodup, List.pairwise_map]
      exact List.Pairwise.imp_of_mem (fun ha hb hab he => hab (hinj _ ha _ hb he)) hL)
    (by simp [randN])
    (by
      intro i hi
      obtain ⟨v, hv, rfl⟩ := List.mem_map.mp hi
      simpa using idxOf_pid_lt cur v (hLB v hv))
  rw [hr]
  congr 1
  apply List.ext_getElem?
  intro j
  have rhs : (cur.map (fun r => if r.pid ∈ L then reseed (fld r) (u (used + L.idxOf r.pid)) else fld r))[j]? =
      cur[j]?.map (fun r => if r.pid ∈ L then reseed (fld r) (u (used + L.idxOf r.pid)) else fld r) := List.getElem?_map
  rw [rhs, hrj j]
  by_cases hj : j < cur.length
  · have hpid := idxOf_pid cur hn j hj
    rw [List.getElem?_eq_getElem hj, Option.map_some]
    have hmem : j ∈ L.map (fun v => (cur.map (·.pid)).idxOf v) ↔ cur[j].pid ∈ L := by
      constructor
      · intro h
        obtain ⟨w, hw, hwj⟩ := List.mem_map.mp h
        have := pid_idxOf cur w (hLB w hw)
        simp only [hwj] at this
        rw [this]; exact hw
      · intro h
        exact List.mem_map.mpr ⟨_, h, hpid⟩
    by_cases hin : cur[j].pid ∈ L
    · rw [if_pos (hmem.mpr hin), if_pos hin]
      have hk : (L.map (fun v => (cur.map (·.pid)).idxOf v)).idxOf j = L.idxOf cur[j].pid := by
        have h := idxOf_map_inj (fun v => (cur.map (·.pid)).idxOf v) cur[j].pid L
          (fun w hw he => hinj w hw _ hin he)
        simp only [hpid] at h
        exact h
      rw [hk]
      have hlt : L.idxOf cur[j].pid < L.length := List.idxOf_lt_length_iff.mpr hin
      have hLk : L[L.idxOf cur[j].pid] = cur[j].pid := List.getElem_idxOf hlt
      simp only [List.getElem?_zipWith, List.getElem?_map, List.getElem?_eq_getElem hlt, Option.map_some, hLk, hpid,
        List.getElem?_eq_getElem hj, Option.getD_some, randN, List.getElem?_range hlt]
    · rw [if_neg (fun h => hin (hmem.mp h)), if_neg hin, List.getElem?_map, List.getElem?_eq_getElem hj, Option.map_some]
  · have hj' : cur.length ≤ j := Nat.le_of_not_lt hj
    rw [List.getElem?_eq_none hj', Option.map_none, if_neg]
    · rw [List.getElem?_eq_none (by simpa using hj')]
    · intro h
      obtain ⟨w, hw, hwj⟩ := List.mem_map.mp h
      have := idxOf_pid_lt cur w (hLB w hw)
      omega

end reseed


section runs
variable {α : Type} [Add α] [Sub α] [LT α] [DecidableLT α] [OfScientific α] [HasRound α]
open Chemicals

/-- re-seeding one coordinate at the particles with the pids `L`: the values drawn by `reseedAt`, scattered back,
re-seed exactly those particles, the k-th pid of `L` with the k-th draw -/
theorem reseed_field (cur : List (Rec α)) (hn : (cur.map (·.pid)).Nodup) (L : List Nat) (hL : L.Nodup)
    (hLB : ∀ v ∈ L, v ∈ cur.map (·.pid)) (fld : Rec α → α) (u : Nat → α) (used : Nat) :
    ∃ new, reseedAt (cur.map fld) (L.map (fun v => (cur.map (·.pid)).idxOf v)) u used L.length = some new ∧
      scatter (cur.map fld) (L.map (fun v => (cur.map (·.pid)).idxOf v)) new =
        some (cur.map (fun r => if r.pid ∈ L then reseed (fld r) (u (used + L.idxOf r.pid)) else fld r)) := by
  refine ⟨_, ?_, reseed_scatter cur hn L hL hLB fld u used⟩
  unfold reseedAt
  rw [gather_eq _ 0.0 _ (by
    intro i hi
    obtain ⟨v, hv, rfl⟩ := List.mem_map.mp hi
    simpa using idxOf_pid_lt cur v (hLB v hv))]
  simp [zipSame, randN]

/-- the pids of the particles that `reposition` moves, in increasing order -/
def onlandPids (mem cur : List (Rec α)) (ex : Nat → Bool) : List Nat :=
  (sortUniq ((mem.map (·.pid)).filter (fun w => (cur.map (·.pid)).contains w))).filter (decV mem cur ex)

theorem onlandPids_sub (mem cur : List (Rec α)) (ex : Nat → Bool) :
    ∀ v ∈ onlandPids mem cur ex, v ∈ cur.map (·.pid) := by
  intro v hv
  unfold onlandPids at hv
  rw [List.mem_filter, mem_common] at hv
  exact hv.1.2

theorem onlandPids_sorted (mem cur : List (Rec α)) (ex : Nat → Bool) : (onlandPids mem cur ex).Pairwise (· < ·) :=
  List.Pairwise.filter _ (pairwise_sortUniq _)

theorem onlandPids_nodup (mem cur : List (Rec α)) (ex : Nat → Bool) : (onlandPids mem cur ex).Nodup :=
  (onlandPids_sorted mem cur ex).imp (fun h => Nat.ne_of_lt h)

theorem count_onland (mem cur : List (Rec α)) (ex : Nat → Bool) :
    ((sortUniq ((mem.map (·.pid)).filter (fun w => (cur.map (·.pid)).contains w))).map (decV mem cur ex)).count true =
      (onlandPids mem cur ex).length := count_map_true _ _

theorem select_onland (mem cur : List (Rec α)) (ex : Nat → Bool) :
    maskSelect ((intersect1d (mem.map (·.pid)) (cur.map (·.pid))).map (fun e => e.2.2))
        ((sortUniq ((mem.map (·.pid)).filter (fun w => (cur.map (·.pid)).contains w))).map (decV mem cur ex)) =
      some ((onlandPids mem cur ex).map (fun v => (cur.map (·.pid)).idxOf v)) := by
  unfold intersect1d
  rw [List.map_map]
  exact maskSelect_map _ _ _

theorem chem_reposition_run (mem cur : List (Rec α)) (u : Nat → α) (hn : (cur.map (·.pid)).Nodup) :
    chemRepositionSeq mem cur u = some (some (
      cur.map (fun r => if r.pid ∈ onlandPids mem cur (fun _ => true)
        then reseed r.x (u (0 + (onlandPids mem cur (fun _ => true)).idxOf r.pid)) else r.x),
      cur.map (fun r => if r.pid ∈ onlandPids mem cur (fun _ => true)
        then reseed r.y (u (0 + (onlandPids mem cur (fun _ => true)).length + (onlandPids mem cur (fun _ => true)).idxOf r.pid)) else r.y))) := by
  have hOn := onland_eq mem cur (fun _ => some true) (fun _ => true) (fun _ _ => rfl)
  have hF := reseed_field cur hn _ (onlandPids_nodup mem cur (fun _ => true)) (onlandPids_sub mem cur (fun _ => true))
  obtain ⟨xNew, hX, hSX⟩ := hF (·.x) u 0
  obtain ⟨yNew, hY, hSY⟩ := hF (·.y) u (0 + (onlandPids mem cur (fun _ => true)).length)
  delta chemRepositionSeq Gen.chem_reposition_seq chemRepStep chemRepStep.match_1 RepSt.init
  iterate 8 rw [Run.runStrictRet_assign rfl (by
    simp only [String.reduceEq, ↓reduceDIte, hOn, count_onland, select_onland, hX, hY, hSX, hSY, Option.map_some]; rfl)]
  rfl

theorem lookup_of_mem_nodup (cur : List (Rec α)) (hn : (cur.map (·.pid)).Nodup) (r : Rec α) (hr : r ∈ cur) :
    lookup cur r.pid = some r := by
  obtain ⟨j, hj⟩ := List.mem_iff_getElem?.mp hr
  have hlt : j < cur.length := by
    rcases Nat.lt_or_ge j cur.length with h | h
    · exact h
    · rw [List.getElem?_eq_none h] at hj; cases hj
  rw [List.getElem?_eq_getElem hlt] at hj
  have hj' : cur[j] = r := by simpa using hj
  rw [lookup_eq, ← hj', idxOf_pid cur hn j hlt, List.getElem?_eq_getElem hlt]

theorem stuck_pid_mem (mem : List (Rec α)) (r : Rec α) (h : stuck mem r = true) : r.pid ∈ mem.map (·.pid) := by
  unfold stuck at h
  cases hl : lookup mem r.pid with
  | none => rw [hl] at h; cases h
  | some o =>
    unfold lookup at hl
    have h1 := List.mem_of_find?_eq_some hl
    have h2 := List.find?_some hl
    exact List.mem_map.mpr ⟨o, h1, by simpa using h2⟩

theorem mem_onlandPids (mem cur : List (Rec α)) (ex : Nat → Bool) (hn : (cur.map (·.pid)).Nodup) (r : Rec α)
    (hr : r ∈ cur) : r.pid ∈ onlandPids mem cur ex ↔ (stuck mem r && ex r.pid) = true := by
  unfold onlandPids
  rw [List.mem_filter, mem_common]
  have hd : decV mem cur ex r.pid = (stuck mem r && ex r.pid) := by
    unfold decV; rw [lookup_of_mem_nodup cur hn r hr]
  rw [hd]
  constructor
  · exact fun h => h.2
  · intro h
    refine ⟨⟨stuck_pid_mem mem r ?_, List.mem_map.mpr ⟨r, hr, rfl⟩⟩, h⟩
    rw [Bool.and_eq_true] at h; exact h.1

theorem onlandPids_spec (mem cur : List (Rec α)) (ex : Nat → Bool) (hn : (cur.map (·.pid)).Nodup) (p : Nat) :
    p ∈ onlandPids mem cur ex ↔ ∃ r ∈ cur, r.pid = p ∧ (stuck mem r && ex p) = true := by
  constructor
  · intro h
    obtain ⟨r, hr, hrp⟩ := List.mem_map.mp (onlandPids_sub mem cur ex p h)
    subst hrp
    exact ⟨r, hr, rfl, (mem_onlandPids mem cur ex hn r hr).mp h⟩
  · rintro ⟨r, hr, rfl, h⟩
    exact (mem_onlandPids mem cur ex hn r hr).mpr h

/-- the test `np.bool_(a[pidx_new])` of mine, as a function of the pid -/
def actOf (cur : List (Rec α)) (act : List Nat) (v : Nat) : Bool := (act[(cur.map (·.pid)).idxOf v]?.getD 0) != 0

theorem mine_reposition_run (mem cur : List (Rec α)) (act : List Nat) (u : Nat → α) (hn : (cur.map (·.pid)).Nodup)
    (ha : act.length = cur.length) :
    mineRepositionSeq true mem cur act u = some (some (
      let L := onlandPids mem cur (actOf cur act)
      let X := cur.map (fun r => if r.pid ∈ L then reseed r.x (u (0 + L.idxOf r.pid)) else r.x)
      let Y := cur.map (fun r => if r.pid ∈ L then reseed r.y (u (0 + L.length + L.idxOf r.pid)) else r.y)
      ⟨X, Y, cur.map (·.pid), X, Y, some .snapshot⟩)) := by
  have hOn := onland_eq mem cur (fun j => act[j]?.map (fun v => v != 0)) (actOf cur act) (by
    intro v hv
    have := idxOf_pid_lt cur v hv
    unfold actOf
    rw [List.getElem?_eq_getElem (by omega)]; rfl)
  have hF := reseed_field cur hn _ (onlandPids_nodup mem cur (actOf cur act)) (onlandPids_sub mem cur (actOf cur act))
  obtain ⟨xNew, hX, hSX⟩ := hF (·.x) u 0
  obtain ⟨yNew, hY, hSY⟩ := hF (·.y) u (0 + (onlandPids mem cur (actOf cur act)).length)
  delta mineRepositionSeq Gen.mine_reposition_seq mineRepStep mineRepStep.match_1 repAtom repAtom.match_1 RepSt.init
  iterate 16 rw [Run.runStrictRet_assign (Run.guardVal_pos (by simp only [String.reduceEq, ↓reduceDIte])) (by
    simp only [String.reduceEq, ↓reduceDIte, hOn, count_onland, select_onland, hX, hY, hSX, hSY, Option.map_some, joinKind]
    rfl)]
  rfl

theorem actOf_zip (cur : List (Rec α)) (act : List Nat) (hn : (cur.map (·.pid)).Nodup) (ra : Rec α × Nat)
    (h : ra ∈ cur.zip act) : actOf cur act ra.1.pid = (ra.2 != 0) := by
  obtain ⟨j, hj⟩ := List.mem_iff_getElem?.mp h
  rw [List.getElem?_zip_eq_some] at hj
  have hlt : j < cur.length := by
    rcases Nat.lt_or_ge j cur.length with h | h
    · exact h
    · rw [List.getElem?_eq_none h] at hj; cases hj.1
  have h1 := hj.1
  rw [List.getElem?_eq_getElem hlt] at h1
  have h1' : cur[j] = ra.1 := by simpa using h1
  unfold actOf
  rw [← h1', idxOf_pid cur hn j hlt, hj.2]; rfl

theorem recsOf_map (cur : List (Rec α)) : recsOf (cur.map (·.pid)) (cur.map (·.x)) (cur.map (·.y)) = cur := by
  unfold recsOf
  induction cur with
  | nil => rfl
  | cons r rs ih =>
    simp only [List.map_cons, List.zip_cons_cons, List.zipWith_cons_cons, ih]

end runs
end Bridge.MemSeq

/-! ## the theorems -/
namespace Bridge
open Bridge.MemSeq Chemicals

section reposition
variable {α : Type} [Add α] [Sub α] [LT α] [DecidableLT α] [OfScientific α] [HasRound α]

/-- **chemicals `IBM.reposition`** (`Gen.chem_reposition_seq`).  `mem` = the remembered records (`self.pid, self.x,
self.y`), `cur` = the current ones (`state.pid, X, Y`), `u` = the stream of `np.random.rand`.  Hypothesis: the current
pids are distinct.  Exactly the particles with `Memory.stuck mem r` (= `Memory.decides .snapshot mem _ r`: matched by
pid with the first remembered record of that pid, remembered x AND y equal to the current ones) are re-seeded with
`Chemicals.reseed` (`round(x) − 0.5 + rand`); the draws are handed out in the order of increasing pid (`L` = the stuck
pids in increasing order), the first `rand(num_onland)` call serves x, the second y. -/
theorem chem_reposition_seq (mem cur : List (Rec α)) (u : Nat → α) (hn : (cur.map (·.pid)).Nodup) :
    ∃ L : List Nat, L.Pairwise (· < ·) ∧ (∀ p, p ∈ L ↔ ∃ r ∈ cur, r.pid = p ∧ stuck mem r = true) ∧
      chemRepositionSeq mem cur u = some (some (
        cur.map (fun r => if stuck mem r then reseed r.x (u (L.idxOf r.pid)) else r.x),
        cur.map (fun r => if stuck mem r then reseed r.y (u (L.length + L.idxOf r.pid)) else r.y))) := by
  refine ⟨onlandPids mem cur (fun _ => true), onlandPids_sorted _ _ _, ?_, ?_⟩
  · intro p
    rw [onlandPids_spec mem cur _ hn p]
    simp only [Bool.and_true]
  · rw [chem_reposition_run mem cur u hn]
    have hm : ∀ r ∈ cur, (r.pid ∈ onlandPids mem cur (fun _ => true)) ↔ stuck mem r = true := by
      intro r hr
      rw [mem_onlandPids mem cur _ hn r hr]; simp only [Bool.and_true]
    congr 3
    · apply List.map_congr_left
      intro r hr
      simp only [hm r hr, Nat.zero_add]
    · apply List.map_congr_left
      intro r hr
      simp only [hm r hr, Nat.zero_add]

/-- **mine `IBM.reposition`** (`Gen.mine_reposition_seq`), `self.land_collision == 'reposition'`.  `act` = the value of
`self.active()`, one entry per current particle.  As for chemicals, and: the particle's CURRENT `active` value must be
non-zero; afterwards the handler remembers COPIES (`np.copy`, `MemKind.snapshot`) of the new `X`, `Y`, and the state's
pid array. -/
theorem mine_reposition_seq (mem cur : List (Rec α)) (act : List Nat) (u : Nat → α) (hn : (cur.map (·.pid)).Nodup)
    (ha : act.length = cur.length) :
    ∃ L : List Nat, L.Pairwise (· < ·) ∧
      (∀ p, p ∈ L ↔ ∃ ra ∈ cur.zip act, ra.1.pid = p ∧ (stuck mem ra.1 && ra.2 != 0) = true) ∧
      mineRepositionSeq true mem cur act u = some (some (
        let X := (cur.zip act).map (fun ra => if stuck mem ra.1 && ra.2 != 0 then reseed ra.1.x (u (L.idxOf ra.1.pid)) else ra.1.x)
        let Y := (cur.zip act).map (fun ra => if stuck mem ra.1 && ra.2 != 0 then reseed ra.1.y (u (L.length + L.idxOf ra.1.pid)) else ra.1.y)
        ⟨X, Y, cur.map (·.pid), X, Y, some .snapshot⟩)) := by
  have hz : (cur.zip act).map Prod.fst = cur := List.map_fst_zip (by omega)
  have hm : ∀ ra ∈ cur.zip act, (ra.1.pid ∈ onlandPids mem cur (actOf cur act)) ↔ (stuck mem ra.1 && ra.2 != 0) = true := by
    intro ra hra
    have hr : ra.1 ∈ cur := by rw [← hz]; exact List.mem_map.mpr ⟨ra, hra, rfl⟩
    rw [mem_onlandPids mem cur _ hn ra.1 hr, actOf_zip cur act hn ra hra]
  refine ⟨onlandPids mem cur (actOf cur act), onlandPids_sorted _ _ _, ?_, ?_⟩
  · intro p
    constructor
    · intro h
      obtain ⟨r, hr, hrp⟩ := List.mem_map.mp (onlandPids_sub mem cur _ p h)
      rw [← hz] at hr
      obtain ⟨ra, hra, rfl⟩ := List.mem_map.mp hr
      subst hrp
      exact ⟨ra, hra, rfl, (hm ra hra).mp h⟩
    · rintro ⟨ra, hra, rfl, h⟩
      exact (hm ra hra).mpr h
  · rw [mine_reposition_run mem cur act u hn ha]
    have key : ∀ (f : Rec α → α), cur.map f = (cur.zip act).map (fun ra => f ra.1) := by
      intro f
      conv => lhs; rw [← hz, List.map_map]
      rfl
    have hX : cur.map (fun r => if r.pid ∈ onlandPids mem cur (actOf cur act)
          then reseed r.x (u (0 + (onlandPids mem cur (actOf cur act)).idxOf r.pid)) else r.x) =
        (cur.zip act).map (fun ra => if stuck mem ra.1 && ra.2 != 0
          then reseed ra.1.x (u ((onlandPids mem cur (actOf cur act)).idxOf ra.1.pid)) else ra.1.x) := by
      rw [key]
      apply List.map_congr_left
      intro ra hra
      simp only [hm ra hra, Nat.zero_add]
    have hY : cur.map (fun r => if r.pid ∈ onlandPids mem cur (actOf cur act)
          then reseed r.y (u (0 + (onlandPids mem cur (actOf cur act)).length + (onlandPids mem cur (actOf cur act)).idxOf r.pid)) else r.y) =
        (cur.zip act).map (fun ra => if stuck mem ra.1 && ra.2 != 0
          then reseed ra.1.y (u ((onlandPids mem cur (actOf cur act)).length + (onlandPids mem cur (actOf cur act)).idxOf ra.1.pid)) else ra.1.y) := by
      rw [key]
      apply List.map_congr_left
      intro ra hra
      simp only [hm ra hra, Nat.zero_add]
    simp only [hX, hY]

/-- … with any other value of `land_collision` nothing happens (but every statement must still be a known one) -/
theorem mine_reposition_seq_off (mem cur : List (Rec α)) (act : List Nat) (u : Nat → α) :
    mineRepositionSeq false mem cur act u = some (some
      ⟨cur.map (·.x), cur.map (·.y), mem.map (·.pid), mem.map (·.x), mem.map (·.y), none⟩) := by
  delta mineRepositionSeq Gen.mine_reposition_seq mineRepStep mineRepStep.match_1 repAtom repAtom.match_1
  iterate 16 rw [Run.runStrictRet_skip (Run.guardVal_neg (by simp only [String.reduceEq, ↓reduceDIte]; rfl)) (by
    simp only [String.reduceEq, ↓reduceDIte]; rfl)]
  rfl

/-- **chemicals `IBM.store_position`** (`Gen.chem_store_position_seq`): the handler remembers the current records
(`Memory.store`); the kind of memory is the one the generated text shows — `self.x = self.state.X` (the code as it is:
the state's own arrays, `MemKind.alias`, known finding F-C11a) or the repair `self.x = np.copy(self.state.X)`
(`MemKind.snapshot`); the proof goes through for either text and for no other. -/
theorem chem_store_position_seq :
    ∃ k, storeKindSeen Gen.chem_store_position_seq = some k ∧
      ∀ mem cur : List (Rec α), storePositionSeq Gen.chem_store_position_seq mem cur = some (some (k, Memory.store cur)) := by
  first
  | (refine ⟨.alias, ?_, ?_⟩
     · decide
     · intro mem cur
       simp [storePositionSeq, Gen.chem_store_position_seq, runStrictRet, guardVal, storeStep, RepSt.init, joinKind,
         recsOf_map, Memory.store]
     done)
  | (refine ⟨.snapshot, ?_, ?_⟩
     · decide
     · intro mem cur
       simp [storePositionSeq, Gen.chem_store_position_seq, runStrictRet, guardVal, storeStep, RepSt.init, joinKind,
         recsOf_map, Memory.store]
     done)

/-- the same as a disjunction -/
theorem chem_store_position_seq_or :
    (∀ mem cur : List (Rec α), storePositionSeq Gen.chem_store_position_seq mem cur = some (some (.alias, Memory.store cur))) ∨
    (∀ mem cur : List (Rec α), storePositionSeq Gen.chem_store_position_seq mem cur = some (some (.snapshot, Memory.store cur))) := by
  obtain ⟨k, _, h⟩ := chem_store_position_seq (α := α)
  cases k
  · exact Or.inr h
  · exact Or.inl h

/-- what the handler effectively compares with at the next `reposition`: the stored records, or — when it kept the
state's own arrays and these were not reallocated since — the current records themselves -/
def effectiveMem (k : MemKind) (stored cur : List (Rec α)) (realloc : Bool) : List (Rec α) :=
  match k with
  | .snapshot => stored
  | .alias => if realloc then stored else cur

/-- the link between the kind of memory reported by `chem_store_position_seq` and `Memory.decides`: the decision of the
model is `Memory.stuck` (what `chem_reposition_seq` / `mine_reposition_seq` evaluate) on the effective memory.
Hypotheses: `<` irreflexive (no NaN), distinct current pids, and — alias without reallocation — the remembered pid array
is the state's. -/
theorem decides_effective (hirr : ∀ a : α, ¬ a < a) (k : MemKind) (stored cur : List (Rec α)) (realloc : Bool)
    (hn : (cur.map (·.pid)).Nodup) (r : Rec α) (hr : r ∈ cur)
    (hp : k = .alias → realloc = false → stored.map (·.pid) = cur.map (·.pid)) :
    decides k stored realloc r = stuck (effectiveMem k stored cur realloc) r := by
  cases k with
  | snapshot => rfl
  | «alias» =>
    cases realloc with
    | true => rfl
    | false =>
      have h1 : stuck cur r = true := by
        unfold stuck
        rw [lookup_of_mem_nodup cur hn r hr]
        simp [feq, hirr]
      have h2 : stored.any (fun o => o.pid == r.pid) = true := by
        have : r.pid ∈ stored.map (·.pid) := by rw [hp rfl rfl]; exact List.mem_map.mpr ⟨r, hr, rfl⟩
        obtain ⟨o, ho, hor⟩ := List.mem_map.mp this
        exact List.any_eq_true.mpr ⟨o, ho, by simpa using hor⟩
      show stored.any (fun o => o.pid == r.pid) = stuck cur r
      rw [h1, h2]

end reposition

/-! ### `is_close_to_land`, `nearest_unmasked`, `Grid.is_close_to_land`, `Grid.nearest_sea` -/
section nb
variable {α : Type} [Add α] [Sub α] [Mul α] [LT α] [DecidableLT α] [HasRound α] [HasTrunc α] [HasOfInt α]

/-- **`is_close_to_land(mask, i, j)`** (`Gen.is_close_to_land_seq`) is `Nb.isCloseToLand` on the land mask `~mask` at the
cell `(int32(round i), int32(round j))`: the eight offsets in the order of the source, indices clamped, `any`. -/
theorem is_close_to_land_seq (M : Mask) (i j : α) :
    isCloseToLandSeq M i j =
      some (some (isCloseToLand ⟨M.rows, M.cols, fun b a => !M.val b a⟩ (trunc (round i)) (trunc (round j)))) :=
  MemSeq.is_close_to_land M i j

/-- **`nearest_unmasked(mask, i, j)`** (`Gen.nearest_unmasked_seq`) is `Nb.nearestUnmasked` (nine offsets in the order of
the source, centre first; indices clamped; first minimum of the squared distance among the unmasked cells) at the cell
`(int32(round i), int32(round j))`; when all nine cells are masked — where the model says `none` — the code returns the
(clamped) centre cell: index 0 of the `argmin` over an all-masked column. -/
theorem nearest_unmasked_seq (M : Mask) (i j : α) :
    nearestUnmaskedSeq M i j =
      some (some ((nearestUnmasked M i j (trunc (round i)) (trunc (round j))).getD
        (clampI M.cols (trunc (round i)), clampI M.rows (trunc (round j))))) :=
  MemSeq.nearest_unmasked M i j

/-- **`Grid.is_close_to_land(X, Y)`** (`Gen.chem_grid_close_to_land_seq`): `i0` is subtracted from `X`, `j0` from `Y`,
BEFORE the rounding inside `is_close_to_land`: the cell is `int32(round(X − i0))`, `int32(round(Y − j0))`. -/
theorem chem_grid_close_to_land_seq (M : Mask) (i0 j0 : Int) (X Y : α) :
    gridCloseToLandSeq M i0 j0 X Y =
      some (some (isCloseToLand ⟨M.rows, M.cols, fun b a => !M.val b a⟩
        (trunc (round (X - ofInt i0))) (trunc (round (Y - ofInt j0))))) := by
  delta gridCloseToLandSeq Gen.chem_grid_close_to_land_seq gridStep gridStep.match_1
  iterate 2 rw [Run.runStrictRet_assign rfl (by simp only [String.reduceEq, ↓reduceDIte]; rfl)]
  rw [Run.runStrictRet_return rfl (by simp only [String.reduceEq, ↓reduceDIte, is_close_to_land_seq]; rfl)]
  rfl

/-- **`Grid.nearest_sea(X, Y)`** (`Gen.chem_grid_nearest_sea_seq`): `nearest_unmasked` on `np.logical_not(self.M)` at
`(X − i0, Y − j0)`; the result is in mask coordinates (no offset is added back). -/
theorem chem_grid_nearest_sea_seq (M : Mask) (i0 j0 : Int) (X Y : α) :
    gridNearestSeaSeq M i0 j0 X Y =
      some (some ((nearestUnmasked ⟨M.rows, M.cols, fun b a => !M.val b a⟩ (X - ofInt i0) (Y - ofInt j0)
          (trunc (round (X - ofInt i0))) (trunc (round (Y - ofInt j0)))).getD
        (clampI M.cols (trunc (round (X - ofInt i0))), clampI M.rows (trunc (round (Y - ofInt j0)))))) := by
  delta gridNearestSeaSeq Gen.chem_grid_nearest_sea_seq gridStep gridStep.match_1
  iterate 3 rw [Run.runStrictRet_assign rfl (by simp only [String.reduceEq, ↓reduceDIte, nearest_unmasked_seq]; rfl)]
  rw [Run.runStrictRet_return rfl (by simp only [String.reduceEq, ↓reduceDIte]; rfl)]
  rfl

end nb
end Bridge

namespace Bridge.MemSeq
section coast
variable {α : Type} [Add α] [Sub α] [Mul α] [LT α] [DecidableLT α] [OfScientific α] [HasRound α] [HasTrunc α] [HasOfInt α]
open Chemicals

theorem callVec_eq {β γ : Type} (f : β → Option (Option γ)) (g : β → γ) (l : List β) (h : ∀ b, f b = some (some (g b))) :
    callVec f l = some (some (l.map g)) := by
  induction l with
  | nil => rfl
  | cons b bs ih => simp [callVec, h b, ih]

theorem zipSame_fst_snd {β γ : Type} (xy : List (β × γ)) :
    zipSame (fun a b => (a, b)) (xy.map (·.1)) (xy.map (·.2)) = some xy := by
  unfold zipSame
  simp only [List.length_map, if_true, Option.some.injEq]
  induction xy with
  | nil => rfl
  | cons p ps ih => simp [ih]

theorem randN_succ {β : Type} (u : Nat → β) (used n : Nat) : randN u used (n + 1) = u used :: randN u (used + 1) n := by
  unfold randN
  rw [List.range_succ_eq_map, List.map_cons, List.map_map]
  congr 1
  apply List.map_congr_left
  intro k _
  simp only [Function.comp, Nat.succ_eq_add_one]
  congr 1; omega

/-- boolean-mask re-seeding: the k-th selected element takes the draw `u (used + k)` -/
theorem maskScatter_reseed {β : Type} (c : β → Bool) (f : β → α) (u : Nat → α) (l : List β) : ∀ used : Nat,
    maskScatter (l.map f) (l.map c) (List.zipWith reseed ((l.filter c).map f) (randN u used (l.filter c).length)) =
      some (l.mapIdx (fun j b => if c b then reseed (f b) (u (used + (l.take j).countP c)) else f b)) := by
  induction l with
  | nil => intro used; rfl
  | cons b bs ih =>
    intro used
    cases hc : c b with
    | true =>
      simp only [List.map_cons, hc, List.filter_cons, if_true, List.length_cons, randN_succ, List.zipWith_cons_cons,
        maskScatter, ih (used + 1), Option.map_some, List.mapIdx_cons, List.take_zero, List.countP_nil, Nat.add_zero,
        List.take_succ_cons, List.countP_cons]
      congr 2
      apply List.mapIdx_eq_mapIdx_iff.mpr ?_
      intro i hi
      by_cases h : c bs[i] = true
      · simp only [h, if_true]; congr 2; omega
      · simp [h]
    | false =>
      simp only [List.map_cons, hc, List.filter_cons, Bool.false_eq_true, if_false, maskScatter, ih used,
        Option.map_some, List.mapIdx_cons, List.take_succ_cons, List.countP_cons, Nat.add_zero]


/-- re-seeding one coordinate under a boolean mask: the values drawn by `reseedMask`, written back under the mask -/
theorem reseed_mask_field {β : Type} (c : β → Bool) (f : β → α) (u : Nat → α) (l : List β) (used : Nat) :
    ∃ new, reseedMask (l.map f) (l.map c) u used ((l.map c).count true) = some new ∧
      maskScatter (l.map f) (l.map c) new =
        some (l.mapIdx (fun j b => if c b then reseed (f b) (u (used + (l.take j).countP c)) else f b)) := by
  refine ⟨_, ?_, maskScatter_reseed c f u l used⟩
  unfold reseedMask
  rw [maskSelect_map, count_map_true]
  simp [zipSame, randN]

/-- the coastal test of one particle -/
def coastal (M : Mask) (i0 j0 : Int) (p : α × α) : Bool :=
  isCloseToLand ⟨M.rows, M.cols, fun b a => !M.val b a⟩ (trunc (round (p.1 - ofInt i0))) (trunc (round (p.2 - ofInt j0)))

end coast
end Bridge.MemSeq

/-! ### `coastal_diffusion` -/
namespace Bridge
open Bridge.MemSeq Chemicals
section coast
variable {α : Type} [Add α] [Sub α] [Mul α] [LT α] [DecidableLT α] [OfScientific α] [HasRound α] [HasTrunc α] [HasOfInt α]

/-- **chemicals `IBM.coastal_diffusion`** (`Gen.chem_coastal_diffusion_seq`, with `Gen.chem_grid_close_to_land_seq` and
`Gen.is_close_to_land_seq` interpreted at `is_coastal = self.grid.grid.is_close_to_land(x, y)`).  `xy` = the current
positions.  Exactly the particles with `Nb.isCloseToLand` (on the land mask `~M`, at the cell
`int32(round(x − i0)), int32(round(y − j0))`) are re-seeded inside their cell with `Chemicals.reseed`; the k-th coastal
particle in ARRAY order takes the k-th draw of the first `rand(num_coastal)` call for x and the k-th of the second for y.
No hypothesis. -/
theorem chem_coastal_diffusion_seq (M : Mask) (i0 j0 : Int) (xy : List (α × α)) (u : Nat → α) :
    coastalDiffusionSeq M i0 j0 xy u = some (some (
      xy.mapIdx (fun j p => if coastal M i0 j0 p then reseed p.1 (u ((xy.take j).countP (coastal M i0 j0))) else p.1),
      xy.mapIdx (fun j p => if coastal M i0 j0 p
        then reseed p.2 (u (xy.countP (coastal M i0 j0) + (xy.take j).countP (coastal M i0 j0))) else p.2))) := by
  have hV := callVec_eq _ (coastal M i0 j0) xy (fun p => chem_grid_close_to_land_seq M i0 j0 p.1 p.2)
  obtain ⟨xNew, hX, hSX⟩ := reseed_mask_field (coastal M i0 j0) (·.1) u xy 0
  obtain ⟨yNew, hY, hSY⟩ := reseed_mask_field (coastal M i0 j0) (·.2) u xy (0 + (xy.map (coastal M i0 j0)).count true)
  delta coastalDiffusionSeq Gen.chem_coastal_diffusion_seq coastStep coastStep.match_3
  iterate 7 rw [Run.runStrictRet_assign rfl (by
    simp only [String.reduceEq, ↓reduceDIte, zipSame_fst_snd, hV, hX, hY, hSX, hSY, Option.map_some]; rfl)]
  simp only [runStrictRet, Option.map_some, Nat.zero_add, count_map_true, ← List.countP_eq_length_filter]

/-- the coastal test used above is `Nb.isCloseToLand` -/
theorem coastal_def (M : Mask) (i0 j0 : Int) (p : α × α) :
    coastal M i0 j0 p = isCloseToLand ⟨M.rows, M.cols, fun b a => !M.val b a⟩
      (trunc (round (p.1 - ofInt i0))) (trunc (round (p.2 - ofInt j0))) := rfl

end coast

/-! ### saithe `spread`, lunar eel `horizontal_advect` -/
section swim
variable {α : Type} [Add α] [Sub α] [Mul α] [Div α] [LT α] [DecidableLT α] [OfScientific α] [HasRound α] [HasTrunc α]
  [HasSin α] [HasCos α] [HasPi α]

/-- the direction of a saithe particle after the first block of `spread`: a particle with `direction == 0` draws
`2π·u / 0.93`, which is NaN (`none`: not directed) when it exceeds `2π` -/
def newDirection (u : α) (direction : Option α) : Option α :=
  if (match direction with | some d => feq d 0.0 | none => false) = true then
    (if 2.0 * pi < 2.0 * pi * u / 0.93 then none else some (2.0 * pi * u / 0.93))
  else direction

theorem saithe_pure {β : Type} (ingrid atsea : β → β → Bool) (X Y xc yc : β) (alive : Bool) :
    ((if (!atsea (if (!ingrid xc yc) = true then X else xc) (if (!ingrid xc yc) = true then Y else yc)) = true then X
        else if (!ingrid xc yc) = true then X else xc),
      (if (!atsea (if (!ingrid xc yc) = true then X else xc) (if (!ingrid xc yc) = true then Y else yc)) = true then Y
        else if (!ingrid xc yc) = true then Y else yc),
      (if (!ingrid xc yc) = true then false else alive)) =
    ((Swim.saitheStep ingrid atsea X Y xc yc).1, (Swim.saitheStep ingrid atsea X Y xc yc).2.1,
      alive && (Swim.saitheStep ingrid atsea X Y xc yc).2.2) := by
  unfold Swim.saitheStep
  rcases Bool.eq_false_or_eq_true (ingrid xc yc) with hi | hi
  · simp only [hi, Bool.not_true, Bool.false_eq_true, if_false, if_true, Bool.and_true]
    rcases Bool.eq_false_or_eq_true (atsea xc yc) with hs | hs <;> simp [hs]
  · simp only [hi, Bool.not_false, Bool.false_eq_true, if_false, if_true, Bool.and_false]
    rcases Bool.eq_false_or_eq_true (atsea X Y) with hs | hs <;> simp [hs]

theorem saithe_tail (hatchDay dt : α) (metric : α → α → α × α) (ingrid atsea : α → α → Bool) (u : α) (s : SaitheSt α)
    (h : s.isDirected = (s.direction.isSome && decide (hatchDay < s.age))) :
    (runStrictRet noAtom (saitheStep hatchDay dt metric ingrid atsea u) (Gen.saithe_spread_seq.drop 11) s).map
        (fun r => r.map (fun s => (s.direction, s.X, s.Y, s.alive))) = some (some (
      match s.direction with
      | none => (none, s.X, s.Y, s.alive)
      | some d =>
        if hatchDay < s.age then
          let p := Swim.saitheStep ingrid atsea s.X s.Y
            (s.X + s.hs * 0.01 * (1.0 / (metric s.X s.Y).1) * dt * cos d) (s.Y + s.hs * 0.01 * (1.0 / (metric s.X s.Y).2) * dt * sin d)
          (some d, p.1, p.2.1, s.alive && p.2.2)
        else (some d, s.X, s.Y, s.alive))) := by
  delta Gen.saithe_spread_seq saitheStep saitheStep.match_3
  dsimp only [List.drop]
  iterate 18 rw [Run.runStrictRet_assign_fn rfl (by intro s; simp only [String.reduceEq, ↓reduceDIte]; rfl)]
  simp only [runStrictRet, Option.map_some, h]
  clear h
  obtain ⟨direction, age, X, Y, alive, hs, frac, isNew, newDir, isDirected, d0, x0, y0, dt0, om, on, x, y, outside,
    notAlive, onLand⟩ := s
  simp only []
  cases direction with
  | none => simp only [Option.isSome_none, Bool.false_and, Bool.false_eq_true, if_false]
  | some d =>
    by_cases ha : hatchDay < age
    · simp only [ha, Option.isSome_some, decide_true, Bool.and_self, if_true]
      have hp := saithe_pure ingrid atsea X Y (X + hs * 0.01 * (1.0 / (metric X Y).1) * dt * cos d)
          (Y + hs * 0.01 * (1.0 / (metric X Y).2) * dt * sin d) alive
      have hq := congrArg (fun t => some (some (some d, t))) hp
      exact hq
    · simp only [ha, Option.isSome_some, decide_false, Bool.and_false, Bool.false_eq_true, if_false]

/-- **saithe `IBM.spread`** (`Gen.saithe_spread_seq`) for one particle; `u` = its own draw of
`np.random.rand(num_new_particles)`, `direction = none` = NaN.  New direction (`newDirection`) for `direction == 0`, NaN
for the non-directed; only a directed particle older than `hatch_day` is displaced: `Swim.saitheStep` (reset outside the
grid — and killed —, then reset on land, evaluated AFTER the first reset) with the candidate
`x0 + 1·0.01·(1/dx)·dt·cos d`, `y0 + 1·0.01·(1/dy)·dt·sin d`; written back only to `is_directed` particles. -/
theorem saithe_spread_seq (hatchDay dt : α) (metric : α → α → α × α) (ingrid atsea : α → α → Bool) (u : α)
    (direction : Option α) (age X Y : α) (alive : Bool) :
    saitheSpreadSeq hatchDay dt metric ingrid atsea u direction age X Y alive = some (some (
      match newDirection u direction with
      | none => (none, X, Y, alive)
      | some d =>
        if hatchDay < age then
          let p := Swim.saitheStep ingrid atsea X Y
            (X + 1.0 * 0.01 * (1.0 / (metric X Y).1) * dt * cos d) (Y + 1.0 * 0.01 * (1.0 / (metric X Y).2) * dt * sin d)
          (some d, p.1, p.2.1, alive && p.2.2)
        else (some d, X, Y, alive))) := by
  delta saitheSpreadSeq
  rw [Run.runStrictRet_split 11 rfl (by
      delta Gen.saithe_spread_seq saitheStep saitheStep.match_3
      dsimp only [List.take]
      iterate 11 rw [Run.runStrictRet_assign_fn rfl (by intro s; simp only [String.reduceEq, ↓reduceDIte]; rfl)]
      rfl),
    saithe_tail hatchDay dt metric ingrid atsea u _ rfl]
  rfl

/-- **lunar eel `IBM.horizontal_advect`** (`Gen.eel_horizontal_advect_seq`) for one eel: nothing happens unless
`self.moonfunc(state.timestamp)`; then the candidate `X + speed·dt·xs_dx[j, i]`, `Y + speed·dt·ys_dy[j, i]` with
`i = int(round X)`, `j = int(round Y)` (row index `j` first) is taken exactly when `ingrid & atsea` of the candidate:
`Swim.eelStep`. -/
theorem eel_horizontal_advect_seq (moon : Bool) (speed dt : α) (xsdx ysdy : Int → Int → α) (ingrid atsea : α → α → Bool)
    (X Y : α) :
    eelAdvectSeq moon speed dt xsdx ysdy ingrid atsea X Y = some (some (
      if moon then
        Swim.eelStep ingrid atsea X Y (X + speed * dt * xsdx (trunc (round Y)) (trunc (round X)))
          (Y + speed * dt * ysdy (trunc (round Y)) (trunc (round X)))
      else (X, Y))) := by
  delta eelAdvectSeq Gen.eel_horizontal_advect_seq eelStep eelStep.match_1 eelAtom eelAtom.match_1
  rw [Run.runStrictRet_assign rfl (by simp only [String.reduceEq, ↓reduceDIte]; rfl)]
  cases moon with
  | false =>
    iterate 7 rw [Run.runStrictRet_skip (Run.guardVal_neg (by simp only [String.reduceEq, ↓reduceDIte]; rfl)) (by
      simp only [String.reduceEq, ↓reduceDIte]; rfl)]
    rfl
  | true =>
    iterate 7 rw [Run.runStrictRet_assign (Run.guardVal_pos (by simp only [String.reduceEq, ↓reduceDIte])) (by
      simp only [String.reduceEq, ↓reduceDIte]; rfl)]
    simp only [runStrictRet, Option.map_some, Swim.eelStep, if_true]
    cases (ingrid (X + speed * dt * xsdx (trunc (round Y)) (trunc (round X)))
        (Y + speed * dt * ysdy (trunc (round Y)) (trunc (round X))) &&
      atsea (X + speed * dt * xsdx (trunc (round Y)) (trunc (round X)))
        (Y + speed * dt * ysdy (trunc (round Y)) (trunc (round X)))) <;> rfl

end swim
end Bridge
