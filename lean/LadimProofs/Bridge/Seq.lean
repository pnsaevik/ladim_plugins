import LadimProofs.Basic
import LadimModel.IBM.Chemicals
import LadimModel.IBM.Sedimentation
import LadimModel.IBM.Bio
import LadimModel.IBM.Sequence
import LadimProofs.Bridge.Swim
import LadimProofs.Bridge.Band
import LadimProofs.Bridge.Age
import LadimProofs.Bridge.RunSeq
/-!
# Bridge (C05, C07, C08, C20) — the hand-written per-particle update *is* the code: order and guards of the rules

`LadimModel/Generated/Formulas.lean` is regenerated from /repo's current source on every run.  `Bridge/Swim`, `Band`, `Age`
(and `Mixing`, `SinkBury`, …) state that each hand-written rule equals the generated window of the numpy-mask code.  This
file states in which order, and under which configuration switch, the rules are applied: the generated statement
sequence of `update_ibm` of sedimentation, mine and chemicals, interpreted with the per-particle rules
(`LadimModel/IBM/Sequence.lean`), is the hand-written `update`; the salmon-lice update is the composition of its
generated windows.  The theorems are re-checked by the kernel on every run: a re-ordered or re-guarded statement breaks
one of them, and the property theorems proved about the hand-written model keep speaking about what the code says now.
-/
open Ladim

set_option linter.unusedSectionVars false
set_option linter.unusedVariables false
set_option linter.unnecessarySeqFocus false
set_option linter.auxLemma false
set_option linter.unusedSimpArgs false
namespace Bridge
variable {α : Type} [Field α] [LinearOrder α] [IsStrictOrderedRing α]
  [HasSqrt α] [HasExp α] [HasLog α] [HasSin α] [HasCos α] [HasAsin α] [HasRpow α] [HasPi α] [HasRound α] [HasFloor α]

/-- A side condition of a runner lemma (`Bridge/RunSeq.lean`): the value of a condition or of a statement, a kind that is
not `return`.  The texts are matched by `simp` — equal literals are syntactically equal, different ones get a proof from
the first position where they differ; evaluation would compare their encodings; what is left holds by unfolding. -/
local macro "texts" : tactic => `(tactic| (simp only [String.reduceEq, ↓reduceDIte] <;> rfl))

/-- the whole louse update is the composition of the generated windows -/
theorem lice_update (D dt sdt mf k sv temp salt l0 r : α) (xi : Option α) (p : Bio.Lice α) :
    Bio.liceUpdate D dt sdt mf k sv temp salt l0 r xi p =
      let ad := Gen.lice_age p.age p.days temp sdt
      let W := Gen.lice_W sv (l0 * exp (-k * p.z)) salt r ad.1
      let W := match xi with | none => W | some x => W + Bio.diffVel D dt x
      ⟨Gen.lice_Z p.z W dt, ad.1, ad.2, p.super * mf, Gen.lice_alive p.alive ad.1⟩ := by
  simp only [Bio.liceUpdate, ← lice_W, ← lice_Z, ← lice_age, ← lice_alive]
  cases xi <;> rfl

section
open Ladim.Sed
theorem sed_update_seq (c : Sed.Config α) (e : Sed.Env α) (xi : α) (p : Sed.Particle α) :
    (Seq.run Seq.sedAtom (Seq.sedStep c e xi) Gen.sed_update_seq (Seq.SedSt.init p)).map Seq.SedSt.particle
      = some (Sed.update c e xi p) := by
  delta Gen.sed_update_seq Seq.sedStep Seq.sedStep.match_1
  repeat rw [Run.run_step rfl (by texts) (by texts)]
  rw [Run.run_nil, Option.map_some]
  simp only [Seq.SedSt.particle, Sed.update, Bool.and_eq_true, decide_eq_true_eq]
  rfl
end

section
open Ladim.Sed
theorem mine_update_seq (c : Sed.Mine.Config α) (e : Sed.Mine.Env α) (xi : α) (p : Sed.Particle α) :
    (Seq.run (Seq.mineAtom c) (Seq.mineStep c e xi) Gen.mine_update_seq (Seq.MineSt.init c p)).map (Seq.MineSt.particle c p)
      = some (Sed.Mine.update c e xi p) := by
  delta Gen.mine_update_seq Seq.mineAtom Seq.mineAtom.match_1 Seq.mineStep Seq.mineStep.match_1
  iterate 3 rw [Run.run_step rfl (by texts) (by texts)]
  cases hA : c.hasActive
  · rw [Run.run_skip (Run.guardVal_neg (by texts)), Run.run_step (Run.guardVal_pos (by texts)) (by texts) (by texts)]
    iterate 7 rw [Run.run_step rfl (by texts) (by texts)]
    iterate 2 rw [Run.run_skip (Run.guardVal_neg (by texts))]
    rw [Run.run_nil, Option.map_some]
    simp [Seq.MineSt.init, Seq.MineSt.particle, Sed.Mine.update, hA]
  · rw [Run.run_step (Run.guardVal_pos (by texts)) (by texts) (by texts), Run.run_skip (Run.guardVal_neg (by texts))]
    iterate 7 rw [Run.run_step rfl (by texts) (by texts)]
    iterate 2 rw [Run.run_step (Run.guardVal_pos (by texts)) (by texts) (by texts)]
    rw [Run.run_nil, Option.map_some]
    simp [Seq.MineSt.init, Seq.MineSt.particle, Sed.Mine.update, hA]
end

section
open Ladim.Chemicals
/-! `update_ibm` of the chemicals IBM.  A configuration switch is split on at the statement it guards; where the branches
meet again the rest of the method is run once, for every particle (`chem_seq_kill` … `chem_seq_vertical`: from statement
13, 12, 10, 7 on it is `update` with the earlier phases switched off). -/

theorem chem_seq_kill (c : Config α) (e : Env α) (d : Draws α) (lc : Seq.LandCollision) (q : Particle α) :
    Seq.run (Seq.chemAtom c lc) (Seq.chemStep c e d) (Gen.chem_update_seq.drop 13) q =
      some (update ⟨c.dt, false, .none, none, c.lifespan, c.fuel, false⟩ e { d with stuck := false } q) := by
  obtain ⟨dt, vertadv, mix, horz, lifespan, fuel, cc⟩ := c
  delta Seq.chemAtom Seq.chemAtom.match_7 Seq.chemStep Seq.chemStep.match_8
  cases lifespan
  · rw [Run.run_at_skip rfl (Run.guardVal_neg (by texts)), Run.run_at_end rfl]
    rfl
  · rw [Run.run_at_step rfl (Run.guardVal_pos (by texts)) (by texts) (by texts), Run.run_at_end rfl]
    rfl

theorem chem_seq_store (c : Config α) (e : Env α) (d : Draws α) (lc : Seq.LandCollision) (q : Particle α) :
    Seq.run (Seq.chemAtom c lc) (Seq.chemStep c e d) (Gen.chem_update_seq.drop 12) q =
      some (update ⟨c.dt, false, .none, none, c.lifespan, c.fuel, false⟩ e { d with stuck := false } q) := by
  have rest := chem_seq_kill c e d lc
  obtain ⟨dt, vertadv, mix, horz, lifespan, fuel, cc⟩ := c
  delta Seq.chemAtom Seq.chemAtom.match_7 Seq.chemStep Seq.chemStep.match_8 at rest ⊢
  cases lc
  · rw [Run.run_at_step rfl (Run.guardVal_pos (by texts)) (by texts) (by texts), rest]
  · rw [Run.run_at_skip rfl (Run.guardVal_neg (by texts)), rest]
  · rw [Run.run_at_skip rfl (Run.guardVal_neg (by texts)), rest]

theorem chem_seq_horizontal (c : Config α) (e : Env α) (d : Draws α) (lc : Seq.LandCollision) (q : Particle α) :
    Seq.run (Seq.chemAtom c lc) (Seq.chemStep c e d) (Gen.chem_update_seq.drop 10) q =
      some (update ⟨c.dt, false, .none, c.horz, c.lifespan, c.fuel, false⟩ e { d with stuck := false } q) := by
  have rest := chem_seq_store c e d lc
  obtain ⟨dt, vertadv, mix, horz, lifespan, fuel, cc⟩ := c
  delta Seq.chemAtom Seq.chemAtom.match_7 Seq.chemStep Seq.chemStep.match_8 at rest ⊢
  cases horz with
  | none =>
    rw [Run.run_at_skip rfl (Run.guardVal_neg (by texts)), Run.run_at_skip rfl (Run.guardVal_neg (by texts)), rest]
  | some h =>
    obtain ⟨hmin, hmax⟩ := h
    rw [Run.run_at_step rfl (Run.guardVal_pos (by texts)) (by texts) (by texts),
      Run.run_at_step rfl (Run.guardVal_pos (by texts)) (by texts) (by texts), rest]
    simp only [update, horizontal, vertical, Bool.false_eq_true, if_false]
    generalize e.ingrid _ _ = b
    cases b <;> rfl

theorem chem_seq_vertical (c : Config α) (e : Env α) (d : Draws α) (lc : Seq.LandCollision) (q : Particle α) :
    Seq.run (Seq.chemAtom c lc) (Seq.chemStep c e d) (Gen.chem_update_seq.drop 7) q =
      some (update ⟨c.dt, c.vertadv, c.mix, c.horz, c.lifespan, c.fuel, false⟩ e { d with stuck := false } q) := by
  have rest := chem_seq_horizontal c e d lc
  obtain ⟨dt, vertadv, mix, horz, lifespan, fuel, cc⟩ := c
  delta Seq.chemAtom Seq.chemAtom.match_7 Seq.chemStep Seq.chemStep.match_8 at rest ⊢
  cases vertadv <;> cases mix
  · rw [Run.run_at_skip rfl (Run.guardVal_neg (by texts)), Run.run_at_skip rfl (Run.guardVal_neg (by texts)),
      Run.run_at_skip rfl ((Run.guardVal_cons_pos (by texts)).trans (Run.guardVal_neg (by texts))), rest]
  · rw [Run.run_at_skip rfl (Run.guardVal_neg (by texts)), Run.run_at_skip rfl (Run.guardVal_neg (by texts)),
      Run.run_at_step rfl ((Run.guardVal_cons_pos (by texts)).trans (Run.guardVal_pos (by texts))) (by texts)
        (by texts), rest]; rfl
  · rw [Run.run_at_skip rfl (Run.guardVal_neg (by texts)),
      Run.run_at_step rfl (Run.guardVal_pos (by texts)) (by texts) (by texts),
      Run.run_at_skip rfl (Run.guardVal_cons_neg (by texts)), rest]; rfl
  · rw [Run.run_at_step rfl (Run.guardVal_pos (by texts)) (by texts) (by texts),
      Run.run_at_skip rfl (Run.guardVal_neg (by texts)),
      Run.run_at_skip rfl ((Run.guardVal_cons_pos (by texts)).trans (Run.guardVal_neg (by texts))), rest]; rfl
  · rw [Run.run_at_step rfl (Run.guardVal_pos (by texts)) (by texts) (by texts),
      Run.run_at_skip rfl (Run.guardVal_neg (by texts)),
      Run.run_at_step rfl ((Run.guardVal_cons_pos (by texts)).trans (Run.guardVal_pos (by texts))) (by texts)
        (by texts), rest]; rfl
  · rw [Run.run_at_step rfl (Run.guardVal_pos (by texts)) (by texts) (by texts),
      Run.run_at_step rfl (Run.guardVal_pos (by texts)) (by texts) (by texts),
      Run.run_at_skip rfl (Run.guardVal_cons_neg (by texts)), rest]; rfl

theorem chem_update_seq (c : Config α) (e : Env α) (d : Draws α) (p : Particle α) (lc : Seq.LandCollision)
    (hclamp : c.collisionClamp = decide (lc ≠ .other)) (hstuck : lc = .other → d.stuck = false) :
    Seq.run (Seq.chemAtom c lc) (Seq.chemStep c e d) Gen.chem_update_seq p = some (update c e d p) := by
  have rest := chem_seq_vertical c e d lc
  obtain ⟨dt, vertadv, mix, horz, lifespan, fuel, cc⟩ := c
  simp only at hclamp
  subst hclamp
  show Seq.run _ _ (Gen.chem_update_seq.drop 0) p = _
  delta Seq.chemAtom Seq.chemAtom.match_7 Seq.chemStep Seq.chemStep.match_8 at rest ⊢
  iterate 3 rw [Run.run_at_step rfl rfl (by texts) (by texts)]
  cases lc
  · rw [Run.run_at_step rfl (Run.guardVal_pos (by texts)) (by texts) (by texts),
      Run.run_at_step rfl (Run.guardVal_pos (by texts)) (by texts) (by texts),
      Run.run_at_skip rfl (Run.guardVal_cons_neg (by texts)), Run.run_at_skip rfl (Run.guardVal_cons_neg (by texts)),
      rest]; rfl
  · rw [Run.run_at_skip rfl (Run.guardVal_neg (by texts)), Run.run_at_skip rfl (Run.guardVal_neg (by texts)),
      Run.run_at_step rfl ((Run.guardVal_cons_pos (by texts)).trans (Run.guardVal_pos (by texts))) (by texts)
        (by texts),
      Run.run_at_step rfl ((Run.guardVal_cons_pos (by texts)).trans (Run.guardVal_pos (by texts))) (by texts)
        (by texts), rest]; rfl
  · rw [Run.run_at_skip rfl (Run.guardVal_neg (by texts)), Run.run_at_skip rfl (Run.guardVal_neg (by texts)),
      Run.run_at_skip rfl ((Run.guardVal_cons_pos (by texts)).trans (Run.guardVal_neg (by texts))),
      Run.run_at_skip rfl ((Run.guardVal_cons_pos (by texts)).trans (Run.guardVal_neg (by texts))), rest]
    obtain ⟨stuck, repX, repY, vert, hx, hy⟩ := d
    cases hstuck rfl
    rfl
end

end Bridge
