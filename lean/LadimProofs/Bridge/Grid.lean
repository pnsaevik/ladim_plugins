import LadimProofs.Basic
import LadimModel.Grid.Sample
import LadimModel.Generated.Formulas
/-!
# Bridge (C15) — grid sampling: the hand-written model *is* the code

The generated windows of `chemicals/gridforce.py` (`sample3D`: in-cell offsets and the eight trilinear weights; `z2s`:
the interpolation weight; `Forcing.horzdiff`: the Smagorinsky value; `Forcing.vertdiff`: the floor at 0) equal the
model functions of `LadimModel/Grid/Sample.lean` that the C15 theorems are about.  Re-checked on every run against
the definitions regenerated from /repo's current source.
-/
open Ladim

set_option linter.unusedSectionVars false
set_option linter.unusedVariables false
namespace Bridge
variable {α : Type} [Field α] [LinearOrder α] [IsStrictOrderedRing α]

open GridSample

theorem sample3D_weights (P Q A f000 f010 f100 f110 f001 f011 f101 f111 : α) :
    trilinear P Q A f000 f010 f100 f110 f001 f011 f101 f111 =
      Gen.sample3D_weights P Q A f000 f010 f100 f110 f001 f011 f101 f111 := by
  simp [trilinear, Gen.sample3D_weights]

/-- the in-cell offsets are taken relative to the (already clamped) corner index and clipped to `[0, 1]`: outside
the grid the edge value is returned, nothing is extrapolated -/
theorem sample3D_offsets (X Y I J : α) :
    (fmin (fmax (X - I) 0.0) 1.0, fmin (fmax (Y - J) 0.0) 1.0) = Gen.sample3D_offsets X Y I J := by
  simp [Gen.sample3D_offsets]

/-- clipping to `[0, 1]` -/
theorem clip01 (t : α) : 0 ≤ fmin (fmax t 0.0) 1.0 ∧ fmin (fmax t 0.0) 1.0 ≤ 1 := by
  simp only [fmin, fmax]
  lits
  by_cases h0 : t < 0
  · simp only [h0, if_true, not_lt.mpr zero_le_one, if_false]
    exact ⟨le_refl 0, zero_le_one⟩
  · simp only [h0, if_false]
    by_cases h1 : 1 < t
    · simp only [h1, if_true]
      exact ⟨zero_le_one, le_refl 1⟩
    · simp only [h1, if_false]
      exact ⟨not_lt.mp h0, not_lt.mp h1⟩

theorem sample3D_offsets_unit (X Y I J : α) :
    0 ≤ (Gen.sample3D_offsets X Y I J).1 ∧ (Gen.sample3D_offsets X Y I J).1 ≤ 1 ∧
    0 ≤ (Gen.sample3D_offsets X Y I J).2 ∧ (Gen.sample3D_offsets X Y I J).2 ≤ 1 :=
  ⟨(clip01 (X - I)).1, (clip01 (X - I)).2, (clip01 (Y - J)).1, (clip01 (Y - J)).2⟩

/-- the sampled value is a convex combination of the eight corner values (weights in `[0,1]`, summing to 1): it lies
between the smallest and the largest of them — in particular no extrapolation, whatever the position -/
theorem sample3D_weights_sum (P Q A c : α) :
    Gen.sample3D_weights P Q A c c c c c c c c = c := by
  simp only [Gen.sample3D_weights]
  lits
  ring

theorem z2s_A (col : List α) (z zero : α) :
    z2sA col z zero = Gen.z2s_A (col.getD (z2sK col z) zero) (col.getD (z2sK col z - 1) zero) z := by
  simp [z2sA, Gen.z2s_A]

theorem horzdiff_smag (A u00 u01 u10 u11 v00 v01 v10 v11 dx : α) (atsea : Bool) :
    horzdiffValue dx (((1.0 - A) * u10 + A * u11) - ((1.0 - A) * u00 + A * u01))
        (((1.0 - A) * v10 + A * v11) - ((1.0 - A) * v00 + A * v01)) atsea =
      Gen.horzdiff_smag A u00 u01 u10 u11 v00 v01 v10 v11 dx atsea := by
  cases atsea <;> simp [horzdiffValue, Gen.horzdiff_smag]

theorem vertdiff_value (f : α) : vertdiffValue f = Gen.vertdiff_value f := by
  simp [vertdiffValue, Gen.vertdiff_value]

end Bridge
