import LadimModel.Post.RasterSeq
/-!
# Bridge (C19) — post-processing: the statement sequences of the code, interpreted, are the hand-written model

`LadimModel/Post/RasterSeq.lean` interprets the generated statement sequences of `utils/rasterize.py ::
from_particles`, `_from_particle` and `utils/converter.py :: ladim_file_to_sqlite`, `add_particle_values`,
`add_instance_values` (every statement, condition and `return` expression must be a known text; the `for` loops are
really iterated).  This file proves what the interpretations return.  Core Lean only (no Mathlib); no field or order
laws of the scalar type are used, the statements hold for every scalar type, `Float` included.

* `Bridge.from_particles` (no hypotheses): `from_particles` = `_from_particle` applied to `slicefnOf` / `tvalsOf`; in
  the sparse branch `slicefn t` *is* `(Post.slotSlices particle_count rows)[t]?` (`sparse_slice`,
  `slotSlices_getElem?`: slot `t` = the Python slice `[indptr[t], indptr[t+1])`, `indptr = cumsum([0] + count)`,
  first pointer `0`; `from_particles_indptr`).  `from_particles_sparse(_all)` (hypotheses: a `particle_count` entry
  for every `time` entry, at least one time slot): one raster per slot, in order, empty slots included.
  `from_particle_no_slot`: without any time slot the code raises (`field[:, i]` on a one-dimensional `np.array([])`).
* `Bridge.from_particle` (no hypotheses): `_from_particle` = `fpSpec` (closed form; `reverseAxes_flipAxes`: exactly the
  decreasing axes are reversed for `histogramdd` and flipped back).  With the library calls instantiated by the model's
  histogram (`modelHistdd` from `Post.cellOf`, `modelFlip`): `hist1_model_val`, and in one dimension
  `hist1_one_count` / `hist1_one_weight` = `Post.countBin` / `Post.weightBin`.
* `Bridge.add_instance_values`: the appended rows are `Post.instanceRows` (hypotheses: the `particle_instance`
  variables have the length `n` of their dimension, `sum(particle_count) ≤ n`, a time stamp for every slot).
* `Bridge.add_particle_values`: one row per index of the `particle` dimension (closed form; the model has no
  counterpart).  `Bridge.ladim_file_to_sqlite`: tables created once, `particle` filled once from the first file,
  instance rows of every file appended in file order (closed form over the two results above).
-/
open Ladim Ladim.Post Ladim.Seq Ladim.Seq.Loops

set_option linter.unusedSimpArgs false
set_option linter.unusedVariables false
set_option linter.unusedSectionVars false

namespace Bridge

/-! ## the runner -/
section runner
variable {σ : Type}

/-! One statement of the runner, as rewriting rules.  A program is run by `simp` with these rules: the guard is
evaluated where it stands, then `plainThen_skip` / `plainThen_exec` pick the branch; the continuations are partial
applications (`runBlocks I rest`), so that only the branch taken is ever expanded.  The step functions are unfolded
with `step.eq_def` and their `match` on the statement text is decided by `String.reduceEq`, literal against literal:
neither the elaborator nor the kernel evaluates a string comparison.  (Reducing the runner's own `match` on the
outcome of a step definitionally would make the kernel evaluate that step by `whnf` where the two sides meet; hence
rules with proofs, and `simp -implicitDefEqProofs`.) -/

theorem guardEnter_nil {I : Interp σ} {s : σ} : guardEnter I s [] = some (some s) := by rw [guardEnter]

theorem guardEnter_cons {I : Interp σ} {s : σ} {pos : Bool} {c : String} {g : List Cond} :
    guardEnter I s ((pos, c) :: g) =
      if I.isLoop c then (if pos then guardEnter I s g else none)
      else (I.cond s c).bind fun bs => if bs.1 == pos then guardEnter I bs.2 g else some none := by
  rw [guardEnter]
  cases I.cond s c <;> rfl

/-- what the runners do with a statement, given the outcome of its guard: `skip` = the rest of the program when the
guard is false, `next` = the rest after the statement has been executed -/
def plainThen (I : Interp σ) (k t : String) (skip next : σ → Option (Option σ)) (s : σ) :
    Option (Option σ) → Option (Option σ)
  | none => none
  | some none => skip s
  | some (some s1) => (I.step s1 k t).bind (·.elim (some none) next)

theorem plainThen_skip {I : Interp σ} {k t : String} {skip next : σ → Option (Option σ)} {s : σ} :
    plainThen I k t skip next s (some none) = skip s := by rw [plainThen]

theorem plainThen_exec {I : Interp σ} {k t : String} {skip next : σ → Option (Option σ)} {s s1 : σ} :
    plainThen I k t skip next s (some (some s1)) = (I.step s1 k t).bind (·.elim (some none) next) := by rw [plainThen]

theorem runBlocks_nil {I : Interp σ} : runBlocks I [] = fun s => some (some s) := by
  funext s
  rw [runBlocks]

theorem runBlocks_cons_plain {I : Interp σ} {g : List Cond} {k t : String} {rest : List Block} {s : σ} :
    runBlocks I (.plain (g, k, t) :: rest) s =
      plainThen I k t (runBlocks I rest) (if k = "return" then fun s' => some (some s') else runBlocks I rest) s
        (guardEnter I s g) := by
  rw [runBlocks]
  rcases guardEnter I s g with _ | _ | s1
  · rfl
  · rfl
  · simp only [plainThen]
    rcases I.step s1 k t with _ | _ | s' <;> by_cases hk : k = "return" <;> simp [hk]

/-- a statement that runs is a known one -/
theorem step_isSome_of_runBlocks {I : Interp σ} {k t : String} {s : σ}
    (h : runBlocks I [.plain ([], k, t)] s ≠ none) : (I.step s k t).isSome = true := by
  rw [runBlocks_cons_plain, guardEnter_nil, plainThen_exec] at h
  cases hs : I.step s k t with
  | none => exact absurd (by rw [hs]; rfl) h
  | some _ => rfl

/-- a loop whose outer guard holds in every state and binds nothing -/
theorem runBlocks_cons_loop {I : Interp σ} {c : String} {body : List Stmt} {rest : List Block}
    (hg : ∀ s, guardEnter I s (outerGuard I.isLoop body) = some (some s)) :
    runBlocks I (.loop c body :: rest) = fun s =>
      (iterate (fun s i => runBody I body (I.bind s c i)) (I.trips s c) 0 s).bind
        (·.elim (some none) (runBlocks I rest)) := by
  funext s
  simp only [runBlocks, hg]
  rcases iterate _ _ _ _ with _ | _ | s' <;> rfl

theorem runBody_nil {I : Interp σ} : runBody I [] = fun s => some (some s) := by
  funext s
  rw [runBody]

theorem runBody_cons {I : Interp σ} {g : List Cond} {k t : String} {rest : List Stmt} {s : σ}
    (hk : (k = "return") = False) :
    runBody I ((g, k, t) :: rest) s = plainThen I k t (runBody I rest) (runBody I rest) s (guardEnter I s g) := by
  rw [runBody]
  rcases guardEnter I s g with _ | _ | s1
  · rfl
  · rfl
  · simp only [plainThen, hk, if_false]
    rcases I.step s1 k t with _ | _ | s' <;> rfl

/-- the end of a run: the outcome of the last statement is the outcome of the run -/
theorem elim_some_some (x : Option σ) : x.elim (some none) (fun s => some (some s)) = some x := by
  cases x <;> rfl

theorem bind_elim_some_some (r : Option (Option σ)) : r.bind (·.elim (some none) fun s => some (some s)) = r := by
  rcases r with _ | _ | s <;> rfl

theorem loopOf_noLoop (g : List Cond) : loopOf (fun _ => false) g = none := by
  induction g with
  | nil => rfl
  | cons c g ih => simp only [loopOf, Bool.false_eq_true, if_false, ih]

/-- without loops every statement is a block of its own -/
theorem blocks_noLoop (prog : List Stmt) : blocks (fun _ => false) prog = prog.map .plain := by
  induction prog with
  | nil => rfl
  | cons st rest ih => simp only [blocks, loopOf_noLoop, ih, List.map_cons]

/-- a loop whose trips neither raise nor fail is a fold over the trip numbers -/
theorem iterate_pure (body : σ → Nat → Option (Option σ)) (f : σ → Nat → σ)
    (h : ∀ s i, body s i = some (some (f s i))) :
    ∀ (n i : Nat) (s : σ), iterate body n i s = some (some ((List.range' i n).foldl f s))
  | 0, _, _ => rfl
  | n + 1, i, s => by
    simp only [iterate, h, List.range'_succ, List.foldl_cons]
    exact iterate_pure body f h n (i + 1) (f s i)

theorem iterate_succ {body : σ → Nat → Option (Option σ)} {n i : Nat} {s s' : σ} (h : body s i = some (some s')) :
    iterate body (n + 1) i s = iterate body n (i + 1) s' := by rw [iterate, h]

/-- the same under an invariant of the loop -/
theorem iterate_pure_inv (body : σ → Nat → Option (Option σ)) (f : σ → Nat → σ) (Inv : σ → Prop)
    (h : ∀ s i, Inv s → body s i = some (some (f s i)) ∧ Inv (f s i)) :
    ∀ (n i : Nat) (s : σ), Inv s → iterate body n i s = some (some ((List.range' i n).foldl f s))
  | 0, _, _, _ => rfl
  | n + 1, i, s, hs => by
    simp only [iterate, (h s i hs).1, List.range'_succ, List.foldl_cons]
    exact iterate_pure_inv body f Inv h n (i + 1) (f s i) (h s i hs).2

end runner

/-! ## lists -/
section lists
variable {α β : Type}

theorem cumsumFrom_length (acc : Nat) (l : List Nat) : (cumsumFrom acc l).length = l.length := by
  induction l generalizing acc with
  | nil => rfl
  | cons x xs ih => simp [cumsumFrom, ih]

/-- entry `i` of `[acc] ++ (acc + cumsum l)` is `acc` plus the sum of the first `i` counts -/
theorem cum_get (l : List Nat) : ∀ (acc i : Nat), i ≤ l.length →
    (acc :: cumsumFrom acc l)[i]? = some (acc + (l.take i).sum) := by
  induction l with
  | nil => intro acc i h; have : i = 0 := by simpa using h
           subst this; simp
  | cons x xs ih =>
    intro acc i h
    cases i with
    | zero => simp
    | succ i =>
      simp only [cumsumFrom, List.getElem?_cons_succ, List.take_succ_cons, List.sum_cons]
      rw [ih (acc + x) i (by simpa using h)]
      simp [Nat.add_assoc]

theorem cum_get_none (l : List Nat) (acc i : Nat) (h : l.length < i) :
    (acc :: cumsumFrom acc l)[i]? = none := by
  apply List.getElem?_eq_none
  simp [cumsumFrom_length]; omega

theorem pySlice_getElem? (l : List β) (a b j : Nat) :
    (pySlice l a b)[j]? = if a + j < b then l[a + j]? else none := by
  unfold pySlice
  rw [List.getElem?_drop, List.getElem?_take]

theorem pySlice_length (l : List β) (a b : Nat) (h : b ≤ l.length) : (pySlice l a b).length = b - a := by
  unfold pySlice
  simp [List.length_drop, List.length_take, Nat.min_eq_left h]

/-- slot `t` of the model's slicing is the Python slice between the cumulative counts `ptr[t]`, `ptr[t+1]`
(`ptr = [acc] ++ (acc + cumsum counts)`), and there are exactly `len(counts)` slots -/
theorem slotSlices_getElem? (counts : List Nat) : ∀ (data : List β) (acc t : Nat),
    (slotSlices counts (data.drop acc))[t]? =
      match (acc :: cumsumFrom acc counts)[t]?, (acc :: cumsumFrom acc counts)[t + 1]? with
      | some a, some b => some (pySlice data a b)
      | _, _ => none := by
  induction counts with
  | nil =>
    intro data acc t
    simp only [slotSlices, cumsumFrom, List.getElem?_nil, List.getElem?_cons_succ]
    cases [acc][t]? <;> rfl
  | cons c cs ih =>
    intro data acc t
    cases t with
    | zero =>
      simp only [slotSlices, cumsumFrom, List.getElem?_cons_zero, List.getElem?_cons_succ, pySlice]
      rw [List.drop_take]
      simp
    | succ t =>
      simp only [slotSlices, cumsumFrom, List.getElem?_cons_succ, List.drop_drop]
      exact ih data (acc + c) t

theorem rowAt_cons_some (c : List α) (cs : List (List α)) (j : Nat) (x : α) (h : c[j]? = some x) :
    rowAt (c :: cs) j = x :: rowAt cs j := by
  simp [rowAt, List.filterMap_cons, h]

theorem rowAt_length (cols : List (List α)) (j : Nat) (h : ∀ c ∈ cols, j < c.length) :
    (rowAt cols j).length = cols.length := by
  induction cols with
  | nil => rfl
  | cons c cs ih =>
    have hj : j < c.length := h c (by simp)
    rw [rowAt_cons_some c cs j c[j] (by simp [hj])]
    simp [ih (fun c' hc' => h c' (by simp [hc']))]

theorem rowAt_slices (cols : List (List α)) (a b j : Nat) (h : a + j < b) :
    rowAt (cols.map (fun c => pySlice c a b)) j = rowAt cols (a + j) := by
  induction cols with
  | nil => rfl
  | cons c cs ih =>
    simp only [rowAt, List.map_cons, List.filterMap_cons, pySlice_getElem?, h, if_true] at ih ⊢
    rw [ih]

/-- `np.array(cols).T.tolist()` for columns of one length `n` (at least one column): `n` rows -/
theorem npRows_of_length (c : List α) (cs : List (List α)) (n : Nat) (h : ∀ c' ∈ c :: cs, c'.length = n) :
    npRows (c :: cs) = some ((List.range n).map (rowAt (c :: cs))) := by
  have hc : c.length = n := h c (by simp)
  have hall : cs.all (fun c' => c'.length == c.length) = true := by
    rw [List.all_eq_true]
    intro c' hc'
    simp [h c' (by simp [hc']), hc]
  rw [hc] at hall
  simp only [npRows, hc, hall, if_true]

theorem map_range_drop_take {γ : Type} (g : Nat → γ) (n a c : Nat) (h : a + c ≤ n) :
    (((List.range n).map g).drop a).take c = (List.range c).map (fun j => g (a + j)) := by
  apply List.ext_getElem?
  intro j
  by_cases hj : j < c
  · have : a + j < n := by omega
    simp [List.getElem?_take, List.getElem?_drop, hj, this]
  · simp [List.getElem?_take, hj]

theorem sum_take_succ (l : List Nat) (i : Nat) (h : i < l.length) :
    (l.take (i + 1)).sum = (l.take i).sum + l[i] := by
  rw [List.take_add_one, List.sum_append, List.getElem?_eq_getElem h]
  simp

theorem sum_take_le (l : List Nat) (i : Nat) : (l.take i).sum ≤ l.sum := by
  conv => rhs; rw [← List.take_append_drop i l]
  rw [List.sum_append]; omega

theorem instanceRows_cons {τ : Type} (t : τ) (ts : List τ) (c : Nat) (cs : List Nat) (d : List β) :
    instanceRows (t :: ts) (c :: cs) d = (d.take c).map (fun x => (t, x)) ++ instanceRows ts cs (d.drop c) := by
  simp [instanceRows, slotSlices]

theorem instanceRows_nil {τ : Type} (ts : List τ) (d : List β) : instanceRows ts [] d = [] := by
  simp [instanceRows, slotSlices]

/-- the rows that one time slot contributes: `np.array([tvals] + [col[a:a+c] for col in cols]).T.tolist()` is the slice
`[a, a+c)` of the rows of `cols`, each with the time stamp in front; every row has `1 + len(cols)` entries -/
theorem npRows_slot (cols : List (List α)) (n a c : Nat) (t : α) (hcols : ∀ col ∈ cols, col.length = n)
    (h : a + c ≤ n) :
    npRows (List.replicate c t :: cols.map (fun col => pySlice col a (a + c))) =
        some (((((List.range n).map (rowAt cols)).drop a).take c).map (fun r => t :: r)) ∧
      ∀ r ∈ ((((List.range n).map (rowAt cols)).drop a).take c).map (fun r => t :: r), r.length = 1 + cols.length := by
  have hlen : ∀ c' ∈ List.replicate c t :: cols.map (fun col => pySlice col a (a + c)), c'.length = c := by
    intro c' hc'
    simp only [List.mem_cons, List.mem_map] at hc'
    rcases hc' with rfl | ⟨col, hcol, rfl⟩
    · simp
    · rw [pySlice_length _ _ _ (by rw [hcols col hcol]; exact h)]; omega
  rw [map_range_drop_take _ _ _ _ h, List.map_map]
  refine ⟨?_, ?_⟩
  · rw [npRows_of_length _ _ c hlen]
    congr 1
    apply List.map_congr_left
    intro j hj
    have hj' : j < c := by simpa using hj
    rw [rowAt_cons_some _ _ j t (by simp [hj']), rowAt_slices _ _ _ _ (by omega)]
    rfl
  · intro r hr
    simp only [List.mem_map, List.mem_range, Function.comp] at hr
    obtain ⟨j, hj, rfl⟩ := hr
    rw [List.length_cons, rowAt_length _ _ (fun col hcol => by rw [hcols col hcol]; omega)]
    omega

end lists

/-! ## `converter.py` -/
section sqlite
variable {α : Type}

def ivHdr : String := "for tidx in range(len(cum_count) - 1)"
def ivBody : List Stmt := Gen.sqlite_instances_seq.drop 3

/-- what the three statements before the loop establish -/
structure IvInv (f : LadimFile α) (s : IvSt α) : Prop where
  cum : s.cumCount = 0 :: cumsum f.count
  cols : s.cols = f.icols
  arity : s.arity = 1 + f.icols.length

def instData (f : LadimFile α) (n : Nat) : List (List α) := (List.range n).map (rowAt (f.icols.map (·.2)))

def instRowsModel (f : LadimFile α) (n : Nat) : List (List α) :=
  (instanceRows f.time f.count (instData f n)).map (fun r => r.1 :: r.2)

theorem iv_trip_ok (f : LadimFile α) (n : Nat) (hcols : ∀ c ∈ f.icols, c.2.length = n) (hsum : f.count.sum ≤ n)
    (s : IvSt α) (hs : IvInv f s) (i : Nat) (hi : i < f.count.length) (t : α) (ht : f.time[i]? = some t) :
    ∃ s', runBody (ivInterp f) ivBody ((ivInterp f).bind s ivHdr i) = some (some s') ∧ IvInv f s' ∧
      s'.db = ⟨s.db.tables, s.db.particle, s.db.inst ++
        (((instData f n).drop (f.count.take i).sum).take f.count[i]).map (fun r => t :: r)⟩ := by
  have ha : s.cumCount[i]? = some (f.count.take i).sum := by
    rw [hs.cum]
    simpa [cumsum] using cum_get f.count 0 i (by omega)
  have hb : s.cumCount[i + 1]? = some ((f.count.take i).sum + f.count[i]) := by
    rw [hs.cum, ← sum_take_succ _ _ hi]
    simpa [cumsum] using cum_get f.count 0 (i + 1) (by omega)
  have hle : (f.count.take i).sum + f.count[i] ≤ n := by
    have := sum_take_le f.count (i + 1)
    rw [sum_take_succ _ _ hi] at this
    omega
  have hmap : s.cols.map (fun c => pySlice c.2 (f.count.take i).sum ((f.count.take i).sum + f.count[i])) =
      (f.icols.map (·.2)).map (fun col => pySlice col (f.count.take i).sum ((f.count.take i).sum + f.count[i])) := by
    rw [hs.cols, List.map_map]; rfl
  obtain ⟨hrows, hlen⟩ := npRows_slot (f.icols.map (·.2)) n (f.count.take i).sum f.count[i] t
    (by intro col hcol
        simp only [List.mem_map] at hcol
        obtain ⟨c, hc, rfl⟩ := hcol
        exact hcols c hc) hle
  have hall : ((((instData f n).drop (f.count.take i).sum).take f.count[i]).map (fun r => t :: r)).all
      (fun r => r.length == s.arity) = true := by
    rw [List.all_eq_true]
    intro r hr
    have := hlen r hr
    simp [this, hs.arity]
  simp only [instData] at hall
  have hI := ivInterp.eq_1 f
  have hst := ivStep.eq_def f
  have hl := ivIsLoop.eq_def
  unfold ivIsLoop.match_1 at hI hl
  unfold ivStep.match_3 at hst
  simp -implicitDefEqProofs only [ivBody, ivHdr, Gen.sqlite_instances_seq, List.drop_succ_cons, List.drop_zero, hI, hl, hst,
    String.reduceEq, ↓reduceDIte, ↓reduceIte, runBody_cons, runBody_nil, plainThen_exec, guardEnter_cons, guardEnter_nil,
    Option.bind_some, Option.elim_some, ha, hb, ht, Nat.add_sub_cancel_left, hmap, hrows, hall]
  exact ⟨_, rfl, ⟨hs.cum, hs.cols, hs.arity⟩, rfl⟩
/-- the loop of `add_instance_values` from trip `i` on: the slots `i, i+1, …` of the model's row list are appended -/
theorem iv_loop (f : LadimFile α) (n : Nat) (hcols : ∀ c ∈ f.icols, c.2.length = n) (hsum : f.count.sum ≤ n)
    (htime : f.count.length ≤ f.time.length) :
    ∀ (m i : Nat) (s : IvSt α), IvInv f s → i + m = f.count.length →
      ∃ s', iterate (fun s i => runBody (ivInterp f) ivBody ((ivInterp f).bind s ivHdr i)) m i s = some (some s') ∧
        s'.db = ⟨s.db.tables, s.db.particle, s.db.inst ++
          (instanceRows (f.time.drop i) (f.count.drop i) ((instData f n).drop (f.count.take i).sum)).map
            (fun r => r.1 :: r.2)⟩ := by
  intro m
  induction m with
  | zero =>
    intro i s hs him
    refine ⟨s, rfl, ?_⟩
    have : f.count.drop i = [] := List.drop_eq_nil_of_le (by omega)
    rw [this, instanceRows_nil]
    simp
  | succ m ih =>
    intro i s hs him
    have hi : i < f.count.length := by omega
    have hit : i < f.time.length := by omega
    obtain ⟨s1, h1, hs1, hdb1⟩ := iv_trip_ok f n hcols hsum s hs i hi f.time[i] (by simp [hit])
    obtain ⟨s2, h2, hdb2⟩ := ih (i + 1) s1 hs1 (by omega)
    refine ⟨s2, (iterate_succ ?_).trans h2, ?_⟩
    · exact h1
    · rw [hdb2, hdb1, List.drop_eq_getElem_cons hi, List.drop_eq_getElem_cons hit, instanceRows_cons,
        sum_take_succ _ _ hi, List.drop_drop]
      simp [List.map_append, List.append_assoc, Function.comp_def]

/-- the three statements before the loop, and the loop as one block -/
theorem iv_run (f : LadimFile α) (db : Db α) :
    Loops.run (ivInterp f) Gen.sqlite_instances_seq ⟨db, [], [], 0, 0, (0, 0), [], []⟩ =
      iterate (fun s i => runBody (ivInterp f) ivBody ((ivInterp f).bind s ivHdr i))
        ((0 :: cumsum f.count).length - 1) 0 ⟨db, 0 :: cumsum f.count, f.icols, 1 + f.icols.length, 0, (0, 0), [], []⟩ := by
  have hI := ivInterp.eq_1 f
  have hst := ivStep.eq_def f
  have hl := ivIsLoop.eq_def
  unfold ivIsLoop.match_1 at hI hl
  unfold ivStep.match_3 at hst
  simp -implicitDefEqProofs only [Loops.run, ivBody, ivHdr, Gen.sqlite_instances_seq, List.drop_succ_cons, List.drop_zero,
    List.all_cons, List.all_nil, stmtKnown, condKnown, blocks, loopOf, outerGuard, List.takeWhile, Bool.not_true, hI, hl,
    hst, String.reduceEq, ↓reduceDIte, ↓reduceIte,
    runBlocks_cons_plain, runBlocks_cons_loop, runBlocks_nil, plainThen_exec, guardEnter_nil,
    Option.bind_some, Option.elim_some, Option.isSome_some, Bool.and_self, Bool.and_true, bind_elim_some_some, implies_true]

/-- **`add_instance_values`** (`Gen.sqlite_instances_seq`).  For a file whose `particle_instance` variables all have
length `n`, with `sum(particle_count) ≤ n` and a time stamp for every slot: the rows appended to the
`particle_instance` table are exactly the rows of the hand-written model (`Post.instanceRows`: every instance of slot
`t`, in file order, with the time stamp of slot `t`); the slices start at `0` — `instance_offset` is not read; nothing
else in the database changes. -/
theorem add_instance_values (f : LadimFile α) (n : Nat) (hcols : ∀ c ∈ f.icols, c.2.length = n)
    (hsum : f.count.sum ≤ n) (htime : f.count.length ≤ f.time.length) (db : Db α) :
    addInstanceValuesSeq f db = some (some ⟨db.tables, db.particle, db.inst ++ instRowsModel f n⟩) := by
  unfold addInstanceValuesSeq
  rw [iv_run]
  obtain ⟨s', h, hdb⟩ := iv_loop f n hcols hsum htime f.count.length 0
    ⟨db, 0 :: cumsum f.count, f.icols, 1 + f.icols.length, 0, (0, 0), [], []⟩ ⟨rfl, rfl, rfl⟩ (by omega)
  have hl : (0 :: cumsum f.count).length - 1 = f.count.length := by simp [cumsum, cumsumFrom_length]
  rw [hl, h]
  simp only [hdb, instRowsModel]
  simp
/-- `add_particle_values`, all outcomes (straight-line code) -/
theorem pv_run (f : LadimFile α) (db : Db α) :
    addParticleValuesSeq f db =
      match npRows (f.pcols.map (·.2)) with
      | none => some none
      | some rows =>
        if rows.all (fun r => r.length == f.pcols.length) then some (some ⟨db.tables, db.particle ++ rows, db.inst⟩)
        else some none := by
  have hst := pvStep.eq_def f
  unfold pvStep.match_3 at hst
  unfold addParticleValuesSeq
  simp -implicitDefEqProofs only [Loops.run, pvInterp, blocks_noLoop, Gen.sqlite_particles_seq, List.all_cons,
    List.all_nil, stmtKnown, List.map_cons, List.map_nil, hst, String.reduceEq, ↓reduceDIte, ↓reduceIte,
    runBlocks_cons_plain, runBlocks_nil, plainThen_exec, guardEnter_nil, Option.bind_some, Option.elim_some,
    Option.isSome_some, Bool.and_self, elim_some_some]
  cases npRows (f.pcols.map (·.2)) with
  | none => rfl
  | some rows => cases hall : rows.all (fun r => r.length == f.pcols.length) <;> simp [hall]

/-- the rows of the `particle` variables of a file whose `particle` dimension has length `n` -/
def particleData (f : LadimFile α) (n : Nat) : List (List α) := (List.range n).map (rowAt (f.pcols.map (·.2)))

/-- **`add_particle_values`** (`Gen.sqlite_particles_seq`).  For a file with at least one `particle` variable, all of
the length `n` of the `particle` dimension: one row per index `0 … n-1` of the `particle` dimension is appended to the
`particle` table — every particle of the dimension, whatever the values of `pid` (no trimming at `max(pid) + 1`) —
row `j` holding entry `j` of every variable; nothing else changes. -/
theorem add_particle_values (f : LadimFile α) (n : Nat) (hne : f.pcols ≠ []) (hcols : ∀ c ∈ f.pcols, c.2.length = n)
    (db : Db α) :
    addParticleValuesSeq f db = some (some ⟨db.tables, db.particle ++ particleData f n, db.inst⟩) := by
  rw [pv_run]
  have hcols' : ∀ col ∈ f.pcols.map (·.2), col.length = n := by
    intro col hcol
    simp only [List.mem_map] at hcol
    obtain ⟨c, hc, rfl⟩ := hcol
    exact hcols c hc
  cases hp : f.pcols.map (·.2) with
  | nil => simp at hp; exact absurd hp hne
  | cons c cs =>
    rw [hp] at hcols'
    rw [npRows_of_length c cs n hcols']
    have hall : ((List.range n).map (rowAt (c :: cs))).all (fun r => r.length == f.pcols.length) = true := by
      rw [List.all_eq_true]
      intro r hr
      simp only [List.mem_map, List.mem_range] at hr
      obtain ⟨j, hj, rfl⟩ := hr
      rw [rowAt_length _ _ (fun col hcol => by rw [hcols' col hcol]; exact hj), ← hp]
      simp
    simp only [hall, if_true, particleData, hp]

theorem particleData_length (f : LadimFile α) (n : Nat) : (particleData f n).length = n := by
  simp [particleData]

def sqHdr : String := "for ladim_fname in fnames_in"
def sqBody : List Stmt := Gen.sqlite_file_seq.drop 12

structure FileOk (f : LadimFile α) (n : Nat) : Prop where
  cols : ∀ c ∈ f.icols, c.2.length = n
  sum : f.count.sum ≤ n
  time : f.count.length ≤ f.time.length

theorem liftDb_some (s : SqSt α) (db : Db α) : liftDb s (some (some db)) = some (some { s with db := db }) := by
  rw [liftDb]

/-- the loop over the files from trip `i` on: the instance rows of the files `i, i+1, …` are appended in order -/
theorem sq_loop (files : List (LadimFile α)) (nInst : LadimFile α → Nat) (hok : ∀ f ∈ files, FileOk f (nInst f)) :
    ∀ (m i : Nat) (s : SqSt α), s.fnamesIn = files → i + m = files.length →
      ∃ s', iterate (fun s i => runBody (sqInterp files) sqBody ((sqInterp files).bind s sqHdr i)) m i s
          = some (some s') ∧
        s'.db = ⟨s.db.tables, s.db.particle,
          s.db.inst ++ (files.drop i).flatMap (fun f => instRowsModel f (nInst f))⟩ := by
  intro m
  induction m with
  | zero =>
    intro i s hs him
    refine ⟨s, rfl, ?_⟩
    have : files.drop i = [] := List.drop_eq_nil_of_le (by omega)
    simp [this]
  | succ m ih =>
    intro i s hs him
    have hi : i < files.length := by omega
    have hf := hok files[i] (List.getElem_mem hi)
    have h1 : runBody (sqInterp files) sqBody ((sqInterp files).bind s sqHdr i) =
        some (some ⟨⟨s.db.tables, s.db.particle, s.db.inst ++ instRowsModel files[i] (nInst files[i])⟩,
          s.fnamesIn, i, some files[i]⟩) := by
      have hI := sqInterp.eq_1 files
      have hst := sqStep.eq_def files
      have hc := @sqCond.eq_def α
      have hl := sqIsLoop.eq_def
      unfold sqIsLoop.match_1 at hI hl
      unfold sqStep.match_3 at hst
      unfold sqCond.match_1 at hc
      simp -implicitDefEqProofs only [sqBody, sqHdr, Gen.sqlite_file_seq, List.drop_succ_cons, List.drop_zero, hI, hl,
        hst, hc, String.reduceEq, ↓reduceDIte, ↓reduceIte, runBody_cons, runBody_nil, plainThen_exec, guardEnter_cons,
        guardEnter_nil, Option.bind_some, Option.elim_some, beq_self_eq_true, Bool.false_eq_true, hs,
        List.getElem?_eq_getElem hi, liftDb_some, add_instance_values files[i] (nInst files[i]) hf.cols hf.sum hf.time]
    obtain ⟨s2, h2, hdb2⟩ := ih (i + 1)
      ⟨⟨s.db.tables, s.db.particle, s.db.inst ++ instRowsModel files[i] (nInst files[i])⟩, s.fnamesIn, i, some files[i]⟩
      hs (by omega)
    refine ⟨s2, (iterate_succ ?_).trans h2, ?_⟩
    · exact h1
    · rw [hdb2, List.drop_eq_getElem_cons hi]
      simp only [List.flatMap_cons, List.append_assoc]

/-- `ladim_file_to_sqlite`, all outcomes: the statements up to `add_particle_values`, and the loop as one block -/
theorem sq_run (files : List (LadimFile α)) :
    ladimFileToSqliteSeq files =
      files[0]?.elim (some none) fun f0 =>
        (addParticleValuesSeq f0
            ⟨[("particle", f0.pcols.map (·.1)), ("particle_instance", "time" :: f0.icols.map (·.1))], [], []⟩).bind
          (·.elim (some none) fun db =>
            (iterate (fun s i => runBody (sqInterp files) sqBody ((sqInterp files).bind s sqHdr i)) files.length 0
                ⟨db, files, 0, some f0⟩).bind
              (·.elim (some none) fun s => some (some s.db))) := by
  have hI := sqInterp.eq_1 files
  have hst := sqStep.eq_def files
  have hc := @sqCond.eq_def α
  have hl := sqIsLoop.eq_def
  unfold sqIsLoop.match_1 at hI hl
  unfold sqStep.match_3 at hst
  unfold sqCond.match_1 at hc
  have hseq : ladimFileToSqliteSeq files = (Loops.run (sqInterp files) Gen.sqlite_file_seq ⟨Db.empty, [], 0, none⟩).bind
      (·.elim (some none) fun s => some (some s.db)) := by
    unfold ladimFileToSqliteSeq
    rcases Loops.run _ _ _ with _ | _ | s <;> rfl
  rw [hseq]
  simp -implicitDefEqProofs only [Loops.run, sqBody, sqHdr, Gen.sqlite_file_seq, List.drop_succ_cons, List.drop_zero,
    List.all_cons, List.all_nil, stmtKnown, condKnown, blocks, loopOf, outerGuard, List.takeWhile, hI, hl, hst, hc,
    String.reduceEq, ↓reduceDIte, ↓reduceIte, runBlocks_cons_plain, runBlocks_cons_loop, runBlocks_nil, plainThen_exec,
    guardEnter_cons, guardEnter_nil, Option.bind_some, Option.elim_some, Option.isSome_some, Bool.and_self, Bool.and_true,
    Bool.not_true, Bool.not_false, beq_self_eq_true, Bool.false_eq_true, implies_true]
  cases files with
  | nil => simp -implicitDefEqProofs only [List.getElem?_nil, Option.elim_none, Option.bind_some]
  | cons f0 rest =>
    simp -implicitDefEqProofs only [List.getElem?_cons_zero, hI, hl, hst, hc, String.reduceEq, ↓reduceDIte, ↓reduceIte,
      runBlocks_cons_plain, runBlocks_cons_loop, runBlocks_nil, plainThen_exec, guardEnter_cons, guardEnter_nil,
      outerGuard, List.takeWhile, Option.bind_some, Option.elim_some, Bool.not_true, Bool.not_false, beq_self_eq_true,
      Bool.false_eq_true, implies_true, Db.create, Db.empty, List.any_cons, List.any_nil, String.reduceBEq,
      Bool.or_false, List.nil_append, List.cons_append]
    rcases addParticleValuesSeq f0 _ with _ | _ | db <;>
      simp -implicitDefEqProofs only [liftDb, Option.bind_some, Option.bind_none, Option.elim_some, Option.elim_none, bind_elim_some_some]

/-- no input file: `fnames_in[0]` raises `IndexError` -/
theorem ladim_file_to_sqlite_nil : ladimFileToSqliteSeq ([] : List (LadimFile α)) = some none := by
  rw [sq_run]
  rfl

/-- **`ladim_file_to_sqlite`** (`Gen.sqlite_file_seq`, with `Gen.sqlite_particles_seq` and `Gen.sqlite_instances_seq`
for the two calls).  `f0 :: rest` = the files in sorted name order; `np` = length of the `particle` dimension of the
first file, `nInst f` = length of the `particle_instance` dimension of file `f`.  On a fresh database: the two tables
are created once, with the columns of the first file; the `particle` table is filled once, from the first file, with
one row per index of its `particle` dimension; the `particle_instance` table receives the model rows
(`Post.instanceRows`) of every file, file after file, each file sliced from its own position `0` (`instanceOffset` is
not read): the rows of file `k` start at the row number = the number of rows of the files before it. -/
theorem ladim_file_to_sqlite (f0 : LadimFile α) (rest : List (LadimFile α)) (np : Nat) (nInst : LadimFile α → Nat)
    (hp0 : f0.pcols ≠ []) (hp : ∀ c ∈ f0.pcols, c.2.length = np)
    (hok : ∀ f ∈ f0 :: rest, FileOk f (nInst f)) :
    ladimFileToSqliteSeq (f0 :: rest) = some (some
      ⟨[("particle", f0.pcols.map (·.1)), ("particle_instance", "time" :: f0.icols.map (·.1))],
        particleData f0 np,
        (f0 :: rest).flatMap (fun f => instRowsModel f (nInst f))⟩) := by
  obtain ⟨s', h, hdb⟩ := sq_loop (f0 :: rest) nInst hok (f0 :: rest).length 0
    ⟨⟨[("particle", f0.pcols.map (·.1)), ("particle_instance", "time" :: f0.icols.map (·.1))],
      particleData f0 np, []⟩, f0 :: rest, 0, some f0⟩ rfl (by omega)
  rw [sq_run]
  simp -implicitDefEqProofs only [List.getElem?_cons_zero, Option.elim_some, add_particle_values f0 np hp0 hp, Option.bind_some, h, hdb,
    List.drop_zero, List.nil_append]

/-- where the rows of file `k` land in the `particle_instance` table: after the rows of the files before it -/
theorem instance_rows_of_file (files : List (LadimFile α)) (nInst : LadimFile α → Nat) (k : Nat) (hk : k < files.length) :
    ((files.flatMap (fun f => instRowsModel f (nInst f))).drop
        ((files.take k).map (fun f => (instRowsModel f (nInst f)).length)).sum).take
        (instRowsModel files[k] (nInst files[k])).length
      = instRowsModel files[k] (nInst files[k]) := by
  induction files generalizing k with
  | nil => simp at hk
  | cons f fs ih =>
    cases k with
    | zero => simp
    | succ k =>
      simp only [List.flatMap_cons, List.take_succ_cons, List.map_cons, List.sum_cons, List.getElem_cons_succ]
      rw [← List.drop_drop, List.drop_left]
      exact ih k (by simpa using hk)

end sqlite

/-! ## `_from_particle` -/
section fp
variable {α β τ H : Type} [Add α] [Mul α] [LT α] [DecidableLT α] [OfScientific α]

def fpL1 : String := "for tidx in range(len(tvals) if tvals is not None else 1)"
def fpL2 : String := "for (i, vdim) in enumerate(vdims)"
def fpBody1 : List Stmt := (Gen.raster_from_particle_seq.drop 3).take 7
def fpBody2 : List Stmt := (Gen.raster_from_particle_seq.drop 13).take 3

/-- the histogram of one dataset slice `d` for one entry `w` of `vdims`, computed with the edges `histEdges` and
flipped back along the axes `flip` -/
def hist1 (A : HistArgs α β H) (flip : List Nat) (histEdges : List (List α)) (d : List β) (w : Option String) : H :=
  A.npFlip flip (A.histdd (d.map A.coord) histEdges (w.map (fun name => d.map (A.wval name))))

/-- one trip through the first loop (`tidx = t`) -/
def trip1 (A : HistArgs α β H) (slicefn : Nat → Option (List β)) (tvals : Option (List τ))
    (s : FpSt α β τ H) (t : Nat) : Option (Option (FpSt α β τ H)) :=
  runBody (fpInterp A slicefn tvals) fpBody1 ((fpInterp A slicefn tvals).bind s fpL1 t)

theorem fp_trip1 (A : HistArgs α β H) (slicefn : Nat → Option (List β)) (tvals : Option (List τ))
    (s : FpSt α β τ H) (t : Nat) :
    trip1 A slicefn tvals s t =
      match slicefn t with
      | none => some none
      | some d => some (some { s with
          tidx := t, dset := d, coords := d.map A.coord,
          weights := A.vdims.map (fun w => w.map (fun name => d.map (A.wval name))),
          vals := A.vdims.map (hist1 A s.flip s.histEdges d),
          fieldList := s.fieldList ++ [A.vdims.map (hist1 A s.flip s.histEdges d)] }) := by
  have hst := fpStep.eq_def A slicefn tvals
  have hl := fpIsLoop.eq_def
  have hb := @fpBind.eq_def α β τ H
  unfold fpStep.match_7 at hst
  unfold fpIsLoop.match_1 at hl
  unfold fpBind.match_1 at hb
  cases h : slicefn t <;>
    simp -implicitDefEqProofs only [trip1, fpBody1, fpL1, Gen.raster_from_particle_seq, List.drop_succ_cons, List.drop_zero,
      List.take_succ_cons, List.take_zero, fpInterp, hst, hl, hb, String.reduceEq, ↓reduceDIte, ↓reduceIte, runBody_cons,
      runBody_nil, plainThen_exec, guardEnter_cons, guardEnter_nil, Option.bind_some, Option.elim_some, Option.elim_none,
      h, List.map_map, Function.comp_def]
  rfl

/-- the first loop from trip `i` on: one list of histograms (one per entry of `vdims`) is appended per time slot, in
order; the loop raises iff a call of `slicefn` raises -/
theorem fp_loop1 (A : HistArgs α β H) (slicefn : Nat → Option (List β)) (tvals : Option (List τ)) :
    ∀ (n i : Nat) (s : FpSt α β τ H),
      match (List.range' i n).mapM slicefn with
      | none =>
        iterate (trip1 A slicefn tvals) n i s = some none
      | some slots =>
        ∃ s', iterate (trip1 A slicefn tvals) n i s = some (some s') ∧
          s'.fieldList = s.fieldList ++ slots.map (fun d => A.vdims.map (hist1 A s.flip s.histEdges d)) ∧
          s'.flip = s.flip ∧ s'.histEdges = s.histEdges := by
  intro n
  induction n with
  | zero => intro i s; exact ⟨s, rfl, by simp, rfl, rfl⟩
  | succ n ih =>
    intro i s
    simp only [List.range'_succ, List.mapM_cons, iterate, fp_trip1]
    cases hd : slicefn i with
    | none => simp
    | some d =>
      have := ih (i + 1) { s with
          tidx := i, dset := d, coords := d.map A.coord,
          weights := A.vdims.map (fun w => w.map (fun name => d.map (A.wval name))),
          vals := A.vdims.map (hist1 A s.flip s.histEdges d),
          fieldList := s.fieldList ++ [A.vdims.map (hist1 A s.flip s.histEdges d)] }
      cases hm : (List.range' (i + 1) n).mapM slicefn with
      | none =>
        rw [hm] at this
        simpa using this
      | some slots =>
        rw [hm] at this
        obtain ⟨s', h1, h2, h3, h4⟩ := this
        simp only [Option.bind_eq_bind, Option.bind_some, Option.pure_def]
        exact ⟨s', h1, by simp [h2], h3, h4⟩

/-- `'bincount' if vdim is None else vdim` for entry `i` of `vdims` -/
def vdimName (A : HistArgs α β H) (i : Nat) : String :=
  match A.vdims[i]? with | some (some w) => w | _ => "bincount"

/-- one trip through the second loop -/
def trip2 (A : HistArgs α β H) (slicefn : Nat → Option (List β)) (tvals : Option (List τ))
    (s : FpSt α β τ H) (i : Nat) : Option (Option (FpSt α β τ H)) :=
  runBody (fpInterp A slicefn tvals) fpBody2 ((fpInterp A slicefn tvals).bind s fpL2 i)

def step2 (A : HistArgs α β H) (s : FpSt α β τ H) (i : Nat) : FpSt α β τ H :=
  { s with i := i, vdimName := vdimName A i, kdims := "time" :: A.binKeys,
           xvars := dictSet s.xvars (vdimName A i) ("time" :: A.binKeys, s.field.filterMap (·[i]?)) }

/-- one trip of the second loop; `field[:, i]` raises when there is no time slot (`np.array([])` is one-dimensional) -/
theorem fp_trip2 (A : HistArgs α β H) (slicefn : Nat → Option (List β)) (tvals : Option (List τ))
    (s : FpSt α β τ H) (i : Nat) :
    trip2 A slicefn tvals s i = if s.field.isEmpty then some none else some (some (step2 A s i)) := by
  have hst := fpStep.eq_def A slicefn tvals
  have hl := fpIsLoop.eq_def
  have hb := @fpBind.eq_def α β τ H
  unfold fpStep.match_7 at hst
  unfold fpIsLoop.match_1 at hl
  unfold fpBind.match_1 at hb
  cases h : s.field.isEmpty <;>
    simp -implicitDefEqProofs only [trip2, fpBody2, fpL2, Gen.raster_from_particle_seq, List.drop_succ_cons, List.drop_zero,
      List.take_succ_cons, List.take_zero, fpInterp, hst, hl, hb, String.reduceEq, ↓reduceDIte, ↓reduceIte, runBody_cons,
      runBody_nil, plainThen_exec, guardEnter_cons, guardEnter_nil, Option.bind_some, Option.elim_some, Option.elim_none,
      h, Bool.false_eq_true]
  rfl

/-- the second loop: it raises on its first trip when there is no time slot; otherwise a fold over `range(len(vdims))` -/
theorem fp_loop2 (A : HistArgs α β H) (slicefn : Nat → Option (List β)) (tvals : Option (List τ)) (s : FpSt α β τ H) :
    iterate (trip2 A slicefn tvals) A.vdims.length 0 s =
      if s.field.isEmpty && !A.vdims.isEmpty then some none
      else some (some ((List.range' 0 A.vdims.length).foldl (step2 A) s)) := by
  cases hf : s.field.isEmpty with
  | false =>
    simp only [Bool.false_and, Bool.false_eq_true, if_false]
    apply iterate_pure_inv (trip2 A slicefn tvals) (step2 A) (fun s => s.field.isEmpty = false)
    · intro s i hs
      refine ⟨?_, hs⟩
      rw [fp_trip2, hs]
      rfl
    · exact hf
  | true =>
    cases hv : A.vdims with
    | nil => rfl
    | cons v vs =>
      simp only [List.length_cons, iterate, fp_trip2, hf, if_true]
      rfl

theorem step2_fold (A : HistArgs α β H) (l : List Nat) : ∀ s : FpSt α β τ H,
    (l.foldl (step2 A) s).xvars =
      l.foldl (fun xv i => dictSet xv (vdimName A i) ("time" :: A.binKeys, s.field.filterMap (·[i]?))) s.xvars := by
  induction l with
  | nil => intro s; rfl
  | cons i l ih => intro s; simp only [List.foldl_cons]; rw [ih]; rfl

/-- the data variables, as the second loop builds them from `field = np.array(field_list)` -/
def varsOfField (A : HistArgs α β H) (field : List (List H)) : List (String × List String × List H) :=
  (List.range' 0 A.vdims.length).foldl
    (fun xv i => dictSet xv (vdimName A i) ("time" :: A.binKeys, field.filterMap (·[i]?))) []

/-- the bin-centre coordinates: `0.5 * (e[:-1] + e[1:])` (`Post.mids`) for every key -/
def fpCoords (A : HistArgs α β H) : List (String × List α) :=
  dictOf ((A.binKeys.zip A.binEdges).map (fun ke => (ke.1, mids ke.2)))

/-- the returned dataset, given the data variables -/
def fpFinish (A : HistArgs α β H) (tvals : Option (List τ)) (xvars : List (String × List String × List H)) :
    Option (Raster α τ H) :=
  match tvals with
  | some tv => some (.series xvars (fpCoords A) tv)
  | none =>
    if xvars.isEmpty then none
    else (xvars.mapM (fun (v : String × List String × List H) => v.2.2.head?.map (fun h => (v.1, v.2.1.drop 1, h)))).map
      (fun vs => .single vs (fpCoords A))

/-- the state after the three statements before the first loop -/
def fpStart (A : HistArgs α β H) : FpSt α β τ H :=
  ⟨flipAxes A.binEdges, reverseAxes (flipAxes A.binEdges) A.binEdges, [], 0, [], [], [], [], [], [], 0, "", [], [], [],
    none, none⟩

/-- the blocks between the two loops, and after the second -/
def fpTail1 : List Block := ((Gen.raster_from_particle_seq.drop 10).take 3).map .plain
def fpTail2 : List Block := (Gen.raster_from_particle_seq.drop 16).map .plain

/-- every text is a known one, the two loops are blocks, and the three statements before the first loop are run -/
theorem fp_head (A : HistArgs α β H) (slicefn : Nat → Option (List β)) (tvals : Option (List τ)) :
    Loops.run (fpInterp A slicefn tvals) Gen.raster_from_particle_seq FpSt.init =
      runBlocks (fpInterp A slicefn tvals) (.loop fpL1 fpBody1 :: (fpTail1 ++ .loop fpL2 fpBody2 :: fpTail2))
        (fpStart A) := by
  have hst := fpStep.eq_def A slicefn tvals
  have hl := fpIsLoop.eq_def
  have ha := @fpAtom.eq_def α β τ H tvals
  unfold fpStep.match_7 at hst
  unfold fpIsLoop.match_1 at hl
  unfold fpAtom.match_1 at ha
  simp -implicitDefEqProofs only [Loops.run, fpTail1, fpTail2, fpBody1, fpBody2, fpL1, fpL2, fpStart, FpSt.init,
    Gen.raster_from_particle_seq, List.drop_succ_cons, List.drop_zero, List.take_succ_cons, List.take_zero, List.map_cons,
    List.map_nil, List.cons_append, List.nil_append, List.all_cons, List.all_nil, stmtKnown, condKnown, blocks, loopOf,
    fpInterp, ofAtom, hst, hl, ha, String.reduceEq, ↓reduceDIte, ↓reduceIte, runBlocks_cons_plain, plainThen_exec,
    guardEnter_nil, Option.bind_some, Option.elim_some, Option.map_some, Option.isSome_some, Bool.and_self, Bool.and_true,
    Bool.false_eq_true]

/-- the statements after the second loop, in any state: only `xvars` is read -/
theorem fp_tail2 (A : HistArgs α β H) (slicefn : Nat → Option (List β)) (tvals : Option (List τ)) (s : FpSt α β τ H) :
    retVal FpSt.ret (runBlocks (fpInterp A slicefn tvals) fpTail2 s) = some (fpFinish A tvals s.xvars) := by
  have hst := fpStep.eq_def A slicefn tvals
  have hl := fpIsLoop.eq_def
  have ha := @fpAtom.eq_def α β τ H
  unfold fpStep.match_7 at hst
  unfold fpIsLoop.match_1 at hl
  unfold fpAtom.match_1 at ha
  cases tvals with
  | some tv =>
    simp -implicitDefEqProofs only [fpTail2, Gen.raster_from_particle_seq, List.drop_succ_cons, List.drop_zero, List.map_cons,
      List.map_nil, fpInterp, ofAtom, hst, hl, ha, String.reduceEq, ↓reduceDIte, ↓reduceIte, runBlocks_cons_plain,
      runBlocks_nil, plainThen_exec, plainThen_skip, guardEnter_cons, guardEnter_nil, Option.bind_some, Option.elim_some,
      Option.map_some, Option.isNone_some, Bool.false_eq_true, beq_self_eq_true, beq_true, beq_false, Bool.not_true,
      Bool.not_false, Option.getD_some]
    rfl
  | none =>
    cases he : s.xvars.isEmpty <;>
      cases hm : s.xvars.mapM (fun v => v.2.2.head?.map (fun h => (v.1, v.2.1.drop 1, h))) <;>
      simp -implicitDefEqProofs only [fpTail2, Gen.raster_from_particle_seq, List.drop_succ_cons, List.drop_zero,
        List.map_cons, List.map_nil, fpInterp, ofAtom, hst, hl, ha, String.reduceEq, ↓reduceDIte, ↓reduceIte,
        runBlocks_cons_plain, runBlocks_nil, plainThen_exec, plainThen_skip, guardEnter_cons, guardEnter_nil,
        Option.bind_some, Option.elim_some, Option.elim_none, Option.map_some, Option.isNone_none, Bool.false_eq_true,
        beq_self_eq_true, beq_true, beq_false, Bool.not_true, Bool.not_false, he, hm, fpFinish, fpCoords, retVal,
        Option.map_none]

/-- the statements between the loops and the second loop, in any state -/
theorem fp_tail1 (A : HistArgs α β H) (slicefn : Nat → Option (List β)) (tvals : Option (List τ)) (s : FpSt α β τ H)
    (rest : List Block) :
    runBlocks (fpInterp A slicefn tvals) (fpTail1 ++ .loop fpL2 fpBody2 :: rest) s =
      if s.fieldList.isEmpty && !A.vdims.isEmpty then some none
      else runBlocks (fpInterp A slicefn tvals) rest
        ((List.range' 0 A.vdims.length).foldl (step2 A) { s with field := s.fieldList, xvars := [] }) := by
  have hst := fpStep.eq_def A slicefn tvals
  have hl := fpIsLoop.eq_def
  have ht := @fpTrips.eq_def α β τ H A tvals
  unfold fpStep.match_7 at hst
  unfold fpIsLoop.match_1 at hl ht
  have hg : ∀ s, guardEnter (fpInterp A slicefn tvals) s (outerGuard (fpInterp A slicefn tvals).isLoop fpBody2) =
      some (some s) := by
    simp -implicitDefEqProofs only [fpBody2, Gen.raster_from_particle_seq, List.drop_succ_cons, List.drop_zero,
      List.take_succ_cons, outerGuard, List.takeWhile, fpInterp, hl, String.reduceEq, ↓reduceDIte, Bool.not_true,
      guardEnter_nil, implies_true]
  have hstep : ∀ s k t, (fpInterp A slicefn tvals).step s k t = fpStep A slicefn tvals s k t := fun _ _ _ => rfl
  have htrips : ∀ s, (fpInterp A slicefn tvals).trips s fpL2 = A.vdims.length := by
    simp -implicitDefEqProofs only [fpInterp, ht, fpL2, String.reduceEq, ↓reduceDIte, implies_true]
  have hloop := fp_loop2 A slicefn tvals
  unfold trip2 at hloop
  simp -implicitDefEqProofs only [fpTail1, Gen.raster_from_particle_seq, List.drop_succ_cons, List.drop_zero,
    List.take_succ_cons, List.take_zero, List.map_cons, List.map_nil, List.cons_append, List.nil_append, hstep, hst,
    String.reduceEq, ↓reduceDIte, ↓reduceIte, runBlocks_cons_plain, plainThen_exec, guardEnter_nil, Option.bind_some,
    Option.elim_some, runBlocks_cons_loop hg, htrips, hloop]
  cases (s.fieldList.isEmpty && !A.vdims.isEmpty) <;> rfl

/-- everything after the first loop, in any state: only `field_list` is read -/
theorem fp_tail (A : HistArgs α β H) (slicefn : Nat → Option (List β)) (tvals : Option (List τ)) (s : FpSt α β τ H) :
    retVal FpSt.ret (runBlocks (fpInterp A slicefn tvals) (fpTail1 ++ .loop fpL2 fpBody2 :: fpTail2) s) =
      some (if s.fieldList.isEmpty && !A.vdims.isEmpty then none
            else fpFinish A tvals (varsOfField A s.fieldList)) := by
  rw [fp_tail1]
  cases (s.fieldList.isEmpty && !A.vdims.isEmpty) with
  | true => rfl
  | false =>
    simp only [Bool.false_eq_true, if_false]
    rw [fp_tail2, step2_fold]
    rfl

/-- number of trips of the first loop: `len(tvals) if tvals is not None else 1` -/
def nSlots (tvals : Option (List τ)) : Nat := match tvals with | some tv => tv.length | none => 1

/-- `_from_particle` with the data variables in the index form of the second loop -/
theorem from_particle_raw (A : HistArgs α β H) (slicefn : Nat → Option (List β)) (tvals : Option (List τ)) :
    fromParticleSeq A slicefn tvals = some (
      match (List.range (nSlots tvals)).mapM slicefn with
      | none => none
      | some slots =>
        if slots.isEmpty && !A.vdims.isEmpty then none
        else fpFinish A tvals (varsOfField A (slots.map (fun d =>
          A.vdims.map (hist1 A (flipAxes A.binEdges) (reverseAxes (flipAxes A.binEdges) A.binEdges) d))))) := by
  have hl := fpIsLoop.eq_def
  have ht := @fpTrips.eq_def α β τ H A tvals
  unfold fpIsLoop.match_1 at hl ht
  have hg : ∀ s, guardEnter (fpInterp A slicefn tvals) s (outerGuard (fpInterp A slicefn tvals).isLoop fpBody1) =
      some (some s) := by
    simp -implicitDefEqProofs only [fpBody1, Gen.raster_from_particle_seq, List.drop_succ_cons, List.drop_zero,
      List.take_succ_cons, outerGuard, List.takeWhile, fpInterp, hl, String.reduceEq, ↓reduceDIte, Bool.not_true,
      guardEnter_nil, implies_true]
  have htrips : (fpInterp A slicefn tvals).trips (fpStart A) fpL1 = nSlots tvals := by
    simp -implicitDefEqProofs only [fpInterp, ht, fpL1, String.reduceEq, ↓reduceDIte]
    rfl
  have htrip : (fun s i => runBody (fpInterp A slicefn tvals) fpBody1 ((fpInterp A slicefn tvals).bind s fpL1 i)) =
      trip1 A slicefn tvals := rfl
  have hloop := fp_loop1 A slicefn tvals (nSlots tvals) 0 (fpStart A)
  unfold fromParticleSeq
  simp -implicitDefEqProofs only [fp_head, runBlocks_cons_loop hg, htrips, htrip, List.range_eq_range']
  cases hm : (List.range' 0 (nSlots tvals)).mapM slicefn with
  | none =>
    rw [hm] at hloop
    rw [hloop]
    rfl
  | some slots =>
    rw [hm] at hloop
    obtain ⟨s', h1, h2, _, _⟩ := hloop
    rw [h1, Option.bind_some, Option.elim_some, fp_tail, h2]
    simp [fpStart]

theorem foldl_range'_eq {γ δ : Type} (g : δ → Nat → δ) (g' : δ → γ → δ) : ∀ (l : List γ) (k : Nat) (init : δ),
    (∀ acc i (h : i < l.length), g acc (k + i) = g' acc l[i]) →
    (List.range' k l.length).foldl g init = l.foldl g' init := by
  intro l
  induction l with
  | nil => intro k init _; rfl
  | cons x xs ih =>
    intro k init h
    simp only [List.length_cons, List.range'_succ, List.foldl_cons]
    have h0 := h init 0 (by simp)
    simp only [Nat.add_zero, List.getElem_cons_zero] at h0
    rw [h0]
    apply ih
    intro acc i hi
    have := h acc (i + 1) (by simpa using hi)
    simpa [Nat.add_assoc, Nat.add_comm 1 i] using this

/-- the data variables in closed form: one per entry `w` of `vdims` (a later entry with the same name replaces the
earlier one, as a Python dict does), named `bincount` for `None`, with dimensions `('time',) + bin_keys`, holding one
histogram per time slot, in slot order -/
def fpVars (A : HistArgs α β H) (flip : List Nat) (histEdges : List (List α)) (slots : List (List β)) :
    List (String × List String × List H) :=
  dictOf (A.vdims.map (fun w =>
    (w.getD "bincount", "time" :: A.binKeys, slots.map (fun d => hist1 A flip histEdges d w))))

theorem varsOfField_eq (A : HistArgs α β H) (flip : List Nat) (histEdges : List (List α)) (slots : List (List β)) :
    varsOfField A (slots.map (fun d => A.vdims.map (hist1 A flip histEdges d))) = fpVars A flip histEdges slots := by
  unfold varsOfField fpVars dictOf
  rw [List.foldl_map]
  apply foldl_range'_eq
  intro acc i hi
  have hn : vdimName A (0 + i) = A.vdims[i].getD "bincount" := by
    simp only [vdimName, Nat.zero_add, List.getElem?_eq_getElem hi]
    cases A.vdims[i] <;> rfl
  have hc : (slots.map (fun d => A.vdims.map (hist1 A flip histEdges d))).filterMap (·[0 + i]?) =
      slots.map (fun d => hist1 A flip histEdges d A.vdims[i]) := by
    rw [List.filterMap_map]
    induction slots with
    | nil => rfl
    | cons d ds ih =>
      simp only [Nat.zero_add] at ih
      simp [List.filterMap_cons, hi, ih]
  rw [hn, hc]

/-- the edges handed to `np.histogramdd`: every decreasing axis (`len(e) > 1 and e[0] > e[-1]`) reversed -/
def histEdgesOf (es : List (List α)) : List (List α) := es.map (fun e => if decreasingAxis e then e.reverse else e)

theorem mem_flipAxes (es : List (List α)) (e : List α) (i : Nat) (h : (e, i) ∈ es.zipIdx) :
    (flipAxes es).contains i = decreasingAxis e := by
  obtain ⟨hi, he⟩ := List.mem_zipIdx' h
  cases hd : decreasingAxis e with
  | true =>
    rw [List.contains_iff_mem]
    simp only [flipAxes, List.mem_filterMap]
    exact ⟨(e, i), h, by simp [hd]⟩
  | false =>
    rw [← Bool.not_eq_true, List.contains_iff_mem]
    simp only [flipAxes, List.mem_filterMap]
    rintro ⟨⟨e', i'⟩, h', hif⟩
    obtain ⟨hi', he'⟩ := List.mem_zipIdx' h'
    by_cases hd' : decreasingAxis e' = true
    · simp only [hd', if_true, Option.some.injEq] at hif
      subst hif
      rw [he', ← he, hd] at hd'
      exact Bool.noConfusion hd'
    · simp [hd'] at hif

/-- `hist_edges`: exactly the axes listed in `flip` — the decreasing ones — are reversed -/
theorem reverseAxes_flipAxes (es : List (List α)) : reverseAxes (flipAxes es) es = histEdgesOf es := by
  unfold reverseAxes histEdgesOf
  have : es.zipIdx.map (fun ei => if (flipAxes es).contains ei.2 then ei.1.reverse else ei.1) =
      es.zipIdx.map ((fun e => if decreasingAxis e then e.reverse else e) ∘ Prod.fst) := by
    apply List.map_congr_left
    intro ei hei
    rw [mem_flipAxes es ei.1 ei.2 hei]
    rfl
  rw [this, ← List.map_map, List.zipIdx_map_fst]

/-- what `_from_particle` returns (`none`: it raises — a call of `slicefn` raises; or there is no time slot
(`tvals` is empty) but a data variable is wanted, so that `field[:, i]` indexes a one-dimensional `np.array([])`; or
`tvals is None` and `vdims` is empty, so that `.isel(time=0)` finds no `time` dimension) -/
def fpSpec (A : HistArgs α β H) (slicefn : Nat → Option (List β)) (tvals : Option (List τ)) : Option (Raster α τ H) :=
  match (List.range (nSlots tvals)).mapM slicefn with
  | none => none
  | some slots =>
    if slots.isEmpty && !A.vdims.isEmpty then none
    else fpFinish A tvals (fpVars A (flipAxes A.binEdges) (histEdgesOf A.binEdges) slots)

/-- **`_from_particle`** (`Gen.raster_from_particle_seq`), no hypotheses.  One time slot per entry of `tvals` (one if
`tvals is None`), slot `t` read with `slicefn(t)`; for every slot and every entry `w` of `vdims` the histogram
`np.flip(np.histogramdd(coords, hist_edges, weights=w)[0], axis=flip)` where `flip` = the decreasing axes of
`bin_edges`, `hist_edges` = `bin_edges` with exactly those axes reversed, and `coords` = the same sample for the counts
(`w = None`) and for every weighted sum; the variables are stacked over the slots in slot order; the coordinates are
the bin centres `Post.mids` of the caller's (unreversed) edges. -/
theorem from_particle (A : HistArgs α β H) (slicefn : Nat → Option (List β)) (tvals : Option (List τ)) :
    fromParticleSeq A slicefn tvals = some (fpSpec A slicefn tvals) := by
  rw [from_particle_raw, fpSpec]
  congr 1
  cases (List.range (nSlots tvals)).mapM slicefn with
  | none => rfl
  | some slots => simp only [varsOfField_eq, reverseAxes_flipAxes]

/-- a dataset without any time slot (`tvals` empty): `_from_particle` raises (`IndexError`) as soon as a data variable
is wanted -/
theorem from_particle_no_slot (A : HistArgs α β H) (slicefn : Nat → Option (List β)) (hv : A.vdims ≠ []) :
    fromParticleSeq A slicefn (some ([] : List τ)) = some none := by
  rw [from_particle]
  have : A.vdims.isEmpty = false := by cases h : A.vdims with | nil => exact absurd h hv | cons _ _ => rfl
  simp [fpSpec, nSlots, this]
end fp

/-! ## `from_particles` -/
section pt
variable {α β τ H : Type} [Add α] [Mul α] [LT α] [DecidableLT α] [OfScientific α]

/-- the slicing function before `time_idx` is looked at -/
def baseSlice (P : Particles β τ) : Nat → Option (List β) :=
  if P.hasCount then fun t => (slotSlices P.count P.rows)[t]?
  else if P.hasTimeDim then P.denseSlice
  else fun _ => some P.rows

/-- the `slicefn` that `from_particles` hands to `_from_particle` -/
def slicefnOf (P : Particles β τ) (timeIdx : Option Nat) : Nat → Option (List β) :=
  match timeIdx with
  | none => baseSlice P
  | some t => fun _ => baseSlice P t

/-- the `tvals` that `from_particles` hands to `_from_particle` -/
def tvalsOf (P : Particles β τ) (timeIdx : Option Nat) : Option (List τ) :=
  match timeIdx with
  | some _ => none
  | none => if P.hasCount || P.hasTimeDim then some P.times else none

def ptLast : Block := .plain ([], "return", "_from_particle(slicefn, tvals, bin_keys, bin_edges, vdims)")

/-- the final `return`, in any state: `_from_particle` is called with the current `slicefn` and `tvals` -/
theorem pt_last (A : HistArgs α β H) (P : Particles β τ) (timeIdx : Option Nat) (s : PtSt α β τ H) :
    retVal PtSt.ret (runBlocks (ptInterp A P timeIdx) [ptLast] s) = fromParticleSeq A s.slicefn s.tvals := by
  have hst := ptStep.eq_def A P timeIdx
  unfold ptStep.match_7 at hst
  -- `-iota`: `simp` leaves the `match` on the callee's result alone (visiting it costs the kernel a run of the callee)
  simp -implicitDefEqProofs -iota only [ptLast, runBlocks_cons_plain, runBlocks_nil, plainThen_exec, guardEnter_nil,
    ptInterp, hst, String.reduceEq, ↓reduceDIte, ↓reduceIte]
  rcases fromParticleSeq A s.slicefn s.tvals with _ | _ | r <;> rfl

/-- the sparse `slicefn`, as the code builds it from `indptr`, is slot `t` of the model's slicing -/
theorem sparse_slice (count : List Nat) (rows : List β) :
    (fun t => match (cumsum (0 :: count))[t]?, (cumsum (0 :: count))[t + 1]? with
      | some a, some b => some (pySlice rows a b)
      | _, _ => none) = fun t => (slotSlices count rows)[t]? := by
  funext t
  have := slotSlices_getElem? count rows 0 t
  rw [List.drop_zero] at this
  rw [this]
  rfl

/-- every statement and condition before the final `return` is a known text (whatever the dataset) -/
theorem pt_known_init (A : HistArgs α β H) (P : Particles β τ) (timeIdx : Option Nat) :
    Gen.raster_from_particles_seq.dropLast.all (stmtKnown (ptInterp A P timeIdx) PtSt.init) = true := by
  have hst := ptStep.eq_def A P timeIdx
  have ha := @ptAtom.eq_def α β τ H P timeIdx
  unfold ptStep.match_7 at hst
  unfold ptAtom.match_1 at ha
  simp -implicitDefEqProofs only [Gen.raster_from_particles_seq, List.dropLast, List.all_cons, List.all_nil, stmtKnown,
    condKnown, ptInterp, ofAtom, hst, ha, String.reduceEq, ↓reduceDIte, ↓reduceIte, Bool.false_eq_true, Option.map_some,
    Option.isSome_some, Bool.and_self, Bool.and_true]

/-- … and so is the final `return`, because it runs (`pt_last`) and `_from_particle` is a known text throughout
(`from_particle`) -/
theorem pt_known (A : HistArgs α β H) (P : Particles β τ) (timeIdx : Option Nat) :
    Gen.raster_from_particles_seq.all (stmtKnown (ptInterp A P timeIdx) PtSt.init) = true := by
  have hlast : ∀ k t, ptLast = .plain ([], k, t) →
      ((ptInterp A P timeIdx).step (PtSt.init : PtSt α β τ H) k t).isSome = true := by
    intro k t h
    refine step_isSome_of_runBlocks fun hn => ?_
    have := pt_last A P timeIdx (PtSt.init : PtSt α β τ H)
    rw [h, hn, from_particle] at this
    cases this
  rw [← List.dropLast_concat_getLast (l := Gen.raster_from_particles_seq) (List.cons_ne_nil _ _), List.all_append,
    pt_known_init]
  simp only [Gen.raster_from_particles_seq, List.getLast_cons_cons, List.getLast_singleton, List.all_cons, List.all_nil,
    stmtKnown, hlast _ _ rfl, Bool.and_self]

/-- the local variables before the final `return` -/
def ptFinal (P : Particles β τ) (timeIdx : Option Nat) : PtSt α β τ H :=
  let indptr := cumsum (0 :: P.count)
  let sparse : Nat → Option (List β) := fun t =>
    match indptr[t]?, indptr[t + 1]? with
    | some a, some b => some (pySlice P.rows a b)
    | _, _ => none
  let base : PtSt α β τ H :=
    if P.hasCount then ⟨P.count, indptr, sparse, some P.times, fun _ => none, none⟩
    else if P.hasTimeDim then ⟨[], [], P.denseSlice, some P.times, fun _ => none, none⟩
    else ⟨[], [], fun _ => some P.rows, none, fun _ => none, none⟩
  match timeIdx with
  | none => base
  | some t => { base with slicefnOld := base.slicefn, slicefn := fun _ => base.slicefn t, tvals := none }

/-- all statements but the last: one branch by the kind of dataset, then the `time_idx` block -/
theorem pt_walk (A : HistArgs α β H) (P : Particles β τ) (timeIdx : Option Nat) (rest : List Block) :
    runBlocks (ptInterp A P timeIdx) (Gen.raster_from_particles_seq.dropLast.map .plain ++ rest) PtSt.init =
      runBlocks (ptInterp A P timeIdx) rest (ptFinal P timeIdx) := by
  obtain ⟨hc, htd, count, rows, times, dense, off⟩ := P
  have hst := fun P => ptStep.eq_def A (β := β) (τ := τ) P timeIdx
  have ha := fun P => @ptAtom.eq_def α β τ H P timeIdx
  unfold ptStep.match_7 at hst
  unfold ptAtom.match_1 at ha
  cases hc <;> cases htd <;> cases timeIdx <;>
    simp -implicitDefEqProofs only [Gen.raster_from_particles_seq, List.dropLast, List.map_cons, List.map_nil,
      List.cons_append, List.nil_append, runBlocks_cons_plain, plainThen_exec, plainThen_skip, guardEnter_cons,
      guardEnter_nil, ptInterp, ofAtom, hst, ha, String.reduceEq, ↓reduceDIte, ↓reduceIte, Option.map_some,
      Option.bind_some, Option.elim_some, Option.isSome_some, Option.isSome_none, Bool.false_eq_true, beq_self_eq_true,
      beq_true, beq_false, Bool.not_true, Bool.not_false, PtSt.init, ptFinal]
  all_goals rfl

theorem ptFinal_slicefn (P : Particles β τ) (timeIdx : Option Nat) :
    (ptFinal P timeIdx : PtSt α β τ H).slicefn = slicefnOf P timeIdx ∧
      (ptFinal P timeIdx : PtSt α β τ H).tvals = tvalsOf P timeIdx := by
  obtain ⟨hc, htd, count, rows, times, dense, off⟩ := P
  cases hc <;> cases htd <;> cases timeIdx <;>
    simp only [ptFinal, slicefnOf, tvalsOf, baseSlice, sparse_slice, if_true, if_false, Bool.false_eq_true, Bool.or_self,
      Bool.true_or, Bool.or_true, and_self]

/-- **`from_particles`** (`Gen.raster_from_particles_seq`; the argument is an opened dataset), no hypotheses: the
function returns what `_from_particle` returns for `slicefnOf` / `tvalsOf`.  Sparse branch (`particle_count` is a
variable): `slicefn(t)` is slot `t` of the hand-written `Post.slotSlices particle_count rows` — the slice
`[indptr[t], indptr[t+1])` with `indptr = cumsum([0] + particle_count)`, which starts at `0` whatever
`instance_offset` is — and an `IndexError` beyond the last slot; `tvals` = the `time` values. -/
theorem from_particles (A : HistArgs α β H) (P : Particles β τ) (timeIdx : Option Nat) :
    fromParticlesSeq A P timeIdx = fromParticleSeq A (slicefnOf P timeIdx) (tvalsOf P timeIdx) := by
  have hk := pt_known A P timeIdx
  have hp : Gen.raster_from_particles_seq.map Block.plain =
      Gen.raster_from_particles_seq.dropLast.map .plain ++ [ptLast] := rfl
  unfold fromParticlesSeq
  simp only [Loops.run, hk, if_true]
  rw [show (ptInterp A P timeIdx).isLoop = fun _ => false from rfl, blocks_noLoop, hp, pt_walk, pt_last,
    (ptFinal_slicefn P timeIdx).1, (ptFinal_slicefn P timeIdx).2]

/-- the state of the sparse branch before the final `return` (no `time_idx`): `indptr` is `cumsum([0] + count)` — its
first entry is `0`, `instance_offset` does not enter — and `slicefn`, `tvals` are as `from_particles` says -/
theorem from_particles_indptr (A : HistArgs α β H) (P : Particles β τ) (hc : P.hasCount = true) :
    ∃ s : PtSt α β τ H, fromParticlesState A P none = some (some s) ∧
      s.count = P.count ∧ s.indptr = 0 :: cumsum P.count ∧ s.slicefn = slicefnOf P none ∧ s.tvals = some P.times := by
  have hk := pt_known_init (H := H) A P none
  refine ⟨ptFinal P none, ?_, ?_⟩
  · unfold fromParticlesState
    simp only [Loops.run, hk, if_true]
    rw [show (ptInterp A P none).isLoop = fun _ => false from rfl, blocks_noLoop,
      ← List.append_nil (List.map _ _), pt_walk]
    rfl
  · obtain ⟨hc', htd, count, rows, times, dense, off⟩ := P
    simp only at hc
    subst hc
    exact ⟨rfl, rfl, congrFun (sparse_slice count rows) |> funext, rfl⟩
theorem slotSlices_length (counts : List Nat) (data : List β) : (slotSlices counts data).length = counts.length := by
  induction counts generalizing data with
  | nil => rfl
  | cons c cs ih => simp [slotSlices, ih]

theorem mapM_range'_getElem? {γ : Type} (l : List γ) : ∀ (n k : Nat), k + n ≤ l.length →
    (List.range' k n).mapM (fun t => l[t]?) = some ((l.drop k).take n) := by
  intro n
  induction n with
  | zero => intro k _; simp
  | succ n ih =>
    intro k h
    have hk : k < l.length := by omega
    rw [List.range'_succ, List.mapM_cons, List.getElem?_eq_getElem hk, ih (k + 1) (by omega),
      List.drop_eq_getElem_cons hk]
    rfl

/-- **`from_particles`, sparse dataset, no `time_idx`**, for a file with a `particle_count` entry for every `time`
entry.  The returned dataset has the `time` values as time coordinate and, for every entry of `vdims`, one histogram
per time slot, in slot order: the histogram of slot `t` is computed from `Post.slotSlices particle_count rows`'s slice
number `t` — an empty slot gives the histogram of no particles, it is not skipped.  (`hne`: at least one time slot;
without any, `from_particle_no_slot`.) -/
theorem from_particles_sparse (A : HistArgs α β H) (P : Particles β τ) (hc : P.hasCount = true)
    (hlen : P.times.length ≤ P.count.length) (hne : P.times ≠ []) :
    fromParticlesSeq A P none = some (some (.series
      (fpVars A (flipAxes A.binEdges) (histEdgesOf A.binEdges) ((slotSlices P.count P.rows).take P.times.length))
      (fpCoords A) P.times)) := by
  rw [from_particles, from_particle]
  have hs : slicefnOf P none = fun t => (slotSlices P.count P.rows)[t]? := by
    simp only [slicefnOf, baseSlice, hc, if_true]
  have ht : tvalsOf P none = some P.times := by simp only [tvalsOf, hc, Bool.true_or, if_true]
  rw [hs, ht]
  simp only [fpSpec, nSlots, List.range_eq_range']
  rw [mapM_range'_getElem? _ _ _ (by rw [slotSlices_length]; omega)]
  have hpos : 0 < P.times.length := List.length_pos_iff.mpr hne
  have hemp : ((slotSlices P.count P.rows).take P.times.length).isEmpty = false := by
    rw [List.isEmpty_eq_false_iff, ← List.length_pos_iff, List.length_take, slotSlices_length]
    omega
  simp only [List.drop_zero, fpFinish, hemp, Bool.false_and, Bool.false_eq_true, if_false]

/-- … when `time` and `particle_count` have the same length (both are on the `time` dimension): every slot -/
theorem from_particles_sparse_all (A : HistArgs α β H) (P : Particles β τ) (hc : P.hasCount = true)
    (hlen : P.times.length = P.count.length) (hne : P.times ≠ []) :
    fromParticlesSeq A P none = some (some (.series
      (fpVars A (flipAxes A.binEdges) (histEdgesOf A.binEdges) (slotSlices P.count P.rows)) (fpCoords A) P.times)) := by
  rw [from_particles_sparse A P hc (by omega) hne, hlen, ← slotSlices_length P.count P.rows, List.take_length]
end pt

/-! ## the library calls instantiated with the histogram of the hand-written model -/
section model
variable {α β τ : Type} [Add α] [Mul α] [LT α] [DecidableLT α] [LE α] [DecidableLE α] [OfScientific α]


/-- value of a histogram cell: a particle count (`weights=None`) or a weighted sum -/
inductive HVal (α : Type) where
  | count (n : Nat)
  | weight (x : α)

/-- an N-dimensional histogram: its shape and the value of the cell with a given multi-index -/
structure ModelHist (α : Type) where
  shape : List Nat
  val : List Nat → HVal α

/-- `np.histogramdd(sample, edges, weights=w)[0]` with the binning of the hand-written model (`Post.cellOf`, i.e.
`Post.binIndex` per dimension, for increasing edges): cell `idx` holds the number of sample points whose cell is `idx`,
or the sum of their weights (in sample order, starting from `0.0`, as `Post.weightBin` does) -/
def modelHistdd (pts : List (List α)) (ess : List (List α)) (w : Option (List α)) : ModelHist α :=
  ⟨ess.map (fun e => e.length - 1), fun idx =>
    match w with
    | none => .count (pts.filter (fun p => cellOf ess p == some idx)).length
    | some ws => .weight ((((pts.zip ws).filter (fun pw => cellOf ess pw.1 == some idx)).map (·.2)).foldl (· + ·) 0.0)⟩

/-- the multi-index that `np.flip(h, axis=axes)` reads for `idx`: component `k` on a flipped axis of length `n`
becomes `n - 1 - k` -/
def reflectIdx (shape : List Nat) (axes : List Nat) (idx : List Nat) : List Nat :=
  idx.zipIdx.map (fun ki => if axes.contains ki.2 then shape.getD ki.2 0 - 1 - ki.1 else ki.1)

/-- `np.flip(h, axis=axes)` -/
def modelFlip (axes : List Nat) (h : ModelHist α) : ModelHist α :=
  ⟨h.shape, fun idx => h.val (reflectIdx h.shape axes idx)⟩


variable {H : Type}

/-- with the model's histogram and flip as library calls: the shape is that of the caller's grid … -/
theorem hist1_model_shape (A : HistArgs α β (ModelHist α)) (hh : A.histdd = modelHistdd) (hf : A.npFlip = modelFlip)
    (flip : List Nat) (histEdges : List (List α)) (d : List β) (w : Option String) :
    (hist1 A flip histEdges d w).shape = histEdges.map (fun e => e.length - 1) := by
  simp only [hist1, hh, hf, modelFlip, modelHistdd]

/-- … and cell `idx` holds what the model's histogram over the (increasing) `hist_edges` holds in the cell reflected
along the flipped axes; counts and weighted sums are taken over the same sample `d.map A.coord` -/
theorem hist1_model_val (A : HistArgs α β (ModelHist α)) (hh : A.histdd = modelHistdd) (hf : A.npFlip = modelFlip)
    (flip : List Nat) (histEdges : List (List α)) (d : List β) (w : Option String) (idx : List Nat) :
    (hist1 A flip histEdges d w).val idx =
      (modelHistdd (d.map A.coord) histEdges (w.map (fun name => d.map (A.wval name)))).val
        (reflectIdx (histEdges.map (fun e => e.length - 1)) flip idx) := by
  simp only [hist1, hh, hf, modelFlip, modelHistdd]

/-! one dimension: the cells are the bins of `Post.countBin` / `Post.weightBin` -/

theorem cellOf_one (es : List α) (x : α) : cellOf [es] [x] = (binIndex es x).map (fun k => [k]) := by
  simp only [cellOf, List.zip_cons_cons, List.zip_nil_right, List.mapM_cons, List.mapM_nil]
  cases binIndex es x <;> rfl

theorem cellOf_one_beq (es : List α) (x : α) (k : Nat) :
    (cellOf [es] [x] == some [k]) = (binIndex es x == some k) := by
  rw [cellOf_one]
  cases binIndex es x with
  | none => rfl
  | some j => simp

theorem count_one (es : List α) (x : β → α) (k : Nat) (d : List β) :
    ((d.map (fun r => [x r])).filter (fun p => cellOf [es] p == some [k])).length = countBin es (d.map x) k := by
  unfold countBin
  induction d with
  | nil => rfl
  | cons r d ih =>
    simp only [List.map_cons, List.filter_cons, cellOf_one_beq]
    cases (binIndex es (x r) == some k) <;> simp [ih]

theorem weight_one (es : List α) (x wv : β → α) (k : Nat) (d : List β) :
    (((d.map (fun r => [x r])).zip (d.map wv)).filter (fun pw => cellOf [es] pw.1 == some [k])).map (·.2) =
      ((d.map (fun r => (x r, wv r))).filter (fun p => binIndex es p.1 == some k)).map (·.2) := by
  induction d with
  | nil => rfl
  | cons r d ih =>
    simp only [List.map_cons, List.zip_cons_cons, List.filter_cons, cellOf_one_beq]
    cases (binIndex es (x r) == some k) <;> simp [ih]

/-- one bin axis `es` (bin key variable `x`), particle counts.  Increasing (or one-point) axis: cell `k` is
`Post.countBin es xs k`.  Decreasing axis: the histogram is taken over the reversed (increasing) edges and flipped
back, cell `k` of the caller's grid is bin `n_bins - 1 - k` of the reversed edges. -/
theorem hist1_one_count (A : HistArgs α β (ModelHist α)) (hh : A.histdd = modelHistdd) (hf : A.npFlip = modelFlip)
    (es : List α) (x : β → α) (hx : A.coord = fun r => [x r]) (d : List β) (k : Nat) :
    (hist1 A (flipAxes [es]) (histEdgesOf [es]) d none).val [k] =
      if decreasingAxis es then .count (countBin es.reverse (d.map x) (es.length - 1 - 1 - k))
      else .count (countBin es (d.map x) k) := by
  rw [hist1_model_val A hh hf, hx]
  cases hd : decreasingAxis es <;>
    simp [modelHistdd, flipAxes, histEdgesOf, reflectIdx, hd, count_one]

/-- … and weighted sums: the same bins, the same coordinates, `Post.weightBin` -/
theorem hist1_one_weight (A : HistArgs α β (ModelHist α)) (hh : A.histdd = modelHistdd) (hf : A.npFlip = modelFlip)
    (es : List α) (x : β → α) (hx : A.coord = fun r => [x r]) (d : List β) (name : String) (k : Nat) :
    (hist1 A (flipAxes [es]) (histEdgesOf [es]) d (some name)).val [k] =
      if decreasingAxis es then
        .weight (weightBin es.reverse (d.map (fun r => (x r, A.wval name r))) (es.length - 1 - 1 - k))
      else .weight (weightBin es (d.map (fun r => (x r, A.wval name r))) k) := by
  rw [hist1_model_val A hh hf, hx]
  cases hd : decreasingAxis es <;>
    simp [modelHistdd, flipAxes, histEdgesOf, reflectIdx, hd, weight_one, weightBin]
end model

/-! non-vacuity, and the decreasing-axis convention on a concrete case (the values that `from_particles` of the code
returns for the same input): three instances at `x = 0.5, 1.5, 1.6`, two time slots with `particle_count = [2, 1]`,
bin edges `[2, 1, 0]` given in decreasing order, `vdims = (None, 'w')` with weights `10, 20, 40`; `instance_offset = 7`
is ignored -/
section example_
def exArgs : HistArgs Rat (Rat × Rat) (ModelHist Rat) :=
  ⟨["X"], [[2, 1, 0]], [none, some "w"], fun r => [r.1], fun _ r => r.2, modelHistdd, modelFlip⟩
def exData : Particles (Rat × Rat) Rat :=
  ⟨true, true, [2, 1], [(0.5, 10), (1.5, 20), (1.6, 40)], [100, 200], fun _ => none, 7⟩

def exCells : Option (Option (Raster Rat Rat (ModelHist Rat))) → List (String × List (List (Nat ⊕ Rat)))
  | some (some (.series vars _ _)) =>
    vars.map (fun v => (v.1, v.2.2.map (fun h =>
      [[0], [1]].map (fun idx => match h.val idx with | .count n => Sum.inl n | .weight x => Sum.inr x))))
  | _ => []

example : exCells (fromParticlesSeq exArgs exData none) =
    [("bincount", [[.inl 1, .inl 1], [.inl 1, .inl 0]]), ("w", [[.inr 20, .inr 10], [.inr 40, .inr 0]])] := by
  rw [from_particles_sparse_all exArgs exData rfl rfl (List.cons_ne_nil _ _)]
  decide +kernel

example : (match fromParticlesSeq exArgs exData none with
    | some (some (.series _ c t)) => (c, t)
    | _ => ([], [])) = ([("X", [1.5, 0.5])], [100, 200]) := by
  rw [from_particles_sparse_all exArgs exData rfl rfl (List.cons_ne_nil _ _)]
  decide +kernel

/-- two files of a split run (the second with `instance_offset = 4`), an empty time slot in the first -/
def exFile0 : LadimFile Rat :=
  ⟨[("release_time", [10, 11, 12])], [("pid", [0, 1, 0, 2]), ("X", [1.5, 2.5, 3.5, 4.5])], [2, 0, 2], [100, 200, 300], 0⟩
def exFile1 : LadimFile Rat :=
  ⟨[("release_time", [10, 11, 12])], [("pid", [1, 2]), ("X", [7.5, 8.5])], [1, 1], [400, 500], 4⟩

def exDb : List (String × List String) × List (List Rat) × List (List Rat) :=
  ([("particle", ["release_time"]), ("particle_instance", ["time", "pid", "X"])],
    [[10], [11], [12]],
    [[100, 0, 1.5], [100, 1, 2.5], [300, 0, 3.5], [300, 2, 4.5], [400, 1, 7.5], [500, 2, 8.5]])

example : (match ladimFileToSqliteSeq [exFile0, exFile1] with
    | some (some d) => some (d.tables, d.particle, d.inst)
    | _ => none) = some exDb := by
  rw [ladim_file_to_sqlite exFile0 [exFile1] 3 (fun f => f.count.sum) (List.cons_ne_nil _ _) (by decide) (by
    intro f hf
    simp only [List.mem_cons, List.not_mem_nil, or_false] at hf
    rcases hf with rfl | rfl <;> exact ⟨by decide, by decide, by decide⟩)]
  decide +kernel
end example_

end Bridge
