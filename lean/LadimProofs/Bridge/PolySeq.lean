import LadimProofs.Bridge.GeoSeq
import LadimProofs.Bridge.AttrSeq
import LadimProofs.Bridge.LocationSeq
import LadimProofs.Bridge.Runners
import LadimProofs.C17
import LadimModel.Release.PolySeq
/-!
# Bridge (C03, C17, C04, C18, C01) — the remaining functions of `release/makrel.py` and `release/farms.py`

The generated statement sequences `Gen.rel_is_convex_seq`, `rel_triangulate_seq`, `rel_triangulate_nonconvex_seq`,
`rel_triangulate_nonconvex_multi_seq`, `rel_point_inside_polygon_seq`, `rel_sample_convex_seq`,
`rel_sample_nonconvex_seq`, `rel_get_polygon_sample_seq`, `rel_metric_diff_to_degrees_seq`,
`rel_degree_diff_to_metric_seq`, `rel_get_attrs_seq`, `rel_get_depth_seq`, `rel_main_seq`, `farms_polygon_seq`,
`farms_location_seq` (guard, kind and text of every statement, regenerated from the current source) are interpreted by
`LadimModel/Release/PolySeq.lean`; every statement, condition and `return` expression must be a known text, also in
branches that are not taken.  All theorems below hold for *every* input and have no hypotheses (`none` = the code
raises or leaves the modelled value space); the theorems of the first sections use only the operations of the scalar
type (no field or order laws), so they hold for every scalar type, `Float` included.

Equalities with the hand-written model / the generated windows:
* `Bridge.get_polygon_sample_convex`, `get_polygon_sample_nonconvex`, `get_polygon_sample`: the samplers are
  `get_polygon_sample_triangles` (`Bridge.polygonSampleSpec` of `Bridge/GeoSeq.lean`, i.e. `Sample.samplePoint` per
  particle) on the fan `fanTriangles` / on the triangles of the library; the dispatch is on `isConvexSpec`;
  `get_polygon_sample_convex_of_stream`: in terms of `Seq.sampleTriangles` and the draws `rngDraws`;
* `Bridge.metric_diff_to_degrees`, `degree_diff_to_metric`: the statement sequences are the windows
  `Gen.metric_to_deg`, `Gen.deg_to_metric` (statement by statement);
* `Bridge.get_attrs`: `Attr.getAttr` per key, in the order of the mapping (with the `np.clip` argument order that
  the generated text of `get_distribution` shows, as `Bridge.get_attr_seq`);
* `Bridge.latlon_from_poly_triangle`: the parameter `tri` of `LocationSeq.lean` is `triangulateMultiSpec trLib`.
Closed forms (no hand-written model function exists; the specification is stated here):
* `Bridge.is_convex` : `isConvexSpec` (all turn signs equal the first; `turnSigns_getElem?`: sign test on the edges
  `pᵢ − pᵢ₊₁`, `pᵢ₊₁ − pᵢ₊₂`, indices modulo `n`); `is_convex_triangle`: true for every triangle;
* `Bridge.triangulate` : `fanTriangles` (`fanTriangles_getElem?`: rows `0, i+1, i+2`); over an ordered field
  `fan_signed_area_sum`: the doubled signed areas add up to `Sample.shoelace2`; `fan_area_sum`: the weights
  `Sample.triArea` add up to `Sample.polygonArea` when the fan triangles have one orientation;
* `Bridge.triangulate_nonconvex` : `triangulateNonconvexSpec` — vertices, `ringSegments n` (`ringSegments_getElem?`:
  `(i, (i+1) mod n)`), the flag `"p"`; read back `vertices[triangles]`;  `triangulate_nonconvex_multi` :
  `triangulateMultiSpec` (no holes are passed: the code has none);
* `Bridge.point_inside_polygon` : `pointInsideSpec`; `point_inside_polygon_last_raises`: **the code raises
  `IndexError` when the smallest vertex is the last row** (no wrap-around in `coords[i + 1]`);
* `Bridge.get_depth` : `getDepthSpec` (`linspace_const`: a single depth gives `num` copies);
* `Bridge.makrel_main` : `makrelMainSpec`;  `Bridge.farms_polygon`, `farms_location` : `farmsPolygonSpec`,
  `farmsLocationSpec`.
-/
open Ladim Ladim.Seq Ladim.Sample Ladim.Table

set_option linter.unusedSectionVars false
set_option linter.unusedVariables false
set_option linter.unusedSimpArgs false
set_option linter.auxLemma false
namespace Bridge

/-- `text_step f f.match_k` proves what the interpreter `f` (a step, condition or `return` function) gives at a statement
text: the `match` on the text is unfolded and its comparisons are decided by `String.reduceEq`, not evaluated (see the head
of `Bridge/Runners.lean`).  A call of another interpreted function is rewritten with that function's theorem when it is in
the context. -/
local macro "text_step " fs:ident* : tactic =>
  `(tactic| (unfold $fs*; simp only [↓reduceDIte, ↓reduceIte, String.reduceEq, *]; rfl))

/-- `text_known f f.match_k ret ret.match_k`: the statements after one that may raise are known ones -/
local macro "text_known " fs:ident* : tactic =>
  `(tactic| (simp only [List.all_cons, List.all_nil, stmtKnown, guardKnown, ↓reduceIte, String.reduceEq]
             unfold $fs*
             simp only [↓reduceDIte, String.reduceEq, Option.isSome_some, Option.isSome_map, Bool.and_self, Bool.and_true, *]))

section
variable {α : Type} [Add α] [Sub α] [Mul α] [Div α] [Neg α] [LT α] [DecidableLT α] [OfScientific α]

/-! ### is_convex -/

/-- the rows of `c[:-1, :] - c[1:, :]` for `c = coords` followed by its first two rows: edge `i` is
`pᵢ − pᵢ₊₁` (indices modulo the number of vertices), one more edge than vertices -/
def cvxEdges (coords : List (α × α)) : List (α × α) :=
  let c := coords ++ coords.take 2
  List.zipWith (fun p q => (p.1 - q.1, p.2 - q.2)) c c.tail

/-- `sgn`: for every pair of consecutive edges `e`, `f` the truth value of `e.x * f.y > e.y * f.x` (the cross
product `e × f` is positive) -/
def turnSigns (coords : List (α × α)) : List Bool :=
  let v := cvxEdges coords
  List.zipWith (fun p q => decide (p.2 * q.1 < p.1 * q.2)) v v.tail

/-- closed form of `is_convex(coords)`: all turn signs equal the first one; `none` = `IndexError` (`sgn[0]` on an
empty vector: fewer than two vertices) -/
def isConvexSpec (coords : List (α × α)) : Option Bool :=
  (turnSigns coords).head?.map (fun b => (turnSigns coords).all (fun x => x == b))

theorem poly_zipWith_dropLast_tail {β γ : Type} (f : β → β → γ) (l : List β) :
    List.zipWith f l.dropLast l.tail = List.zipWith f l l.tail := by
  induction l with
  | nil => rfl
  | cons a l ih =>
    cases l with
    | nil => rfl
    | cons b l =>
      simp only [List.dropLast_cons_cons, List.tail_cons, List.zipWith_cons_cons] at ih ⊢
      rw [ih]

/-- **`is_convex`**: for every vertex list -/
theorem is_convex (coords : List (α × α)) : isConvexSeq coords = some (isConvexSpec coords) := by
  unfold isConvexSeq Gen.rel_is_convex_seq
  iterate 3 refine (Run.runRet_step rfl (by decide) (by text_step cvxStep cvxStep.match_1)).trans ?_
  refine (Run.runRet_return rfl (by text_step cvxRet cvxRet.match_1) rfl).trans ?_
  simp only [poly_zipWith_dropLast_tail]
  rfl

/-! ### triangulate -/

/-- closed form of `triangulate(coords)`: the fan from vertex 0 — triangle `i` has the rows `coords[0]`,
`coords[i + 1]`, `coords[i + 2]`; no triangles for fewer than three vertices -/
def fanTriangles : List (α × α) → List (Tri α)
  | [] => []
  | p :: rest => List.zipWith (triOfRows p) rest rest.tail

theorem fanTriangles_length (coords : List (α × α)) : (fanTriangles coords).length = coords.length - 2 := by
  cases coords with
  | nil => rfl
  | cons p rest =>
    cases rest with
    | nil => rfl
    | cons q rest => simp [fanTriangles]

/-- triangle `i` of the fan, by vertex numbers -/
theorem fanTriangles_getElem? (coords : List (α × α)) (i : Nat) (h : i + 2 < coords.length) :
    (fanTriangles coords)[i]? = some (triOfRows (coords[0]'(by omega)) (coords[i + 1]'(by omega)) coords[i + 2]) := by
  cases coords with
  | nil => simp at h
  | cons p rest =>
    simp only [List.length_cons] at h
    have h1 : i < rest.length := by omega
    have h2 : i < rest.tail.length := by simp; omega
    have h3 : i + 1 < rest.length := by omega
    simp [fanTriangles, List.getElem?_zipWith, h1, h2, h3, List.getElem?_eq_getElem]

def fanHdr : String := "for i in range(len(coords) - 2)"

def fanBody : List Stmt := [
  ([(true, fanHdr)], "assign", "idx = [0, i + 1, i + 2]"),
  ([(true, fanHdr)], "expr", "triangles.append(coords[idx])")]

open Loops in
set_option maxRecDepth 100000 in
/-- one trip of the loop with `i = j` -/
theorem fan_trip (s : FanSt α) (j : Nat) :
    runBody fanInterp fanBody (fanInterp.bind s fanHdr j) =
      some ((triAtRows s.coords 0 (j + 1) (j + 2)).map
        (fun T => { s with i := j, idx := (0, j + 1, j + 2), triangles := s.triangles ++ [T] })) := by
  have hb : fanInterp.bind s fanHdr j = { s with i := j } := rfl
  have hg : ∀ s' : FanSt α, guardEnter fanInterp s' [(true, fanHdr)] = some (some s') := fun _ => rfl
  have h1 : ∀ s' : FanSt α, fanInterp.step s' "assign" "idx = [0, i + 1, i + 2]" =
      some (some { s' with idx := (0, s'.i + 1, s'.i + 2) }) := fun _ => rfl
  have h2 : ∀ s' : FanSt α, fanInterp.step s' "expr" "triangles.append(coords[idx])" =
      some ((triAtRows s'.coords s'.idx.1 s'.idx.2.1 s'.idx.2.2).map
        (fun T => { s' with triangles := s'.triangles ++ [T] })) := fun _ => rfl
  have k1 : ("assign" = "return") = False := by decide
  have k2 : ("expr" = "return") = False := by decide
  rw [hb]
  simp only [fanBody, runBody, hg, h1, h2, k1, k2, if_false]
  cases triAtRows s.coords 0 (j + 1) (j + 2) <;> rfl

open Loops in
set_option maxRecDepth 100000 in
/-- the statement before the loop, the loop as one block, the `return` -/
theorem fan_run (coords : List (α × α)) :
    Loops.run fanInterp Gen.rel_triangulate_seq ⟨coords, [], 0, (0, 0, 0), none⟩ =
      match iterate (fun s i => runBody fanInterp fanBody (fanInterp.bind s fanHdr i)) (coords.length - 2) 0
          (⟨coords, [], 0, (0, 0, 0), none⟩ : FanSt α) with
      | none => none
      | some none => some none
      | some (some s') => some (some { s' with ret := some s'.triangles }) := by
  have h : Loops.run fanInterp Gen.rel_triangulate_seq (⟨coords, [], 0, (0, 0, 0), none⟩ : FanSt α) =
      runBlocks fanInterp [.loop fanHdr fanBody, .plain ([], "return", "np.array(triangles)")]
        ⟨coords, [], 0, (0, 0, 0), none⟩ := rfl
  have hg : outerGuard (fanInterp (α := α)).isLoop fanBody = [] := rfl
  have ht : ∀ s : FanSt α, fanInterp.trips s fanHdr = s.coords.length - 2 := fun _ => rfl
  have hr : ∀ s : FanSt α, fanInterp.step s "return" "np.array(triangles)" =
      some (some { s with ret := some s.triangles }) := fun _ => rfl
  rw [h]
  simp only [runBlocks, hg, guardEnter, ht, hr]
  generalize iterate _ _ _ _ = r
  rcases r with _ | _ | _ <;> rfl

theorem poly_zipWith_drop_succ {β γ : Type} (f : β → β → γ) (l : List β) (i : Nat) (h : i + 1 < l.length) :
    List.zipWith f (l.drop i) (l.drop (i + 1)) =
      f (l[i]'(by omega)) l[i + 1] :: List.zipWith f (l.drop (i + 1)) (l.drop (i + 1 + 1)) := by
  rw [List.drop_eq_getElem_cons (show i < l.length by omega), List.drop_eq_getElem_cons h, List.zipWith_cons_cons]

open Loops in
/-- the loop: with `p` = vertex 0 and `rest` = the other vertices, the trips `i, i+1, …` append the triangles
`(p, rest[j], rest[j+1])`, `j = i, i+1, …` -/
theorem fan_loop (p : α × α) (rest : List (α × α)) : ∀ (k i : Nat) (s : FanSt α), s.coords = p :: rest →
    i + k = rest.length - 1 →
    ∃ s', iterate (fun s i => runBody fanInterp fanBody (fanInterp.bind s fanHdr i)) k i s = some (some s') ∧
      s'.triangles = s.triangles ++ List.zipWith (triOfRows p) (rest.drop i) (rest.drop (i + 1)) := by
  intro k
  induction k with
  | zero =>
    intro i s hs hi
    refine ⟨s, rfl, ?_⟩
    have : rest.drop (i + 1) = [] := List.drop_eq_nil_of_le (by omega)
    simp [this]
  | succ k ih =>
    intro i s hs hi
    have h1 : i < rest.length := by omega
    have h2 : i + 1 < rest.length := by omega
    have ht : triAtRows s.coords 0 (i + 1) (i + 2) = some (triOfRows p rest[i] rest[i + 1]) := by
      simp [triAtRows, hs, List.getElem?_eq_getElem, h1, h2]
    obtain ⟨s2, hrun, htri⟩ := ih (i + 1)
      { s with i := i, idx := (0, i + 1, i + 2), triangles := s.triangles ++ [triOfRows p rest[i] rest[i + 1]] }
      hs (by omega)
    refine ⟨s2, ?_, ?_⟩
    · rw [iterate, fan_trip s i, ht]
      exact hrun
    · rw [htri, poly_zipWith_drop_succ _ rest i h2]
      simp only [List.append_assoc, List.singleton_append]

/-- **`triangulate`**: for every vertex list the fan from vertex 0 (it never raises) -/
theorem triangulate (coords : List (α × α)) : triangulateSeq coords = some (some (fanTriangles coords)) := by
  unfold triangulateSeq
  rw [fan_run]
  cases coords with
  | nil => rfl
  | cons p rest =>
    obtain ⟨s', hrun, htri⟩ := fan_loop p rest (rest.length - 1) 0 ⟨p :: rest, [], 0, (0, 0, 0), none⟩ rfl (by omega)
    have hl : (p :: rest).length - 2 = rest.length - 1 := by simp
    rw [hl, hrun]
    simp [Loops.retVal, htri, fanTriangles]

/-! ### triangulate_nonconvex -/

/-- the segments handed to the library: `(i, i + 1)` for every vertex `i`, the last one back to vertex 0 -/
def ringSegments (n : Nat) : List (Nat × Nat) := (List.range n).zip ((List.range n).tail ++ [0])

theorem ringSegments_length (n : Nat) : (ringSegments n).length = n := by
  cases n with
  | zero => rfl
  | succ n => simp [ringSegments, List.length_zip]

/-- segment `i` joins vertex `i` and vertex `i + 1` modulo the number of vertices -/
theorem ringSegments_getElem? (n i : Nat) (h : i < n) : (ringSegments n)[i]? = some (i, (i + 1) % n) := by
  unfold ringSegments
  rw [List.getElem?_zip_eq_some]
  refine ⟨by simp [h], ?_⟩
  by_cases hl : i + 1 < n
  · rw [List.getElem?_append_left (by simp; omega)]
    have hl' : i < n - 1 := by omega
    simp [List.getElem?_tail, hl, hl', Nat.mod_eq_of_lt hl, List.getElem?_range', Nat.add_comm]
  · have : i + 1 = n := by omega
    rw [List.getElem?_append_right (by simp; omega)]
    subst this
    simp

/-- closed form of `triangulate_nonconvex(coords)`: the library gets the vertices, the closed ring of segments and the
flag `'p'`; read back: for every row of `['triangles']` the three rows of `['vertices']` it names.
`none` = the code raises (no vertices, the library raises, a vertex number outside `['vertices']`) -/
def triangulateNonconvexSpec (trLib : List (α × α) → List (Nat × Nat) → String → Option (TrData α))
    (coords : List (α × α)) : Option (List (Tri α)) :=
  if coords.isEmpty then none else
  (trLib coords (ringSegments coords.length) "p").bind
    (fun d => d.triangles.mapM (fun t => triAtRows d.vertices t.1 t.2.1 t.2.2))

/-- **`triangulate_nonconvex`**: for every vertex list and every behaviour of the library -/
theorem triangulate_nonconvex (trLib : List (α × α) → List (Nat × Nat) → String → Option (TrData α))
    (coords : List (α × α)) :
    triangulateNonconvexSeq trLib coords = some (triangulateNonconvexSpec trLib coords) := by
  unfold triangulateNonconvexSeq triangulateNonconvexSpec Gen.rel_triangulate_nonconvex_seq
  iterate 2 refine (Run.runRet_step rfl (by decide) (by text_step trnStep trnStep.match_5)).trans ?_
  cases coords with
  | nil =>
    exact Run.runRet_raise rfl (by decide) (by text_step trnStep trnStep.match_5)
      (by text_known trnStep trnStep.match_5 trnRet trnRet.match_1)
  | cons p rest =>
    have hl : (List.range (p :: rest).length).length = ((List.range (p :: rest).length).tail ++ [0]).length := by simp
    refine (Run.runRet_step rfl (by decide) (by text_step trnStep trnStep.match_5)).trans ?_
    refine Run.runRet_bind rfl (by decide) (by text_step trnStep trnStep.match_5)
      (by text_known trnStep trnStep.match_5 trnRet trnRet.match_1) fun d => ?_
    refine (Run.runRet_map (F := fun ts => ts) rfl (by decide) (by text_step trnStep trnStep.match_5) rfl
      fun ts => ?_).trans (congrArg some Option.map_id')
    exact Run.runRet_return rfl rfl rfl

/-! ### triangulate_nonconvex_multi -/

/-- closed form of `triangulate_nonconvex_multi(coords)`: every polygon triangulated on its own, in order; the
triangles of all polygons in one array (`Seq.npConcatTris`), and for every triangle the number of its polygon.
`none` = the code raises: a triangulation raises, there is no polygon (`np.concatenate([])`), or some polygons but not
all come back without triangles (arrays of different rank). -/
def triangulateMultiSpec (trLib : List (α × α) → List (Nat × Nat) → String → Option (TrData α))
    (coords : List (List (α × α))) : Option (List (Tri α) × List Nat) :=
  (coords.mapM (triangulateNonconvexSpec trLib)).bind fun tss =>
  (npConcatTris tss).bind fun flat =>
  (npConcatIdx (tss.zipIdx.map (fun p => List.replicate p.1.length p.2))).map fun idx => (flat, idx)

theorem poly_zipIdx_map_fst {β : Type} (l : List β) (k : Nat) : (l.zipIdx k).map (fun p => p.1) = l := by
  induction l generalizing k with
  | nil => rfl
  | cons a l ih => simp only [List.zipIdx_cons, List.map_cons, ih]

/-- **`triangulate_nonconvex_multi`** -/
theorem triangulate_nonconvex_multi (trLib : List (α × α) → List (Nat × Nat) → String → Option (TrData α))
    (coords : List (List (α × α))) :
    triangulateMultiSeq trLib coords = some (triangulateMultiSpec trLib coords) := by
  have hmm := mapMM_of_forall (triangulateNonconvexSeq trLib) (triangulateNonconvexSpec trLib) coords
    (triangulate_nonconvex trLib)
  have hz := @poly_zipIdx_map_fst (List (Tri α))
  unfold triangulateMultiSeq triangulateMultiSpec Gen.rel_triangulate_nonconvex_multi_seq
  refine Run.runRet_bind rfl (by decide) (by text_step trmStep trmStep.match_1)
    (by text_known trmStep trmStep.match_1 trmRet trmRet.match_1) fun tss => ?_
  refine Run.runRet_bind rfl (by decide) (by text_step trmStep trmStep.match_1)
    (by text_known trmStep trmStep.match_1 trmRet trmRet.match_1) fun flat => ?_
  refine Run.runRet_map rfl (by decide) (by text_step trmStep trmStep.match_1) rfl fun idx => ?_
  exact Run.runRet_return rfl rfl rfl

/-- when every polygon has triangles: all of them, polygon by polygon, each with the number of its polygon -/
theorem triangulateMultiSpec_regular (trLib : List (α × α) → List (Nat × Nat) → String → Option (TrData α))
    (coords : List (List (α × α))) (tss : List (List (Tri α)))
    (h : coords.mapM (triangulateNonconvexSpec trLib) = some tss) (hne : tss ≠ []) (hall : ∀ ts ∈ tss, ts ≠ []) :
    triangulateMultiSpec trLib coords =
      some (tss.flatten, (tss.zipIdx.map (fun p => List.replicate p.1.length p.2)).flatten) := by
  have h1 : tss.isEmpty = false := by cases tss <;> simp at hne ⊢
  have h2 : tss.any (fun c => c.isEmpty) = false := by
    rw [List.any_eq_false]; intro ts hts; simpa using hall ts hts
  simp [triangulateMultiSpec, h, npConcatTris, npConcatIdx, h1, h2, hne]

/-- `triangulate_nonconvex_multi` closes the gap left in `LocationSeq.lean`: the parameter `tri` of
`Seq.latlonFromPolySeq` is the closed form `triangulateMultiSpec trLib` -/
theorem latlon_from_poly_triangle (trLib : List (α × α) → List (Nat × Nat) → String → Option (TrData α))
    (draws : List (α × α × α)) (lat lon : Coord α) (n : Nat) :
    latlonFromPolySeq (triangulateMultiSpec trLib) draws lat lon n =
      some (latlonFromPolySpec (triangulateMultiSpec trLib) draws lat lon n) :=
  latlon_from_poly _ draws lat lon n

/-! ### point_inside_polygon -/

/-- closed form of `point_inside_polygon(coords)`: with `i` the (first) row that is smallest in column 1, then column 0
(`Seq.lexArgmin`), `c2 = coords[i]`, `c1 = coords[i - 1]` (row `-1` is the last row), `c3 = coords[i + 1]` — *without*
wrap-around — the point `c2 + 1e-7 (c1 − c2) + 1e-7 (c3 − c2)`; `none` = `IndexError` -/
def pointInsideSpec (coords : List (α × α)) : Option (α × α) :=
  (lexArgmin coords).bind fun i =>
  (if i = 0 then coords.getLast? else coords[i - 1]?).bind fun c1 =>
  (coords[i]?).bind fun c2 =>
  (coords[i + 1]?).bind fun c3 =>
  some (c2.1 + 1e-07 * (c1.1 - c2.1) + 1e-07 * (c3.1 - c2.1), c2.2 + 1e-07 * (c1.2 - c2.2) + 1e-07 * (c3.2 - c2.2))

/-- **`point_inside_polygon`** -/
theorem point_inside_polygon [Inhabited α] (coords : List (α × α)) :
    pointInsideSeq coords = some (pointInsideSpec coords) := by
  unfold pointInsideSeq pointInsideSpec Gen.rel_point_inside_polygon_seq
  refine Run.runRet_bind rfl (by decide) rfl rfl fun i => ?_
  refine Run.runRet_bind rfl (by decide) rfl rfl fun c1 => ?_
  refine Run.runRet_bind rfl (by decide) rfl rfl fun c2 => ?_
  refine Run.runRet_bind rfl (by decide) rfl rfl fun c3 => ?_
  refine (Run.runRet_step rfl (by decide) rfl).trans ?_
  refine (Run.runRet_step rfl (by decide) rfl).trans ?_
  exact Run.runRet_return rfl rfl rfl

theorem lexArgminFrom_lt (l : List (α × α)) : ∀ (best : Nat × (α × α)) (i n : Nat), best.1 < n → i + l.length ≤ n →
    lexArgminFrom best i l < n := by
  induction l with
  | nil => intro best i n hb _; exact hb
  | cons p ps ih =>
    intro best i n hb hl
    simp only [lexArgminFrom, List.length_cons] at hl ⊢
    apply ih
    · split
      · simp only; omega
      · exact hb
    · omega

/-- the row number is a valid one -/
theorem lexArgmin_lt (coords : List (α × α)) (i : Nat) (h : lexArgmin coords = some i) : i < coords.length := by
  cases coords with
  | nil => simp [lexArgmin] at h
  | cons p ps =>
    simp only [lexArgmin, Option.some.injEq] at h
    subst h
    exact lexArgminFrom_lt ps (0, p) 1 (ps.length + 1) (by simp) (by omega)

/-- **the code raises `IndexError` whenever the smallest vertex is the last row** (`coords[i + 1]` does not wrap
around, `coords[i - 1]` does) -/
theorem point_inside_polygon_last_raises (coords : List (α × α))
    (h : lexArgmin coords = some (coords.length - 1)) : pointInsideSpec coords = none := by
  have hlt := lexArgmin_lt coords _ h
  have hn : coords[coords.length - 1 + 1]? = none := List.getElem?_eq_none (by omega)
  unfold pointInsideSpec
  rw [h]
  simp only [Option.bind_some, hn]
  cases (if coords.length - 1 = 0 then coords.getLast? else coords[coords.length - 1 - 1]?) with
  | none => rfl
  | some c1 => cases coords[coords.length - 1]? <;> rfl

/-! ### get_polygon_sample_convex / get_polygon_sample_nonconvex / get_polygon_sample -/

/-- what the two samplers keep of `get_polygon_sample_triangles`: `(x, y)` (and the rest of the random stream) -/
def polyDropTriangleNum (r : (List α × List α × List Nat) × List α) : (List α × List α) × List α :=
  ((r.1.1, r.1.2.1), r.2)

/-- closed form of `get_polygon_sample_convex(coords, num)`: `get_polygon_sample_triangles` (`Bridge.polygonSampleSpec`)
on the fan from vertex 0 -/
def sampleConvexSpec (coords : List (α × α)) (num : Nat) (rng : List α) : Option ((List α × List α) × List α) :=
  (polygonSampleSpec (fanTriangles coords) num rng).map polyDropTriangleNum

/-- closed form of `get_polygon_sample_nonconvex(coords, num)`: `get_polygon_sample_triangles` on the triangles of the
library -/
def sampleNonconvexSpec (trLib : List (α × α) → List (Nat × Nat) → String → Option (TrData α))
    (coords : List (α × α)) (num : Nat) (rng : List α) : Option ((List α × List α) × List α) :=
  (triangulateNonconvexSpec trLib coords).bind fun ts => (polygonSampleSpec ts num rng).map polyDropTriangleNum

/-- **`get_polygon_sample_convex`** = `get_polygon_sample_triangles ∘ triangulate` -/
theorem get_polygon_sample_convex (trLib : List (α × α) → List (Nat × Nat) → String → Option (TrData α))
    (coords : List (α × α)) (num : Nat) (rng : List α) :
    sampleConvexSeq trLib coords num rng = some (sampleConvexSpec coords num rng) := by
  have h1 := @triangulate α
  have h2 := @get_polygon_sample_triangles α
  unfold sampleConvexSeq sampleConvexSpec Gen.rel_sample_convex_seq
  refine (Run.runRet_step rfl (by decide) (by text_step polySmpStep polySmpStep.match_1)).trans ?_
  refine Run.runRet_map rfl (by decide) (by text_step polySmpStep polySmpStep.match_1) rfl fun r => ?_
  exact Run.runRet_return rfl rfl rfl

/-- **`get_polygon_sample_nonconvex`** = `get_polygon_sample_triangles ∘ triangulate_nonconvex` -/
theorem get_polygon_sample_nonconvex (trLib : List (α × α) → List (Nat × Nat) → String → Option (TrData α))
    (coords : List (α × α)) (num : Nat) (rng : List α) :
    sampleNonconvexSeq trLib coords num rng = some (sampleNonconvexSpec trLib coords num rng) := by
  have h1 := triangulate_nonconvex trLib
  have h2 := @get_polygon_sample_triangles α
  unfold sampleNonconvexSeq sampleNonconvexSpec Gen.rel_sample_nonconvex_seq
  refine Run.runRet_bind rfl (by decide) (by text_step polySmpStep polySmpStep.match_1)
    (by text_known polySmpStep polySmpStep.match_1 polySmpRet polySmpRet.match_1) fun ts => ?_
  refine Run.runRet_map rfl (by decide) (by text_step polySmpStep polySmpStep.match_1) rfl fun r => ?_
  exact Run.runRet_return rfl rfl rfl

/-- under the only hypothesis needed — the stream holds the `3 · num` numbers the code draws —: `Sample.samplePoint` per
particle (`Seq.sampleTriangles`) on the fan, with the draws of `Bridge.rngDraws` -/
theorem get_polygon_sample_convex_of_stream (trLib : List (α × α) → List (Nat × Nat) → String → Option (TrData α))
    (coords : List (α × α)) (num : Nat) (rng : List α) (h : num * 3 ≤ rng.length) :
    sampleConvexSeq trLib coords num rng =
      some ((sampleTriangles (fanTriangles coords) num (rngDraws num rng)).map
        (fun r => ((r.1, r.2.1), rng.drop (num * 3)))) := by
  rw [get_polygon_sample_convex, sampleConvexSpec, polygonSampleSpec, if_pos h, Option.map_map]
  rfl

/-- closed form of `get_polygon_sample(coords, num)`: the fan when all turns have the same sign, the library otherwise;
`none` = the code raises -/
def polygonSampleDispatchSpec (trLib : List (α × α) → List (Nat × Nat) → String → Option (TrData α))
    (coords : List (α × α)) (num : Nat) (rng : List α) : Option ((List α × List α) × List α) :=
  (isConvexSpec coords).bind fun b =>
    if b then sampleConvexSpec coords num rng else sampleNonconvexSpec trLib coords num rng

/-- **`get_polygon_sample`** -/
theorem get_polygon_sample (trLib : List (α × α) → List (Nat × Nat) → String → Option (TrData α))
    (coords : List (α × α)) (num : Nat) (rng : List α) :
    polygonSampleSeq trLib coords num rng = some (polygonSampleDispatchSpec trLib coords num rng) := by
  have h1 := get_polygon_sample_convex trLib
  have h2 := get_polygon_sample_nonconvex trLib
  unfold polygonSampleSeq polygonSampleDispatchSpec Gen.rel_get_polygon_sample_seq
  rw [is_convex]
  cases isConvexSpec coords with
  | none => rfl
  | some b =>
    cases b with
    | true =>
      exact Run.runRet_return rfl (by text_step gpsRet gpsRet.match_1)
        (by text_known gpsAtom gpsAtom.match_1 gpsRet gpsRet.match_1)
    | false =>
      refine (Run.runRet_skip rfl (by text_known gpsAtom gpsAtom.match_1 gpsRet gpsRet.match_1)).trans ?_
      exact Run.runRet_return rfl (by text_step gpsRet gpsRet.match_1) rfl

/-! ### get_attrs -/

/-- closed form of `get_attrs(attrs_conf, num)`: `Attr.getAttr` for every item, in the order of the mapping, under its
key; `none` = one of the calls raises -/
def getAttrsSpec (cv : Attr.ClipArgs) (conf : List (AttrEntry α)) (num : Nat) : Option (List (String × List α)) :=
  conf.mapM (fun e => (Attr.getAttr cv e.spec num e.draws).map (fun l => (e.key, l)))

set_option maxRecDepth 100000 in
/-- for the argument order `cv` of the gaussian `np.clip` that the generated text of `get_distribution` shows -/
theorem get_attrs_of (cv : Attr.ClipArgs) (h : Seq.clipSeen Gen.get_distribution_seq = some cv)
    (conf : List (AttrEntry α)) (num : Nat) :
    getAttrsSeq conf num = some (getAttrsSpec cv conf num) := by
  have hmm := mapMM_of_forall
    (fun e : AttrEntry α => (getAttrSeq e.byName e.spec num e.draws).map (fun o => o.map (fun l => (e.key, l))))
    (fun e => (Attr.getAttr cv e.spec num e.draws).map (fun l => (e.key, l))) conf
    (fun e => by rw [get_attr_seq_of cv h]; rfl)
  simp [getAttrsSeq, getAttrsSpec, Gen.rel_get_attrs_seq, runRet, stmtKnown, guardKnown, guardVal, polyNoAtom, getAttrsStep,
    getAttrsRet, hmm]

/-- **`get_attrs`** = `get_attr` per key, in the order of the mapping (`Attr.getAttr` with the `np.clip` argument order
that the generated text shows, as in `Bridge.get_attr_seq`) -/
theorem get_attrs :
    ∃ cv, Seq.clipSeen Gen.get_distribution_seq = some cv ∧
      ∀ (conf : List (AttrEntry α)) (num : Nat), getAttrsSeq conf num = some (getAttrsSpec cv conf num) := by
  obtain ⟨cv, h⟩ := clip_seen
  exact ⟨cv, h, get_attrs_of cv h⟩

/-- the keys of the result are the keys of the mapping, in order -/
theorem getAttrsSpec_keys (cv : Attr.ClipArgs) (conf : List (AttrEntry α)) (num : Nat) (r : List (String × List α))
    (h : getAttrsSpec cv conf num = some r) : r.map (fun p => p.1) = conf.map (fun e => e.key) := by
  induction conf generalizing r with
  | nil => simp [getAttrsSpec] at h; subst h; rfl
  | cons e conf ih =>
    simp only [getAttrsSpec, List.mapM_cons] at h ih
    cases h1 : Attr.getAttr cv e.spec num e.draws with
    | none => simp [h1] at h
    | some l =>
      cases h2 : conf.mapM (fun e => (Attr.getAttr cv e.spec num e.draws).map (fun l => (e.key, l))) with
      | none => simp [h1, h2] at h
      | some r' =>
        simp [h1, h2] at h
        subst h
        simp [ih r' h2]

end

/-! ### metric_diff_to_degrees / degree_diff_to_metric -/
section
variable {α : Type} [Add α] [Sub α] [Mul α] [Div α] [Neg α] [LT α] [DecidableLT α] [OfScientific α]
  [HasSqrt α] [HasSin α] [HasCos α] [HasPi α]

/-- **`metric_diff_to_degrees`**: the statement sequence is the window `Gen.metric_to_deg` (the formula used by
`LocationSeq.lean` and `C03.metric_deg_inverse`) -/
theorem metric_diff_to_degrees (dx dy lat : α) :
    metricToDegSeq dx dy lat = some (some (Gen.metric_to_deg dx dy lat)) := by
  unfold metricToDegSeq Gen.rel_metric_diff_to_degrees_seq
  iterate 9 refine (Run.runRet_step rfl (by decide) (by text_step m2dStep m2dStep.match_1)).trans ?_
  exact Run.runRet_return rfl rfl rfl

/-- **`degree_diff_to_metric`**: the statement sequence is the window `Gen.deg_to_metric` -/
theorem degree_diff_to_metric (lonDiff latDiff lat : α) :
    degToMetricSeq lonDiff latDiff lat = some (some (Gen.deg_to_metric lonDiff latDiff lat)) := by
  unfold degToMetricSeq Gen.rel_degree_diff_to_metric_seq
  iterate 9 refine (Run.runRet_step rfl (by decide) (by text_step d2mStep d2mStep.match_1)).trans ?_
  exact Run.runRet_return rfl rfl rfl

end

/-! ### get_depth -/
section
variable {α : Type} [Add α] [Sub α] [Mul α] [Div α] [Neg α] [LT α] [DecidableLT α] [OfScientific α] [HasOfInt α]

/-- closed form of `get_depth(depth_span, num)`: `num` equidistant values from the first to the second element of the
span (a number counts twice), shuffled; `none` = `TypeError` (a span that is not a pair) -/
def getDepthSpec (shuffle : List α → List α) : DepthSpan α → Nat → Option (List α)
  | .scalar x, num => some (shuffle (npLinspace x x num))
  | .seq [a, b], num => some (shuffle (npLinspace a b num))
  | .seq _, _ => none

/-- **`get_depth`** -/
theorem get_depth (shuffle : List α → List α) (span : DepthSpan α) (num : Nat) :
    getDepthSeq shuffle span num = some (getDepthSpec shuffle span num) := by
  unfold getDepthSeq Gen.rel_get_depth_seq
  cases span with
  | scalar x =>
    refine (Run.runRet_step (Run.guardVal_pos (by unfold getDepthAtom getDepthAtom.match_1; simp only [↓reduceDIte, String.reduceEq])) (by decide)
      (by text_step getDepthStep getDepthStep.match_6)).trans ?_
    iterate 2 refine (Run.runRet_step rfl (by decide) (by text_step getDepthStep getDepthStep.match_6)).trans ?_
    exact Run.runRet_return rfl rfl rfl
  | seq l =>
    refine (Run.runRet_skip (Run.guardVal_neg (by text_step getDepthAtom getDepthAtom.match_1))
      (by text_known getDepthAtom getDepthAtom.match_1 getDepthStep getDepthStep.match_6)).trans ?_
    match l with
    | [a, b] =>
      iterate 2 refine (Run.runRet_step rfl (by decide) (by text_step getDepthStep getDepthStep.match_6)).trans ?_
      exact Run.runRet_return rfl rfl rfl
    | [] | [_] | _ :: _ :: _ :: _ =>
      exact Run.runRet_raise rfl (by decide)
        (by unfold getDepthStep getDepthStep.match_6; simp only [↓reduceDIte, String.reduceEq])
        (by text_known getDepthStep getDepthStep.match_6 getDepthRet getDepthRet.match_1)

end

/-! ### main -/
section
variable {τ : Type}

/-- closed form of `main()`: without arguments the usage text; with one argument `make_release(argv[1])` and its result
printed as a table; with two or more `make_release(argv[1], argv[2])` (further arguments are ignored; there is no
seed option: the seed is a key of the configuration file); `none` = `make_release` raises -/
def makrelMainSpec (mk : String → Option String → Option τ) : List String → Option (List (MakrelEffect τ))
  | [] => some [.printUsage]
  | [_] => some [.printUsage]
  | [_, cfg] => (mk cfg none).map (fun o => [.makeRelease cfg none o, .printFrame o])
  | _ :: cfg :: f :: _ => (mk cfg (some f)).map (fun o => [.makeRelease cfg (some f) o])

section generic
variable {σ : Type} {atom : σ → String → Option Bool} {step : σ → String → String → Option (Option σ)}
  {g : List Cond} {k t : String} {rest : List Stmt} {s s' : σ}

theorem runProcStrict_skip (hg : guardVal atom s g = some false) (hgk : guardKnown atom s g = true)
    (hk : (k = "return") = False) (hs : (step s k t).isSome = true) :
    runProcStrict atom step ((g, k, t) :: rest) s = runProcStrict atom step rest s := by
  simp [runProcStrict, hg, hgk, hk, hs]

theorem runProcStrict_step (hg : guardVal atom s g = some true) (hk : (k = "return") = False)
    (hs : step s k t = some (some s')) :
    runProcStrict atom step ((g, k, t) :: rest) s = runProcStrict atom step rest s' := by
  simp [runProcStrict, hg, Run.guardKnown_of_true hg, hk, hs]

/-- a statement that may raise (`o = none`), as `Run.runRet_map` -/
theorem runProcStrict_map {β : Type} {o : Option β} {f F : β → σ} (hg : guardVal atom s g = some true)
    (hk : (k = "return") = False) (hs : step s k t = some (o.map f))
    (hr : rest.all (fun st => guardKnown atom s st.1 && (step s st.2.1 st.2.2).isSome) = true)
    (h : ∀ b, runProcStrict atom step rest (f b) = some (some (F b))) :
    runProcStrict atom step ((g, k, t) :: rest) s = some (o.map F) := by
  cases o with
  | none => simp [runProcStrict, hg, Run.guardKnown_of_true hg, hk, hs, hr]
  | some b => exact (runProcStrict_step hg hk hs).trans (h b)
end generic

/-- **`main`** -/
theorem makrel_main (mk : String → Option String → Option τ) (argv : List String) :
    makrelMainSeq mk argv = some (makrelMainSpec mk argv) := by
  have ku : ∀ s, (makrelMainStep mk s "expr" makrelUsageStmt).isSome = true := fun s =>
    Option.isSome_of_eq_some (by text_step makrelMainStep)
  have k3 : ∀ s, (makrelMainStep mk s "assign" "out = make_release(sys.argv[1])").isSome = true := fun s =>
    Option.isSome_of_eq_some (by text_step makrelMainStep makrelUsageStmt makrelMainStepShort makrelMainStepShort.match_5)
  have k4 : ∀ s, (makrelMainStep mk s "expr" "print(pd.DataFrame(out))").isSome = true := fun s =>
    Option.isSome_of_eq_some (by text_step makrelMainStep makrelUsageStmt makrelMainStepShort makrelMainStepShort.match_5)
  have k5 : ∀ s, (makrelMainStep mk s "expr" "make_release(sys.argv[1], sys.argv[2])").isSome = true := fun s =>
    Option.isSome_of_eq_some (by text_step makrelMainStep makrelUsageStmt makrelMainStepShort makrelMainStepShort.match_5)
  unfold makrelMainSeq Gen.rel_main_seq
  rw [← makrelUsageStmt.eq_1, runProcStrict_step rfl (by decide)
    (by text_step makrelMainStep makrelUsageStmt makrelMainStepShort makrelMainStepShort.match_5)]
  match argv with
  | [] | [a] =>
    rw [runProcStrict_step rfl (by decide) (by text_step makrelMainStep),
      runProcStrict_skip rfl rfl (by decide) (k3 _), runProcStrict_skip rfl rfl (by decide) (k4 _),
      runProcStrict_skip rfl rfl (by decide) (k5 _)]
    rfl
  | [a, cfg] =>
    rw [runProcStrict_skip rfl rfl (by decide) (ku _),
      runProcStrict_map (F := fun o => ⟨[a, cfg], some o, [.makeRelease cfg none o, .printFrame o]⟩) rfl (by decide)
        (by text_step makrelMainStep makrelUsageStmt makrelMainStepShort makrelMainStepShort.match_5)
        (by simp only [List.all_cons, List.all_nil, k4, k5]; rfl) fun o => by
          rw [runProcStrict_step rfl (by decide)
              (by text_step makrelMainStep makrelUsageStmt makrelMainStepShort makrelMainStepShort.match_5),
            runProcStrict_skip rfl rfl (by decide) (k5 _)]
          rfl,
      Option.map_some, Option.map_map]
    rfl
  | a :: cfg :: f :: rest =>
    rw [runProcStrict_skip rfl rfl (by decide) (ku _), runProcStrict_skip rfl rfl (by decide) (k3 _),
      runProcStrict_skip rfl rfl (by decide) (k4 _),
      runProcStrict_map (F := fun o => ⟨a :: cfg :: f :: rest, none, [.makeRelease cfg (some f) o]⟩) rfl (by decide)
        (by text_step makrelMainStep makrelUsageStmt makrelMainStepShort makrelMainStepShort.match_5) rfl fun o => rfl,
      Option.map_some, Option.map_map]
    rfl
end

/-! ### farms.py -/
section
variable {α : Type}

/-- the member of the WFS answer that carries the locality number -/
def farmsMember (E : FarmsEnv α) (layer loknr : String) : Option String :=
  (E.http "https://ogc.fiskeridir.no/wfs.ashx" (farmsPayload layer)).bind fun text =>
  (E.findall "<wfs:member>(.*?)</wfs:member>" text).find? (fun m => E.isSub ("<ms:loknr>" ++ loknr ++ "</ms:loknr>") m)

/-- closed form of `farms.polygon(loknr)`: layer 203; the numbers of the `gml:posList` element are `lat lon` pairs;
returned `(lon, lat)` without the closing position; `none` = the code raises -/
def farmsPolygonSpec (E : FarmsEnv α) (loknr : String) : Option (List α × List α) :=
  (farmsMember E "layer_203" loknr).bind fun m =>
  (E.search "<gml:posList.*?>(.*?)</gml:posList>" m).bind fun pos =>
  ((E.floats pos).bind farmsPairRows).map fun rows =>
    ((rows.map (fun p => p.2)).dropLast, (rows.map (fun p => p.1)).dropLast)

/-- closed form of `farms.location(loknr)`: layer 262; the `gml:pos` element holds `lat lon`; returned `(lon, lat)` -/
def farmsLocationSpec (E : FarmsEnv α) (loknr : String) : Option (α × α) :=
  (farmsMember E "layer_262" loknr).bind fun m =>
  (E.search "<gml:pos.*?>(.*?)</gml:pos>" m).bind fun pos =>
  ((E.floats pos).bind farmsPairOf).map fun p => (p.2, p.1)

/-- **`farms.polygon`** -/
theorem farms_polygon (E : FarmsEnv α) (loknr : String) :
    farmsPolygonSeq E loknr = some (farmsPolygonSpec E loknr) := by
  rw [farmsPolygonSpec, farmsMember, Option.bind_assoc]
  unfold farmsPolygonSeq Gen.farms_polygon_seq
  iterate 5 refine (Run.runRet_step rfl (by decide) (by text_step farmsStep farmsStep.match_1)).trans ?_
  refine Run.runRet_bind rfl (by decide) (by text_step farmsStep farmsStep.match_1) (by text_known farmsStep farmsStep.match_1 farmsPolygonRet farmsPolygonRet.match_1) fun text => ?_
  refine (Run.runRet_step rfl (by decide) (by text_step farmsStep farmsStep.match_1)).trans ?_
  refine Run.runRet_bind rfl (by decide) (by text_step farmsStep farmsStep.match_1) (by text_known farmsStep farmsStep.match_1 farmsPolygonRet farmsPolygonRet.match_1) fun m => ?_
  refine Run.runRet_bind rfl (by decide) (by text_step farmsStep farmsStep.match_1) (by text_known farmsStep farmsStep.match_1 farmsPolygonRet farmsPolygonRet.match_1) fun pos => ?_
  refine Run.runRet_map rfl (by decide) (by text_step farmsStep farmsStep.match_1) rfl fun rows => ?_
  exact Run.runRet_return rfl rfl rfl

/-- **`farms.location`** -/
theorem farms_location (E : FarmsEnv α) (loknr : String) :
    farmsLocationSeq E loknr = some (farmsLocationSpec E loknr) := by
  rw [farmsLocationSpec, farmsMember, Option.bind_assoc]
  unfold farmsLocationSeq Gen.farms_location_seq
  iterate 5 refine (Run.runRet_step rfl (by decide) (by text_step farmsStep farmsStep.match_1)).trans ?_
  refine Run.runRet_bind rfl (by decide) (by text_step farmsStep farmsStep.match_1) (by text_known farmsStep farmsStep.match_1 farmsLocationRet farmsLocationRet.match_1) fun text => ?_
  refine (Run.runRet_step rfl (by decide) (by text_step farmsStep farmsStep.match_1)).trans ?_
  refine Run.runRet_bind rfl (by decide) (by text_step farmsStep farmsStep.match_1) (by text_known farmsStep farmsStep.match_1 farmsLocationRet farmsLocationRet.match_1) fun m => ?_
  refine Run.runRet_bind rfl (by decide) (by text_step farmsStep farmsStep.match_1) (by text_known farmsStep farmsStep.match_1 farmsLocationRet farmsLocationRet.match_1) fun pos => ?_
  refine Run.runRet_map rfl (by decide) (by text_step farmsStep farmsStep.match_1) rfl fun p => ?_
  exact Run.runRet_return rfl rfl rfl

end

section
variable {α : Type} [Add α] [Sub α] [Mul α] [Div α] [Neg α] [LT α] [DecidableLT α] [OfScientific α]

/-- `c = coords ++ coords[0:2]` read cyclically: row `j` of `c` is row `j mod n` of `coords` -/
theorem cvx_concat_getElem? (coords : List (α × α)) (hn : 2 ≤ coords.length) (j : Nat) (hj : j < coords.length + 2) :
    (coords ++ coords.take 2)[j]? = coords[j % coords.length]? := by
  by_cases h : j < coords.length
  · rw [List.getElem?_append_left h, Nat.mod_eq_of_lt h]
  · have h1 : coords.length ≤ j := by omega
    have h2 : j % coords.length = j - coords.length := by
      rw [Nat.mod_eq_sub_mod h1, Nat.mod_eq_of_lt (by omega)]
    rw [List.getElem?_append_right h1, h2, List.getElem?_take]
    simp; omega

/-- the turn sign at vertex `i + 1`: the sign test on the edges `pᵢ − pᵢ₊₁` and `pᵢ₊₁ − pᵢ₊₂`, indices modulo the
number of vertices (what `np.roll` would give) -/
theorem turnSigns_getElem? (coords : List (α × α)) (hn : 2 ≤ coords.length) (i : Nat) (hi : i < coords.length) :
    (turnSigns coords)[i]? =
      some (let n := coords.length
        let p := coords[i % n]'(Nat.mod_lt _ (by omega))
        let q := coords[(i + 1) % n]'(Nat.mod_lt _ (by omega))
        let r := coords[(i + 2) % n]'(Nat.mod_lt _ (by omega))
        decide ((p.2 - q.2) * (q.1 - r.1) < (p.1 - q.1) * (q.2 - r.2))) := by
  have e0 := cvx_concat_getElem? coords hn i (by omega)
  have e1 := cvx_concat_getElem? coords hn (i + 1) (by omega)
  have e2 := cvx_concat_getElem? coords hn (i + 2) (by omega)
  have m0 : i % coords.length < coords.length := Nat.mod_lt _ (by omega)
  have m1 : (i + 1) % coords.length < coords.length := Nat.mod_lt _ (by omega)
  have m2 : (i + 2) % coords.length < coords.length := Nat.mod_lt _ (by omega)
  simp only [turnSigns, cvxEdges, List.getElem?_zipWith, List.getElem?_tail, e0, e1, e2,
    List.getElem?_eq_getElem m0, List.getElem?_eq_getElem m1, List.getElem?_eq_getElem m2]

theorem turnSigns_length (coords : List (α × α)) (hn : 2 ≤ coords.length) :
    (turnSigns coords).length = coords.length := by
  simp only [turnSigns, cvxEdges, List.length_zipWith, List.length_take, List.length_append, List.length_tail]
  omega

end

/-! ### over an ordered field: what the closed forms mean (C17) -/
section
variable {α : Type} [Field α] [LinearOrder α] [IsStrictOrderedRing α]

/-- the three turns of a triangle are the same cross product (twice the signed area), so **`is_convex` is true for
every triangle** — degenerate ones included -/
theorem is_convex_triangle (p q r : α × α) : isConvexSpec [p, q, r] = some true := by
  have key : ∀ a b c d : α, d - c = b - a → decide (a < b) = decide (c < d) := by
    intro a b c d h
    by_cases h1 : a < b
    · have : c < d := by linarith
      simp [h1, this]
    · have : ¬ c < d := by intro h2; apply h1; linarith
      simp [h1, this]
  have k1 := key ((p.2 - q.2) * (q.1 - r.1)) ((p.1 - q.1) * (q.2 - r.2)) ((q.2 - r.2) * (r.1 - p.1))
    ((q.1 - r.1) * (r.2 - p.2)) (by ring)
  have k2 := key ((p.2 - q.2) * (q.1 - r.1)) ((p.1 - q.1) * (q.2 - r.2)) ((r.2 - p.2) * (p.1 - q.1))
    ((r.1 - p.1) * (p.2 - q.2)) (by ring)
  simp [isConvexSpec, turnSigns, cvxEdges, ← k1, ← k2]

/-- twice the signed area of a triangle (positive = counter-clockwise) -/
def triSignedArea2 (T : Tri α) : α := (T.x2 - T.x1) * (T.y3 - T.y1) - (T.y2 - T.y1) * (T.x3 - T.x1)

theorem triArea_eq_abs_signed (T : Tri α) : triArea T = |triSignedArea2 T| / 2 := C17.triangle_areas_abs T

/-- the fan triangles with apex `o` over the chain `a, …`: their doubled signed areas add up to the shoelace sum of the
chain closed through `o` -/
theorem fan_chain_sum (o a : α × α) (rest : List (α × α)) :
    shoelace2 (a :: rest) o.1 o.2 =
      ((List.zipWith (triOfRows o) (a :: rest) rest).map triSignedArea2).sum + (a.1 * o.2 - o.1 * a.2) := by
  induction rest generalizing a with
  | nil => simp [shoelace2]
  | cons b rest ih =>
    rw [shoelace2, ih b]
    simp only [List.zipWith_cons_cons, List.map_cons, List.sum_cons, triSignedArea2, triOfRows]
    ring

/-- **the signed areas of the fan triangles of `triangulate` add up to the shoelace sum of the polygon**: twice the
signed area of the polygon, whatever its shape -/
theorem fan_signed_area_sum (p : α × α) (rest : List (α × α)) :
    ((fanTriangles (p :: rest)).map triSignedArea2).sum = shoelace2 (p :: rest) p.1 p.2 := by
  cases rest with
  | nil => simp [fanTriangles, shoelace2]
  | cons a rest =>
    rw [shoelace2, fan_chain_sum p a rest]
    simp only [fanTriangles, List.tail_cons]
    ring

theorem poly_list_sum_nonpos (l : List α) (h : ∀ x ∈ l, x ≤ 0) : l.sum ≤ 0 := by
  induction l with
  | nil => simp
  | cons a l ih =>
    have := ih (fun x hx => h x (List.mem_cons_of_mem _ hx))
    have := h a (by simp)
    simp only [List.sum_cons]; linarith

theorem poly_sum_abs_of_nonneg (l : List α) (h : ∀ x ∈ l, 0 ≤ x) : (l.map (fun x => |x| / 2)).sum = l.sum / 2 := by
  induction l with
  | nil => simp
  | cons a l ih =>
    simp only [List.map_cons, List.sum_cons]
    rw [ih (fun x hx => h x (List.mem_cons_of_mem _ hx)), abs_of_nonneg (h a (by simp))]
    ring

theorem poly_sum_abs_of_nonpos (l : List α) (h : ∀ x ∈ l, x ≤ 0) : (l.map (fun x => |x| / 2)).sum = -l.sum / 2 := by
  induction l with
  | nil => simp
  | cons a l ih =>
    simp only [List.map_cons, List.sum_cons]
    rw [ih (fun x hx => h x (List.mem_cons_of_mem _ hx)), abs_of_nonpos (h a (by simp))]
    ring

/-- **the weights used by `get_polygon_sample_convex` add up to the area of the polygon** (`Sample.polygonArea`, the
shoelace formula) when all fan triangles have the same orientation — as they do for a convex polygon, where they also
tile it; the area-proportional choice of the triangle (`C17.pick_interval_length`) and the uniform point inside it
then give the uniform law on the polygon -/
theorem fan_area_sum (ps : List (α × α))
    (h : (∀ T ∈ fanTriangles ps, 0 ≤ triSignedArea2 T) ∨ (∀ T ∈ fanTriangles ps, triSignedArea2 T ≤ 0)) :
    ((fanTriangles ps).map triArea).sum = polygonArea ps := by
  cases ps with
  | nil => simp [fanTriangles, polygonArea]; norm_num
  | cons p rest =>
    have hmap : (fanTriangles (p :: rest)).map triArea =
        ((fanTriangles (p :: rest)).map triSignedArea2).map (fun x => |x| / 2) := by
      rw [List.map_map]; exact List.map_congr_left (fun T _ => triArea_eq_abs_signed T)
    have hs := fan_signed_area_sum p rest
    have hfabs : ∀ x : α, fabs x = |x| := by
      intro x; unfold fabs; lits
      split_ifs with hx
      · exact (abs_of_neg hx).symm
      · exact (abs_of_nonneg (not_lt.mp hx)).symm
    rw [hmap]
    simp only [polygonArea, hfabs]
    rcases h with h | h
    · have hl : ∀ x ∈ (fanTriangles (p :: rest)).map triSignedArea2, 0 ≤ x := by
        intro x hx; obtain ⟨T, hT, rfl⟩ := List.mem_map.mp hx; exact h T hT
      rw [poly_sum_abs_of_nonneg _ hl, hs, abs_of_nonneg (by rw [← hs]; exact List.sum_nonneg hl)]
      norm_num; ring
    · have hl : ∀ x ∈ (fanTriangles (p :: rest)).map triSignedArea2, x ≤ 0 := by
        intro x hx; obtain ⟨T, hT, rfl⟩ := List.mem_map.mp hx; exact h T hT
      have hneg : shoelace2 (p :: rest) p.1 p.2 ≤ 0 := by rw [← hs]; exact poly_list_sum_nonpos _ hl
      rw [poly_sum_abs_of_nonpos _ hl, hs, abs_of_nonpos hneg]
      norm_num; ring

end

/-! ### get_depth over a field: a single depth -/
section
variable {α : Type} [Field α] [LinearOrder α] [IsStrictOrderedRing α] [HasOfInt α]

/-- `np.linspace(x, x, num)` is `num` copies of `x`: `get_depth(x, num)` returns `num` times the depth `x` -/
theorem linspace_const (x : α) (num : Nat) : npLinspace x x num = List.replicate num x := by
  unfold npLinspace
  rw [List.eq_replicate_iff]
  refine ⟨by simp, ?_⟩
  intro y hy
  obtain ⟨i, _, rfl⟩ := List.mem_map.mp hy
  simp only [sub_self, zero_div, mul_zero, zero_add, ite_self]

end

/-! ### concrete instances -/

/-- the code raises on the triangle `(1,1), (2,3), (0,0)`: the smallest vertex is the last row -/
example : pointInsideSpec [((1 : ℚ), (1 : ℚ)), (2, 3), (0, 0)] = none := by decide
/-- the same triangle listed from its smallest vertex -/
example : (pointInsideSpec [((0 : ℚ), (0 : ℚ)), (2, 3), (1, 1)]).isSome = true := by decide
/-- a pentagram (self-intersecting) passes the test of `is_convex`: constant turn sign is weaker than convexity -/
example : isConvexSpec [((3 : ℚ), (0 : ℚ)), (-2, 2), (1, -3), (1, 3), (-2, -2)] = some true := by
  norm_num [isConvexSpec, turnSigns, cvxEdges]
/-- a unit square is convex, an arrow head is not -/
example : isConvexSpec [((0 : ℚ), (0 : ℚ)), (1, 0), (1, 1), (0, 1)] = some true := by
  norm_num [isConvexSpec, turnSigns, cvxEdges]
example : isConvexSpec [((0 : ℚ), (0 : ℚ)), (2, 0), (1, 1), (1, 3)] = some false := by
  norm_num [isConvexSpec, turnSigns, cvxEdges]

end Bridge
