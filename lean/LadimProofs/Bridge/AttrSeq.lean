import LadimModel.Release.AttrSeq
import LadimProofs.Bridge.Runners
/-!
# Bridge (C04) — `get_attr` / `get_distribution`: the hand-written model *is* the statement sequence of the code

`Gen.get_attr_seq` and `Gen.get_distribution_seq` (guard, kind and text of every statement of the two functions of
`release/makrel.py`, regenerated from the current source) are interpreted by `LadimModel/Release/AttrSeq.lean`:
every statement, condition and `return` expression must be a known text, also in branches that are not taken.
`Bridge.get_attr_seq`: for every specification the interpretation is `Attr.getAttr cv`, where `cv` is the argument order
of the gaussian `np.clip` that the generated text shows (`Seq.clipSeen`): `np.clip(minimum, maximum, r)` (the code as it
is, known finding F-C04a) gives `.swapped`, the repair `np.clip(r, minimum, maximum)` gives `.correct`; the proofs go
through for either text and for no other.  No hypothesis on `num` or `draws`; only the operations of the scalar type
are used (no field or order laws), so the statement holds for every scalar type, `Float` included.

Every text of either sequence is a known one in every state (`dist_known`, `attr_known`), so a run is the plain one
(`Run.runRet_eq_runPlain`); `simp` walks through it with `Run.runPlain_cons` and tells the texts apart with
`String.reduceEq`.  `dist_eval` is `get_distribution` for every form of `v`, run once; in `get_attr` the call is
rewritten with it (`attr_call`).
-/
open Ladim Ladim.Seq Ladim.Attr

set_option linter.unusedSimpArgs false
set_option linter.unusedVariables false
namespace Bridge

variable {α : Type} [Add α] [Sub α] [Mul α] [Div α] [LT α] [DecidableLT α]

theorem mapM_some_map {β γ : Type} (f : β → γ) (l : List β) :
    l.mapM (fun x => some (f x)) = some (l.map f) := by
  induction l with
  | nil => rfl
  | cons a l ih => simp [List.mapM_cons, ih]

theorem dist_known (s : DistSt α) :
    Gen.get_distribution_seq.all (stmtKnown distAtom distStep distRet s) = true := by
  simp only [Gen.get_distribution_seq, List.all_cons, List.all_nil, stmtKnown, guardKnown, String.reduceEq, ↓reduceIte,
    distAtom.eq_def, distStep.eq_def, distRet.eq_def, clipOfText.eq_def, imp_self, Option.isSome_some, Bool.true_and]

/-- the generated text of the gaussian `return` is one of the two the model knows -/
theorem clip_seen : ∃ cv, Seq.clipSeen Gen.get_distribution_seq = some cv := by
  simp only [clipSeen, Gen.get_distribution_seq, List.findSome?_cons_of_isNone, List.findSome?_cons_of_isSome,
    String.reduceEq, ↓reduceIte, clipOfText.eq_def, imp_self, Option.isNone_none, Option.isSome_some]
  exact ⟨_, rfl⟩

/-- what `get_distribution` gives for every form of `v` (`some none`: the code raises) -/
theorem dist_eval (v : Val α) (num : Nat) (draws : List α) :
    getDistributionSeq v num draws =
      match v with
      | .dist (.uniform lo hi) => some (some ((draws.take num).map (rangeValue lo hi)))
      | .dist (.gaussian m sd mn mx) =>
        (clipSeen Gen.get_distribution_seq).map fun cv => some ((draws.take num).map (gaussianValue cv m sd mn mx))
      | .dist (.exponential m mx) => some (some ((draws.take num).map (exponentialValue m mx)))
      | .dist (.piecewise k c) => some ((draws.take num).mapM (piecewiseValue k c))
      | _ => some none := by
  rw [getDistributionSeq, Run.runRet_eq_runPlain dist_known, Gen.get_distribution_seq]
  rcases v with _ | _ | _ | _ | _ | ⟨m, sd, mn, mx⟩ | _ | _
  all_goals
    simp only [Run.runPlain_cons, Run.bind_elim_some, Run.bind_elim_none, Run.guardVal_cons, Run.guardVal_nil,
      String.reduceEq, ↓reduceIte, distAtom.eq_def, distStep.eq_def, distRet.eq_def, clipOfText.eq_def, imp_self,
      DistSt.init, Bool.true_beq, Bool.false_beq, Bool.not_true, Bool.not_false, Bool.false_eq_true, Option.some.injEq,
      List.map_map, clipSeen, List.findSome?_cons_of_isNone, List.findSome?_cons_of_isSome, Option.isNone_none,
      Option.isSome_some]
  · cases mn <;> cases mx <;>
      simp only [Ext.clip, Ext.max, Ext.min, Ext.toOption, mapM_some_map, mapM_some_map fun x => x, List.map_map] <;> rfl
  · rfl
  · rfl

theorem dist_scalar (x : α) (num : Nat) (draws : List α) :
    Seq.getDistributionSeq (.scalar x) num draws = some none := dist_eval ..
theorem dist_name (l : List α) (num : Nat) (draws : List α) :
    Seq.getDistributionSeq (.name l) num draws = some none := dist_eval ..
theorem dist_fn (l : List α) (num : Nat) (draws : List α) :
    Seq.getDistributionSeq (.fn l) num draws = some none := dist_eval ..

/-- the statement of `get_attr` that calls `get_distribution` -/
theorem attr_call (s : AttrSt α) :
    attrStep s "assign" "v = get_distribution(v, num)"
      = (getDistributionSeq s.v s.num s.draws).map (Option.map fun l => { s with v := .seq l }) := by
  simp only [attrStep.eq_def]
  rcases getDistributionSeq s.v s.num s.draws with _ | _ | _ <;> rfl

theorem attr_known (s : AttrSt α) : Gen.get_attr_seq.all (stmtKnown attrAtom attrStep attrRet s) = true := by
  obtain ⟨cv, h⟩ := clip_seen
  obtain ⟨r, hr⟩ : ∃ r, getDistributionSeq s.v s.num s.draws = some r := by
    rw [dist_eval, h]
    split <;> exact ⟨_, rfl⟩
  simp only [Gen.get_attr_seq, List.all_cons, stmtKnown, guardKnown, String.reduceEq, ↓reduceIte, attrAtom.eq_def,
    attrStep.eq_def, attrRet.eq_def, hr]
  cases r <;> rfl

/-- for the argument order `cv` that the generated text shows -/
theorem get_attr_seq_of (cv : ClipArgs) (h : Seq.clipSeen Gen.get_distribution_seq = some cv)
    (s : Spec α) (byName : Bool) (num : Nat) (draws : List α) :
    Seq.getAttrSeq byName s num draws = some (Attr.getAttr cv s num draws) := by
  rw [getAttrSeq, Run.runRet_eq_runPlain attr_known, Gen.get_attr_seq]
  cases s
  case' list vs => rcases vs with _ | ⟨lo, _ | ⟨hi, _ | _⟩⟩
  case' list.cons.cons.nil => by_cases h2 : num = 2
  case' piecewise k c => cases hr : (draws.take num).mapM (piecewiseValue k c)
  case' callable => cases byName
  -- `↓attr_call`: the call is rewritten before `attrStep.eq_def` can unfold the statement
  all_goals
    simp only [Run.runPlain_cons, Run.bind_elim_some, Run.bind_elim_none, Run.guardVal_cons, Run.guardVal_nil,
      String.reduceEq, ↓reduceIte, attrAtom.eq_def, attrStep.eq_def, attrRet.eq_def, Val.ofSpec, Attr.getAttr,
      ↓attr_call, dist_eval, Option.map_some, Option.map_none, Bool.true_beq, Bool.false_beq, Bool.not_true,
      Bool.false_eq_true, Option.some.injEq, ne_eq, not_true_eq_false, not_false_eq_true, decide_true, decide_false, *]

/-- the interpretation of the generated statement sequences of `get_attr` / `get_distribution` is the hand-written
`Attr.getAttr`, with the `np.clip` argument order that the generated text shows; `byName`: the callable is given by its
dotted name (resolved by the four `importlib` statements) or as a callable -/
theorem get_attr_seq :
    ∃ cv, Seq.clipSeen Gen.get_distribution_seq = some cv ∧
      ∀ (s : Spec α) (byName : Bool) (num : Nat) (draws : List α),
        Seq.getAttrSeq byName s num draws = some (Attr.getAttr cv s num draws) := by
  obtain ⟨cv, h⟩ := clip_seen
  exact ⟨cv, h, get_attr_seq_of cv h⟩

/-- the same as a disjunction over the two argument orders -/
theorem get_attr_seq_or :
    (∀ (s : Spec α) (byName : Bool) (num : Nat) (draws : List α),
        Seq.getAttrSeq byName s num draws = some (Attr.getAttr .swapped s num draws)) ∨
    (∀ (s : Spec α) (byName : Bool) (num : Nat) (draws : List α),
        Seq.getAttrSeq byName s num draws = some (Attr.getAttr .correct s num draws)) := by
  obtain ⟨cv, _, h⟩ := get_attr_seq (α := α)
  cases cv
  · exact Or.inl h
  · exact Or.inr h

end Bridge
