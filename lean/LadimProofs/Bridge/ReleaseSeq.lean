import LadimModel.Release.ReleaseSeq
import LadimProofs.Bridge.Runners
/-!
# Bridge (C04) — release table: the hand-written table model *is* the statement sequence of the code

`Gen.make_single_release_seq` and `Gen.make_release_seq` (regenerated from `release/makrel.py` on every run),
interpreted statement by statement with the operations of `LadimModel/Release/Table.lean`
(`LadimModel/Release/ReleaseSeq.lean`), are `Table.singleRelease .depthFourth` and `Table.makeTable`.
A change of a statement, of its position or of its guard changes the generated list, and these equalities no longer
check.
-/
open Ladim Ladim.Table Ladim.Seq

namespace Bridge
variable {α : Type}

theorem lookup_filter_ne (f : Frame α) (k k' : String) (h : k' ≠ k) :
    lookup (f.filter (fun p => !(p.1 == k))) k' = lookup f k' := by
  simp only [lookup, List.find?_filter]
  congr 2; funext p
  by_cases hp : p.1 = k' <;> simp [hp, h]

/-- `{k: d.pop(k) for k in [k, k']}` for two different keys: both must be there; what is left has neither -/
theorem popKeys_two (f : Frame α) {k k' : String} (h : k' ≠ k) :
    popKeys f [k, k'] = (lookup f k).bind fun v => (lookup f k').map fun v' =>
      ([(k, v), (k', v')], f.filter fun p => !(p.1 == k || p.1 == k')) := by
  cases h1 : lookup f k <;> cases h2 : lookup f k' <;>
    simp [popKeys, popKey, h1, h2, lookup_filter_ne f k k' h, List.filter_filter, Bool.and_comm]

/-- the exact outcome of the interpreted `make_single_release`: a `KeyError` (`some none`) when the location has no
`longitude` or no `latitude`, or the attributes have no `depth`; the hand-written frame otherwise -/
theorem make_single_release_seq_full (date : List (Cell α)) (loc depthDefault implicit explicit : Frame α) :
    runSingleRelease date loc depthDefault implicit explicit Gen.make_single_release_seq =
      some (if (lookup loc "longitude").isSome && (lookup loc "latitude").isSome
              && (lookup (dictMerge (dictMerge depthDefault implicit) explicit) "depth").isSome
            then some (singleRelease .depthFourth date loc depthDefault implicit explicit) else none) := by
  unfold runSingleRelease
  rw [Gen.make_single_release_seq]
  -- the whole run: nested `match`es on the two lookups that may raise, `popKeys` and `attrs['depth']`
  simp only [Run.runStrictRet_exec, Run.guardVal_nil, relStep.eq_def, String.reduceEq, ↓reduceIte, RelSt.init]
  rw [popKeys_two loc (by decide)]
  cases h1 : lookup loc "longitude" with
  | none => rfl
  | some v1 =>
    cases h2 : lookup loc "latitude" with
    | none => rfl
    | some v2 =>
      cases h3 : lookup (dictMerge (dictMerge depthDefault implicit) explicit) "depth" with
      | none => simp only [Option.bind_some, Option.map_some, h3]; rfl
      | some d =>
        have hhead : dictMerge (dictMerge [("date", date)] [("longitude", v1), ("latitude", v2)]) [("depth", d)]
            = [("date", date), ("longitude", v1), ("latitude", v2), ("depth", d)] := by
          simp [dictMerge]
        simp [returned, singleRelease, h1, h2, h3, hhead]

/-- `make_single_release`, interpreted from its generated statement sequence, returns the hand-written frame
whenever it does not raise a `KeyError` -/
theorem make_single_release_seq (date : List (Cell α)) (loc depthDefault implicit explicit : Frame α)
    (hlon : (lookup loc "longitude").isSome) (hlat : (lookup loc "latitude").isSome)
    (hdepth : (lookup (dictMerge (dictMerge depthDefault implicit) explicit) "depth").isSome) :
    runSingleRelease date loc depthDefault implicit explicit Gen.make_single_release_seq =
      some (some (singleRelease .depthFourth date loc depthDefault implicit explicit)) := by
  rw [make_single_release_seq_full]; simp [hlon, hlat, hdepth]

/-- the exact outcome of the interpreted `make_release`: `pd.concat([])` raises for an empty list of groups
(`Table.makeTable` returns an empty table there); otherwise it is `Table.makeTable` (`none` = raises) -/
theorem make_release_seq_full (zero : α) (groups : List (Frame α × Nat)) (columns : Option (List String))
    (hasSeed fname : Bool) :
    runMakeRelease zero groups columns hasSeed fname Gen.make_release_seq =
      some (if groups.isEmpty then none else makeTable zero groups columns) := by
  unfold runMakeRelease makeTable
  rw [Gen.make_release_seq]
  simp only [Run.runStrictRet_exec, Run.runStrictRet_noop, Run.guardVal_nil, mkStep.eq_def, mkAtom.eq_def,
    String.reduceEq, ↓reduceIte, MkSt.init, Option.isSome_some]
  cases hok : groups.all (fun g => frameOk g.1 g.2) with
  | false => cases groups.isEmpty <;> rfl
  | true =>
    cases hemp : groups.isEmpty with
    | true => simp only [hemp, ↓reduceIte]; rfl
    | false =>
      simp only [hemp, Bool.false_eq_true, ↓reduceIte]
      cases columns
      all_goals simp only [Run.runStrictRet_exec, Run.runStrictRet_skip, Run.runStrictRet_noop, Run.guardVal_nil,
        Run.guardVal_cons, mkStep.eq_def, mkAtom.eq_def, String.reduceEq, ↓reduceIte, Option.isSome_some,
        Option.isSome_none, beq_true, Bool.false_eq_true]
      case none => rfl
      case some want =>
        cases List.mapM (selectCols (concatFill zero groups).1 want)
          (sortRows (concatFill zero groups).1 (concatFill zero groups).2) <;> rfl

theorem make_release_seq (zero : α) (groups : List (Frame α × Nat)) (columns : Option (List String))
    (hasSeed fname : Bool) (hne : groups ≠ []) :
    runMakeRelease zero groups columns hasSeed fname Gen.make_release_seq = some (makeTable zero groups columns) := by
  rw [make_release_seq_full]; simp [hne]

end Bridge
