import LadimProofs.Bridge.BioSeq
import LadimProofs.Bridge.Mixing
import LadimModel.IBM.BioCtorSeq
/-!
# Bridge (C05, C07, C09, C16) — constructors and library functions of the biological IBMs

The statement sequences of the constructors (`Gen.egg_ctor_seq`, `larvae_ctor_seq`, `saithe_ctor_seq`, `lice_ctor_seq`,
`eel_ctor_seq`), of `egg_update_ibm_seq`, of the formula functions (`eos_calc_density_seq`, `egg_calc_density_seq`,
`eos_viscosity_seq`, `larvae_growth_seq`, `larvae_weight_to_length_seq`, `larvae_sinkvel_egg_seq`, `light_seq`,
`surface_light_seq`, `lice_infectivity_seq`) and of the lunar-eel helpers (`eel_init_grid_seq`,
`eel_vertical_diffuse_seq`, `eel_reflexive_seq`, `eel_moon_function_seq`, `eel_load_ephemeris_seq`) — guard, kind and
text of every statement, regenerated from /repo on every run — are interpreted by `LadimModel/IBM/BioCtorSeq.lean`
(strict: every statement and condition, taken or not, must be a known text; the expression of every `return` is
pinned).  The theorems say what the interpretations return:

* constructors: the attribute bindings as closed expressions in the configuration (`*_ctor_seq`), the
  outcome for a well-formed configuration (`*_ctor_result`), and the ties to the records that the `update_ibm` bridges
  (`Bridge/BioSeq.lean`) take as parameters: `saithe_attrs_cfg` (= `saitheCfg`, the hypothesis of
  `saithe_update_seq_hardcoded`; `saithe_ctor_then_update`), `larvae_ctor_explicit_wins` (an explicit key of
  `config['ibm']` wins over the species default, for every species value), `larvae_param_default`,
  `larvae_ctor_cod_result` / `larvae_cod_cfg`, `lice_attrs` (`mortality_factor` = `Bio.liceMortFactor dt`,
  `vertical_diffusion` = `D > 0`, default `D = 0.001`), `egg_attrs`, `eel_attrs`;
* formula functions: the interpretation of the straight-line code IS the generated closed form `Gen.*` (statement
  order and every text are pinned); `infectivity` has no generated form: `liceInfectivity`
  (self-contained specification) with its thresholds (`lice_infectivity_old`, `_young`, `_inside`, `lice_clip_temp`);
* lunar eel: `eel_reflexive_seq` = `Gen.eel_reflexive` = `Bio.reflexive`; `eel_vertical_diffuse_seq` = `Bio.eelZ`
  (= `Gen.eel_reflexive ∘ Gen.eel_step`); `eel_init_grid_seq`, `eel_moon_function_seq`, `eel_load_ephemeris_seq`:
  self-contained specifications (no hand model exists: the harness replaces the moon function by a boolean).

The only laws of the scalar type that are used: the values of literals (`0.0001 = 1.0e-4`, …), and field arithmetic in
the corollaries about `liceInfectQ` and `init_grid`.  A sequence is run statement by statement (`Bridge.Run`; the text of
a statement is matched by `simp`; the variables of a formula function are looked up by `simp` as well, `lookup_cons_eq`),
each sequence once; the short ones with a nested function or a
`try … finally` are run by evaluation.
-/
open Ladim Ladim.BioSeq Ladim.BioCtorSeq Bridge.Run

set_option linter.unusedSectionVars false
set_option linter.unusedVariables false
set_option linter.unusedSimpArgs false
set_option linter.auxLemma false
namespace Bridge
variable {α : Type} [Field α] [LinearOrder α] [IsStrictOrderedRing α]
  [HasSqrt α] [HasExp α] [HasLog α] [HasSin α] [HasCos α] [HasAsin α] [HasRpow α] [HasPi α] [HasNarrow α] [HasFloor α]

/-! ## the variables of a formula function -/

/-- `List.lookup` with its test as a proposition: `simp` decides it on literals with a proof (`String.reduceEq`); the
boolean test would be decided by evaluation, encoding both names -/
theorem lookup_cons_eq {β : Type} (a k : String) (b : β) (es : List (String × β)) :
    List.lookup a ((k, b) :: es) = if a = k then some b else List.lookup a es := by
  by_cases h : a = k
  · simp [List.lookup, h]
  · have : (a == k) = false := by simpa using h
    simp [List.lookup, h, this]

/-- The statement at the head of a run of the interpreter `f` (`fs`: `f` and its matcher), by the runner lemma `l`
(`Bridge.Run.runProc_assign`, `runProc_return_fn`): the text is matched by `simp` with the state a variable; then the state
at hand is put in, its variables are looked up by `simp`, and the rest is evaluation. -/
local macro "run_stmt" l:ident "(" fs:ident+ ")" : tactic => `(tactic|
  rw [$l:ident (by intro s; delta $fs*; simp only [String.reduceEq, ↓reduceDIte]; rfl) rfl (by
    try simp only [FmSt.set, FmSt.setB, FmSt.get, FmSt.getB, lookup_cons_eq, ↓reduceIte, String.reduceEq]
    rfl)])

/-! ## constructors -/

/-- what a constructor leaves: the attributes and the local variables, newest first (`none`: the expression raised) -/
def ctorView (s : CtorSt α) : List (String × Option (BcVal α)) × List (String × Option (BcVal α)) := (s.self, s.loc)

/-- the final state of a constructor whose bindings are known -/
theorem ctor_state_of_view {e : CtorEnv α} {prog : List Seq.Stmt}
    {selfL locL : List (String × Option (BcVal α))}
    (h : (ctorRun e prog).map (Option.map ctorView) = some (some (selfL, locL))) :
    ∃ s, ctorRun e prog = some (some s) ∧ s.self = selfL ∧ s.loc = locL := by
  obtain ⟨s, hs, hv⟩ := of_map_view_some h
  exact ⟨s, hs, (Prod.mk.inj hv).1, (Prod.mk.inj hv).2⟩

/-- from the bindings to the outcome of the constructor (`some (some none)`: it raises) -/
theorem ctor_result_of_view {e : CtorEnv α} {prog : List Seq.Stmt}
    {selfL locL : List (String × Option (BcVal α))}
    (h : (ctorRun e prog).map (Option.map ctorView) = some (some (selfL, locL))) :
    (ctorRun e prog).map (Option.map CtorSt.result)
      = some (some ((bcCollect locL).bind fun _ => bcCollect selfL)) := by
  obtain ⟨s, hs, h1, h2⟩ := ctor_state_of_view h
  simp only [hs, Option.map_some, CtorSt.result, h1, h2]

/-! ### egg -/

/-- **egg `__init__`**: `vertical_mixing` and `egg_diam` are REQUIRED keys of `config['ibm']` (no default),
`vertical_diffusion` is `D > 0`, `dt` is `config['dt']` -/
theorem egg_ctor_seq (e : CtorEnv α) :
    (ctorRun e Gen.egg_ctor_seq).map (Option.map ctorView)
      = some (some ([("model", some (.noneDict ["grid", "state", "forcing"])), ("dt", e.dt),
          ("egg_diam", e.ibm "egg_diam"),
          ("vertical_diffusion", (e.ibm "vertical_mixing").bind fun d => d.gtZero.map .bool),
          ("D", e.ibm "vertical_mixing")], [])) := by
  delta ctorRun Gen.egg_ctor_seq CtorSt.init
  iterate 5 run_stmt runProc_assign (ctorStep ctorStep.match_1)
  rfl

/-- the attributes of an egg IBM object -/
def eggAttrs (D diam dt : α) : List (String × BcVal α) :=
  [("model", .noneDict ["grid", "state", "forcing"]), ("dt", .num dt), ("egg_diam", .num diam),
    ("vertical_diffusion", .bool (decide ((0.0 : α) < D))), ("D", .num D)]

theorem egg_ctor_result (e : CtorEnv α) (D diam dt : α) (hD : e.ibm "vertical_mixing" = some (.num D))
    (hd : e.ibm "egg_diam" = some (.num diam)) (hdt : e.dt = some (.num dt)) :
    (ctorRun e Gen.egg_ctor_seq).map (Option.map CtorSt.result) = some (some (some (eggAttrs D diam dt))) := by
  rw [ctor_result_of_view (egg_ctor_seq e), hD, hd, hdt]
  rfl

/-- a missing `vertical_mixing` makes the egg constructor raise (`KeyError`; salmon lice and larvae have defaults) -/
theorem egg_ctor_missing_mixing (e : CtorEnv α) (hD : e.ibm "vertical_mixing" = none) :
    (ctorRun e Gen.egg_ctor_seq).map (Option.map CtorSt.result) = some (some none) := by
  rw [ctor_result_of_view (egg_ctor_seq e), hD]
  cases e.dt <;> cases e.ibm "egg_diam" <;> rfl

/-- the attributes are the parameters `D`, `dt`, `eggDiam`, `vertDiff` of `BioSeq.EggEnv` (`Bridge.egg_update_seq`) -/
theorem egg_attrs (D diam dt : α) :
    attrNum (eggAttrs D diam dt) "D" = some D ∧ attrNum (eggAttrs D diam dt) "dt" = some dt ∧
    attrNum (eggAttrs D diam dt) "egg_diam" = some diam ∧
    attrBool (eggAttrs D diam dt) "vertical_diffusion" = some (decide ((0.0 : α) < D)) :=
  ⟨rfl, rfl, rfl, rfl⟩

/-! ### egg `update_ibm` -/

/-- `update_ibm` binds `self.model['grid' | 'state' | 'forcing']` and then is `self.update()`, whatever that does -/
theorem egg_update_ibm_with {ρ : Type} (upd : Option (Option ρ)) :
    eggUpdateIbmRunWith upd Gen.egg_update_ibm_seq = upd := by
  rcases upd with _ | _ | o <;> eq_refl

/-- **egg `update_ibm`** is the interpretation of `Gen.egg_update_seq` (hence `Bio.eggZ`, `Bio.degreeDayAge`:
`Bridge.egg_update_seq`) -/
theorem egg_update_ibm_seq (e : EggEnv α) (x y z age buoy : α) (draws : List α) :
    eggUpdateIbmRun e x y z age buoy draws Gen.egg_update_ibm_seq = eggRun e x y z age buoy draws :=
  egg_update_ibm_with _

/-! ### salmon lice -/

/-- **salmon lice `__init__`**: `k = 0.2`, `swim_vel = 0.0005`, `D` = `vertical_mixing` with default `0.001`,
`vertical_diffusion` = `D > 0`, `mortality_factor = exp(-0.17 * dt / 86400)` -/
theorem lice_ctor_seq (e : CtorEnv α) :
    (ctorRun e Gen.lice_ctor_seq).map (Option.map ctorView)
      = some (some ([("mortality_factor", e.dt.bind fun dt => dt.toNum.bind fun dt =>
            some (.num (exp (-0.17 * dt / 86400.0)))),
          ("dt", e.dt),
          ("vertical_diffusion", ((e.ibm "vertical_mixing").getD (.num 0.001)).gtZero.map .bool),
          ("D", some ((e.ibm "vertical_mixing").getD (.num 0.001))),
          ("swim_vel", some (.num 0.0005)), ("k", some (.num 0.2))], [("mortality", some (.num 0.17))])) := by
  delta ctorRun Gen.lice_ctor_seq CtorSt.init
  iterate 7 run_stmt runProc_assign (ctorStep ctorStep.match_1)
  rfl

/-- the attributes of a salmon-lice IBM object -/
def liceAttrs (D dt : α) : List (String × BcVal α) :=
  [("mortality_factor", .num (Bio.liceMortFactor dt)), ("dt", .num dt),
    ("vertical_diffusion", .bool (decide ((0.0 : α) < D))), ("D", .num D), ("swim_vel", .num 0.0005), ("k", .num 0.2)]

/-- `D`: the explicit `vertical_mixing`, or `0.001` -/
theorem lice_ctor_result (e : CtorEnv α) (D dt : α) (hD : (e.ibm "vertical_mixing").getD (.num 0.001) = .num D)
    (hdt : e.dt = some (.num dt)) :
    (ctorRun e Gen.lice_ctor_seq).map (Option.map CtorSt.result) = some (some (some (liceAttrs D dt))) := by
  rw [ctor_result_of_view (lice_ctor_seq e), hD, hdt]
  rfl

/-- without a `vertical_mixing` key: `D = 0.001`, and the mixing is on -/
theorem lice_ctor_default (e : CtorEnv α) (dt : α) (hD : e.ibm "vertical_mixing" = none) (hdt : e.dt = some (.num dt)) :
    (ctorRun e Gen.lice_ctor_seq).map (Option.map CtorSt.result) = some (some (some (liceAttrs 0.001 dt))) ∧
    attrBool (liceAttrs (0.001 : α) dt) "vertical_diffusion" = some true := by
  refine ⟨lice_ctor_result e 0.001 dt (by rw [hD]; rfl) hdt, ?_⟩
  show some (decide ((0.0 : α) < 0.001)) = some true
  have : (0.0 : α) < 0.001 := by norm_num
  simp [this]

/-- the attributes are the parameters of `BioSeq.LiceEnv` (`Bridge.lice_update_seq`): `mortFactor` is
`Bio.liceMortFactor self.dt` (C07: `lice_survival_partition`), `vertDiff` is `D > 0` -/
theorem lice_attrs (D dt : α) :
    attrNum (liceAttrs D dt) "mortality_factor" = some (Bio.liceMortFactor dt) ∧
    attrNum (liceAttrs D dt) "k" = some 0.2 ∧ attrNum (liceAttrs D dt) "swim_vel" = some 0.0005 ∧
    attrNum (liceAttrs D dt) "D" = some D ∧ attrNum (liceAttrs D dt) "dt" = some dt ∧
    attrBool (liceAttrs D dt) "vertical_diffusion" = some (decide ((0.0 : α) < D)) :=
  ⟨rfl, rfl, rfl, rfl, rfl, rfl⟩

/-! ### saithe -/

/-- **saithe `__init__`**: everything but `dt` and `extra_spreading` is hard-coded: `min_depth = 30`,
`max_depth = 60`, `D = 0.0001`, `k = 0.2`, … -/
theorem saithe_ctor_seq (e : CtorEnv α) :
    (ctorRun e Gen.saithe_ctor_seq).map (Option.map ctorView)
      = some (some ([("forcing", some .none), ("state", some .none), ("grid", some .none),
          ("init_larvae_weight", some (.num 0.093)), ("min_depth", some (.num 30.0)), ("max_depth", some (.num 60.0)),
          ("swim_speed", some (.num 0.2)), ("egg_diam", some (.num 0.0011)), ("hatch_day", some (.num 60.0)),
          ("extra_spreading", some ((e.ibm "extra_spreading").getD (.bool true))), ("dt", e.dt),
          ("D", some (.num 0.0001)), ("vertical_diffusion", some (.bool true)), ("k", some (.num 0.2))], [])) := by
  delta ctorRun Gen.saithe_ctor_seq CtorSt.init
  iterate 14 run_stmt runProc_assign (ctorStep ctorStep.match_1)
  rfl

/-- the attributes of a saithe IBM object for a numeric `config['dt']` -/
def saitheAttrs (e : CtorEnv α) (dt : α) : List (String × BcVal α) :=
  [("forcing", .none), ("state", .none), ("grid", .none),
    ("init_larvae_weight", .num 0.093), ("min_depth", .num 30.0), ("max_depth", .num 60.0),
    ("swim_speed", .num 0.2), ("egg_diam", .num 0.0011), ("hatch_day", .num 60.0),
    ("extra_spreading", (e.ibm "extra_spreading").getD (.bool true)), ("dt", .num dt),
    ("D", .num 0.0001), ("vertical_diffusion", .bool true), ("k", .num 0.2)]

theorem saithe_ctor_result (e : CtorEnv α) (dt : α) (hdt : e.dt = some (.num dt)) :
    (ctorRun e Gen.saithe_ctor_seq).map (Option.map CtorSt.result) = some (some (some (saitheAttrs e dt))) := by
  rw [ctor_result_of_view (saithe_ctor_seq e), hdt]
  rfl

/-- a configuration without `dt` makes the constructor raise -/
theorem saithe_ctor_missing_dt (e : CtorEnv α) (hdt : e.dt = none) :
    (ctorRun e Gen.saithe_ctor_seq).map (Option.map CtorSt.result) = some (some none) := by
  rw [ctor_result_of_view (saithe_ctor_seq e), hdt]
  rfl

/-- the configuration record of the saithe attributes is `Bridge.saitheCfg`, the record of
`Bridge.saithe_update_seq_hardcoded` (desired light `1` and `clipEggs = false` come from `update_ibm`) -/
theorem saithe_attrs_cfg (e : CtorEnv α) (dt sdt : α) :
    larvaCfgOf (saitheAttrs e dt) 1.0 sdt false = some (saitheCfg dt sdt) := by
  have h2 : (0.0001 : α) = 1.0e-4 := by norm_num
  show some _ = some _
  simp only [saitheCfg, h2]

/-- `extra_spreading` defaults to `True` -/
theorem saithe_attrs_spreading (e : CtorEnv α) (dt : α) :
    (saitheAttrs e dt).lookup "extra_spreading" = some ((e.ibm "extra_spreading").getD (.bool true)) := rfl

/-- **constructor, then `update_ibm`**: an IBM object whose configuration record is the one of the constructed
attributes moves a particle by `Bio.larvaUpdate (saitheCfg dt sdt)`: the band is `[30, 60]` whatever `config['ibm']`
says -/
theorem saithe_ctor_then_update (ce : CtorEnv α) (dt sdt : α) (e : LarvaEnv α)
    (hc : larvaCfgOf (saitheAttrs ce dt) 1.0 sdt false = some e.c)
    (x y buoy : α) (p : Bio.Larva α) (xi : α) (rest : List α) :
    (saitheRun e x y buoy p (xi :: rest)).map
        (Option.map fun s => (s.particle, s.rng.log, s.rng.supply, s.x, s.y, s.eggBuoy))
      = some (some (Bio.larvaUpdate (saitheCfg dt sdt) (e.temp x y p.z) (e.salt x y p.z) buoy
            (if e.extraSpreading then e.light0 (e.spread x y).1 (e.spread x y).2 else e.light0 x y) (some xi) p,
          [.normal], rest,
          if e.extraSpreading then (e.spread x y).1 else x,
          if e.extraSpreading then (e.spread x y).2 else y, buoy)) := by
  rw [saithe_attrs_cfg] at hc
  exact saithe_update_seq_hardcoded e dt sdt (Option.some.inj hc).symm x y buoy p xi rest

/-! ### larvae -/

/-- `self.species` -/
def larvaeSpecies (e : CtorEnv α) : BcVal α := (e.ibm "species").getD (.str (.other "unknown"))

/-- `read_species_param(p)` in the constructor -/
def larvaeParam (e : CtorEnv α) (p : String) : Option (BcVal α) :=
  larvaeReadSpec (e.ibm p)
    (larvaeDefault (some (larvaeSpeciesDefaults Gen.larvae_growth Gen.larvae_weight_to_length)) (some (larvaeSpecies e)) p)

/-- **larvae `__init__`**: `k` and `D` have defaults `0.2` and `0`; the nine species parameters are
`read_species_param` of their keys (`desired_light` of the key `light`) -/
theorem larvae_ctor_seq (e : CtorEnv α) :
    (ctorRun e Gen.larvae_ctor_seq).map (Option.map ctorView)
      = some (some ([("dt", e.dt), ("length", larvaeParam e "length"), ("growth", larvaeParam e "growth"),
          ("max_depth", larvaeParam e "max_depth"), ("min_depth", larvaeParam e "min_depth"),
          ("desired_light", larvaeParam e "light"), ("swim_speed", larvaeParam e "swim_speed"),
          ("init_larvae_weight", larvaeParam e "init_larvae_weight"), ("hatch_day", larvaeParam e "hatch_day"),
          ("egg_diam", larvaeParam e "egg_diam"), ("species", some (larvaeSpecies e)),
          ("D", some ((e.ibm "vertical_mixing").getD (.num 0.0))),
          ("k", some ((e.ibm "extinction_coeff").getD (.num 0.2)))], [])) := by
  delta ctorRun Gen.larvae_ctor_seq CtorSt.init
  iterate 4 run_stmt runProc_assign (ctorStep ctorStep.match_1)
  rw [runProc_step rfl (by decide) (by
    delta ctorStep ctorStep.match_1; simp only [String.reduceEq, ↓reduceDIte]; rfl)]
  -- the body of the nested `def`: its guard is false, its statements must be known
  iterate 2 rw [runProc_skip (by
      simp only [Seq.guardVal]; delta ctorAtom ctorAtom.match_1; simp only [String.reduceEq, ↓reduceDIte]; rfl) (by
      simp only [stmtKnown, guardKnown, List.all_cons, List.all_nil]
      delta ctorAtom ctorAtom.match_1 ctorStep ctorStep.match_1; simp only [String.reduceEq, ↓reduceDIte]; rfl)]
  iterate 10 run_stmt runProc_assign (ctorStep ctorStep.match_1)
  rfl

/-- the body of the nested `read_species_param` in the constructor's sequence is `Gen.larvae_read_species_param_seq` -/
theorem larvae_ctor_body :
    bcBodyOf "def read_species_param" Gen.larvae_ctor_seq = Gen.larvae_read_species_param_seq := by decide

/-- **`read_species_param`**: the explicit key wins; otherwise the species default (`none`: `KeyError`) -/
theorem larvae_read_species_param_seq (inCfg dflt : Option (BcVal α)) :
    rspRun inCfg dflt Gen.larvae_read_species_param_seq = some (larvaeReadSpec inCfg dflt) := by
  cases inCfg <;> cases dflt <;> eq_refl

/-- an explicit key wins over the species default — whatever `species` is -/
theorem larvae_param_explicit (e : CtorEnv α) (p : String) (v : BcVal α) (h : e.ibm p = some v) :
    larvaeParam e p = some v := by
  simp only [larvaeParam, h, larvaeReadSpec]

/-- without the key: the default of the species -/
theorem larvae_param_default (e : CtorEnv α) (p : String) (n : BcName) (hs : e.ibm "species" = some (.str n))
    (h : e.ibm p = none) :
    larvaeParam e p = (larvaeSpeciesDefaults Gen.larvae_growth Gen.larvae_weight_to_length n).bind fun row => row p := by
  simp only [larvaeParam, h, larvaeReadSpec, larvaeSpecies, hs, Option.getD_some, larvaeDefault, Option.bind_some]

/-- without the key and without a (known) species: `KeyError` -/
theorem larvae_param_unknown (e : CtorEnv α) (p : String) (hs : e.ibm "species" = none) (h : e.ibm p = none) :
    larvaeParam e p = none := by
  simp only [larvaeParam, h, larvaeReadSpec, larvaeSpecies, hs, Option.getD_none, larvaeDefault, Option.bind_some,
    larvaeSpeciesDefaults, Option.bind_none]

/-- attribute and configuration key of the nine species parameters -/
def larvaeAttrKeys : List (String × String) :=
  [("egg_diam", "egg_diam"), ("hatch_day", "hatch_day"), ("init_larvae_weight", "init_larvae_weight"),
    ("swim_speed", "swim_speed"), ("desired_light", "light"), ("min_depth", "min_depth"), ("max_depth", "max_depth"),
    ("growth", "growth"), ("length", "length")]

/-- **precedence**: in the object the interpreted constructor leaves, an attribute whose key is present in
`config['ibm']` equals the configured value (for every species, known or not, and whatever the other keys are) -/
theorem larvae_ctor_explicit_wins (e : CtorEnv α) (s : CtorSt α)
    (hrun : ctorRun e Gen.larvae_ctor_seq = some (some s)) (attr key : String) (hk : (attr, key) ∈ larvaeAttrKeys)
    (v : BcVal α) (hv : e.ibm key = some v) :
    s.getSelf attr = some v := by
  obtain ⟨s', hs', hself, _⟩ := ctor_state_of_view (larvae_ctor_seq e)
  rw [hrun] at hs'
  obtain rfl : s = s' := Option.some.inj (Option.some.inj hs')
  simp only [larvaeAttrKeys, List.mem_cons, Prod.mk.injEq, List.mem_nil_iff, or_false] at hk
  rcases hk with ⟨rfl, rfl⟩ | ⟨rfl, rfl⟩ | ⟨rfl, rfl⟩ | ⟨rfl, rfl⟩ | ⟨rfl, rfl⟩ | ⟨rfl, rfl⟩ | ⟨rfl, rfl⟩ | ⟨rfl, rfl⟩ |
    ⟨rfl, rfl⟩ <;>
  · rw [CtorSt.getSelf, hself]
    simp [List.lookup, larvae_param_explicit e _ v hv]

/-- the attributes of a larvae IBM object for `species = 'cod'` with optional explicit `min_depth` / `max_depth`
and nothing else in `config['ibm']` -/
def larvaeCodAttrs (lo hi : Option α) (dt : α) : List (String × BcVal α) :=
  [("dt", .num dt), ("length", .fn1 Gen.larvae_weight_to_length), ("growth", .fn3 Gen.larvae_growth),
    ("max_depth", .num (hi.getD 1000.0)), ("min_depth", .num (lo.getD 0.0)), ("desired_light", .num 1.0),
    ("swim_speed", .num 0.1), ("init_larvae_weight", .num 0.093), ("hatch_day", .num 93.7), ("egg_diam", .num 0.0014),
    ("species", .str .cod), ("D", .num 0.0), ("k", .num 0.2)]

/-- `species = 'cod'`: the defaults of the table, and explicit `min_depth` / `max_depth` in their place -/
theorem larvae_ctor_cod_result (e : CtorEnv α) (lo hi : Option α) (dt : α)
    (hs : e.ibm "species" = some (.str .cod)) (hlo : e.ibm "min_depth" = lo.map .num)
    (hhi : e.ibm "max_depth" = hi.map .num)
    (hnone : ∀ p, p ≠ "species" → p ≠ "min_depth" → p ≠ "max_depth" → e.ibm p = none)
    (hdt : e.dt = some (.num dt)) :
    (ctorRun e Gen.larvae_ctor_seq).map (Option.map CtorSt.result) = some (some (some (larvaeCodAttrs lo hi dt))) := by
  rw [ctor_result_of_view (larvae_ctor_seq e), hdt]
  cases lo <;> cases hi <;>
  · simp only [Option.map_none, Option.map_some] at hlo hhi
    simp only [larvaeParam, larvaeSpecies, larvaeReadSpec, larvaeDefault, hnone, ne_eq, String.reduceEq,
      not_false_eq_true, hs, hlo, hhi, Option.getD_some, Option.getD_none, Option.bind_some]
    rfl

/-- the configuration record of these attributes (`clipEggs = true`: the larvae module clips every particle):
the band of `C05.larva_final_band` is `[min_depth, max_depth]` with the explicit values, else `[0, 1000]`; growth and
length are the module's functions, as `Bridge.larvae_update_seq` assumes -/
theorem larvae_cod_cfg (lo hi : Option α) (dt sdt : α) :
    larvaCfgOf (larvaeCodAttrs lo hi dt) 1.0 sdt true
      = some ⟨93.7, 0.093, 0.1, 1.0, lo.getD 0.0, hi.getD 1000.0, 0.2, 0.0, dt, sdt, 0.0014, true⟩ ∧
    attrNum (larvaeCodAttrs lo hi dt) "desired_light" = some 1.0 ∧
    (larvaeCodAttrs lo hi dt).lookup "growth" = some (.fn3 Gen.larvae_growth) ∧
    (larvaeCodAttrs lo hi dt).lookup "length" = some (.fn1 Gen.larvae_weight_to_length) :=
  ⟨rfl, rfl, rfl, rfl⟩

/-- the larvae constructor with `species = 'saithe'` and nothing else gives the numbers that the saithe module
hard-codes, except `D` (`0` instead of `0.0001`) -/
theorem larvae_saithe_defaults (e : CtorEnv α) (hs : e.ibm "species" = some (.str .saithe)) :
    (e.ibm "min_depth" = none → larvaeParam e "min_depth" = some (.num 30.0)) ∧
    (e.ibm "max_depth" = none → larvaeParam e "max_depth" = some (.num 60.0)) ∧
    (e.ibm "hatch_day" = none → larvaeParam e "hatch_day" = some (.num 60.0)) ∧
    (e.ibm "egg_diam" = none → larvaeParam e "egg_diam" = some (.num 0.0011)) ∧
    (e.ibm "swim_speed" = none → larvaeParam e "swim_speed" = some (.num 0.2)) := by
  refine ⟨fun h => ?_, fun h => ?_, fun h => ?_, fun h => ?_, fun h => ?_⟩ <;>
  · rw [larvae_param_default e _ _ hs h]
    rfl

/-! ### lunar eel -/

/-- `get_moon_function(lat=moon_lat, lon=moon_lon)` after `moon_lat, moon_lon = config['ibm']['lunar_latlon']` -/
def eelMoonAttr (e : CtorEnv α) : Option (BcVal α) :=
  ((e.ibm "lunar_latlon").bind BcVal.unpack1).bind fun la => la.toNum.bind fun la =>
    ((e.ibm "lunar_latlon").bind BcVal.unpack2).bind fun lo => lo.toNum.bind fun lo => some (.moon la lo)

/-- **lunar eel `__init__`**: `direction = 180`; `speed`, `lunar_latlon`, `vertical_mixing`, `vertical_limits` are
REQUIRED keys; `xs_dx` is `None` (so the first `update_ibm` calls `init_grid`: `Bridge.eel_order`) -/
theorem eel_ctor_seq (e : CtorEnv α) :
    (ctorRun e Gen.eel_ctor_seq).map (Option.map ctorView)
      = some (some ([("moonfunc", eelMoonAttr e),
          ("grid", some .none), ("state", some .none), ("ys_dy", some .none), ("xs_dx", some .none), ("dt", e.dt),
          ("vertical_limits", e.ibm "vertical_limits"), ("D", e.ibm "vertical_mixing"), ("speed", e.ibm "speed"),
          ("direction", some (.num 180.0))],
          [("moon_lon", (e.ibm "lunar_latlon").bind BcVal.unpack2),
           ("moon_lat", (e.ibm "lunar_latlon").bind BcVal.unpack1)])) := by
  delta ctorRun Gen.eel_ctor_seq CtorSt.init
  iterate 11 run_stmt runProc_assign (ctorStep ctorStep.match_1)
  rfl

/-- the attributes of a lunar-eel IBM object -/
def eelAttrs (speed lat lon D lo hi dt : α) : List (String × BcVal α) :=
  [("moonfunc", .moon lat lon), ("grid", .none), ("state", .none), ("ys_dy", .none), ("xs_dx", .none), ("dt", .num dt),
    ("vertical_limits", .pair lo hi), ("D", .num D), ("speed", .num speed), ("direction", .num 180.0)]

/-- the FIRST component of `lunar_latlon` is the latitude of the moon observer, the second its longitude -/
theorem eel_ctor_result (e : CtorEnv α) (speed lat lon D lo hi dt : α) (h1 : e.ibm "speed" = some (.num speed))
    (h2 : e.ibm "lunar_latlon" = some (.pair lat lon)) (h3 : e.ibm "vertical_mixing" = some (.num D))
    (h4 : e.ibm "vertical_limits" = some (.pair lo hi)) (hdt : e.dt = some (.num dt)) :
    (ctorRun e Gen.eel_ctor_seq).map (Option.map CtorSt.result)
      = some (some (some (eelAttrs speed lat lon D lo hi dt))) := by
  rw [ctor_result_of_view (eel_ctor_seq e)]
  simp only [eelMoonAttr, h1, h2, h3, h4, hdt]
  rfl

/-- the attributes `D`, `dt`, `vertical_limits` are the parameters of `eelVerticalDiffuseRun`, `direction` the one of
`eelInitGridRun`, `xs_dx is None` holds after construction -/
theorem eel_attrs (speed lat lon D lo hi dt : α) :
    attrNum (eelAttrs speed lat lon D lo hi dt) "direction" = some 180.0 ∧
    attrNum (eelAttrs speed lat lon D lo hi dt) "D" = some D ∧ attrNum (eelAttrs speed lat lon D lo hi dt) "dt" = some dt ∧
    attrNum (eelAttrs speed lat lon D lo hi dt) "speed" = some speed ∧
    (eelAttrs speed lat lon D lo hi dt).lookup "vertical_limits" = some (.pair lo hi) ∧
    (eelAttrs speed lat lon D lo hi dt).lookup "xs_dx" = some .none ∧
    (eelAttrs speed lat lon D lo hi dt).lookup "moonfunc" = some (.moon lat lon) :=
  ⟨rfl, rfl, rfl, rfl, rfl, rfl, rfl⟩

/-- **`reflexive`**: mirror at `rmin`, then at `rmax`, then clip — the generated window, i.e. `Bio.reflexive`
(`Bridge.eel_reflexive`; band: `C05.reflexive_band`) -/
theorem eel_reflexive_seq (r rmin rmax : α) :
    eelReflexiveRun r rmin rmax Gen.eel_reflexive_seq = some (some (Gen.eel_reflexive r rmin rmax)) := by
  delta eelReflexiveRun fmRun Gen.eel_reflexive_seq FmSt.init
  iterate 3 run_stmt runProc_assign (eelFnStep eelFnStep.match_1)
  run_stmt runProc_return_fn (eelFnStep eelFnStep.match_1)
  rfl

theorem eel_reflexive_seq_model (r rmin rmax : α) :
    eelReflexiveRun r rmin rmax Gen.eel_reflexive_seq = some (some (Bio.reflexive rmin rmax r)) := by
  rw [eel_reflexive_seq, eel_reflexive]

/-- the run for any supply of draws; both cases are closed in one declaration -/
theorem eel_vertical_diffuse_run (D dt : α) (lim : α × α) (z : α) (draws : List α) :
    (eelVerticalDiffuseRun D dt lim z draws Gen.eel_vertical_diffuse_seq).map
        (Option.map fun s => (s.z, s.rng.log, s.rng.supply))
      = match draws with
        | [] => some none
        | xi :: rest => some (some (Gen.eel_reflexive (Gen.eel_step z xi D dt) lim.1 lim.2, [.normal], rest)) := by
  cases draws <;> eq_refl

/-- **`vertical_diffuse`** on one particle: ONE normal draw, step `rand * sqrt(2 * D * dt)`, then `reflexive` with
`vertical_limits = (lo, hi)` in this order — on the generated windows -/
theorem eel_vertical_diffuse_seq_gen (D dt lo hi z xi : α) (rest : List α) :
    (eelVerticalDiffuseRun D dt (lo, hi) z (xi :: rest) Gen.eel_vertical_diffuse_seq).map
        (Option.map fun s => (s.z, s.rng.log, s.rng.supply))
      = some (some (Gen.eel_reflexive (Gen.eel_step z xi D dt) lo hi, [.normal], rest)) :=
  eel_vertical_diffuse_run D dt (lo, hi) z (xi :: rest)

/-- … which is `Bio.eelZ` (= `Gen.eel_reflexive (Gen.eel_step …)`) -/
theorem eel_vertical_diffuse_seq (D dt lo hi z xi : α) (rest : List α) :
    (eelVerticalDiffuseRun D dt (lo, hi) z (xi :: rest) Gen.eel_vertical_diffuse_seq).map
        (Option.map fun s => (s.z, s.rng.log, s.rng.supply))
      = some (some (Bio.eelZ D dt lo hi xi z, [.normal], rest)) := by
  rw [eel_vertical]
  exact eel_vertical_diffuse_seq_gen D dt lo hi z xi rest

/-- without a number to draw the method raises -/
theorem eel_vertical_diffuse_no_draw (D dt : α) (lim : α × α) (z : α) :
    eelVerticalDiffuseRun D dt lim z [] Gen.eel_vertical_diffuse_seq = some none :=
  of_map_view_none (eel_vertical_diffuse_run D dt lim z [])

/-- **`init_grid`** at one cell (self-contained specification): the unit vector of the azimuth
`direction * pi / 180` (clockwise from north) rotated by the grid angle, in grid cells per metre -/
theorem eel_init_grid_seq (direction angle dx dy : α) :
    eelInitGridRun direction angle dx dy Gen.eel_init_grid_seq
      = some (some (sin (direction * pi / 180.0 + angle) / dx, cos (direction * pi / 180.0 + angle) / dy)) := by
  delta eelInitGridRun Gen.eel_init_grid_seq FmSt.init
  iterate 7 run_stmt runProc_assign (eelFnStep eelFnStep.match_1)
  rfl

/-- with the constructor's `direction = 180` (south): `(-sin angle / dx, -cos angle / dy)`, given the two trigonometric
identities for a shift by `pi` -/
theorem eel_init_grid_south (angle dx dy : α) (hsin : ∀ a : α, sin (pi + a) = -sin a)
    (hcos : ∀ a : α, cos (pi + a) = -cos a) :
    eelInitGridRun 180.0 angle dx dy Gen.eel_init_grid_seq = some (some (-sin angle / dx, -cos angle / dy)) := by
  rw [eel_init_grid_seq]
  have h : (180.0 : α) * pi / 180.0 = pi := by
    lits
    field_simp
  rw [h, hsin, hcos]

/-- **`get_moon_function(lat, lon)(npdate)`** (self-contained specification; the ephemeris is a parameter): the
difference of the apparent geocentric ecliptic longitudes MOON minus SUN, modulo 180°, is NOT strictly between 45° and
135°, AND the apparent altitude of the moon at the observer `(lat, lon)` is strictly positive -/
theorem eel_moon_function_seq {τ : Type} (env : MoonEnv τ α) (lat lon : α) (t : τ) :
    eelMoonRun env lat lon t Gen.eel_moon_function_seq = some (some (eelMoonSpec env lat lon t)) := by
  eq_refl

/-- the closed form as a proposition -/
theorem eel_moon_spec_iff {τ : Type} (env : MoonEnv τ α) (lat lon : α) (t : τ) :
    eelMoonSpec env lat lon t = true ↔
      ¬ (45.0 < pyFloatMod (env.moonLon t - env.sunLon t) 180.0 ∧ pyFloatMod (env.moonLon t - env.sunLon t) 180.0 < 135.0)
        ∧ 0.0 < env.moonAlt lat lon t := by
  simp only [eelMoonSpec, Bool.and_eq_true, Bool.not_eq_true', Bool.and_eq_false_iff, decide_eq_true_eq,
    decide_eq_false_iff_not, not_and_or]

/-- the moon below (or on) the horizon: never -/
theorem eel_moon_below_horizon {τ : Type} (env : MoonEnv τ α) (lat lon : α) (t : τ) (h : env.moonAlt lat lon t ≤ 0.0) :
    eelMoonSpec env lat lon t = false := by
  simp [eelMoonSpec, not_lt.2 h]

/-- **`_load_ephemeris`** (self-contained specification): `de421.bsp` of the package `ladim_plugins.lunar_eel`, located
through `importlib.resources` when `files` / `as_file` can be imported, else through `pkg_resources`, whose
`cleanup_resources()` is then called (the `finally` clause) -/
theorem eel_load_ephemeris_seq (hasFiles : Bool) :
    eelLoadEphemerisRun hasFiles Gen.eel_load_ephemeris_seq
      = some (some (if hasFiles then (.importlibResources, false) else (.pkgResources, true))) := by
  cases hasFiles <;> eq_refl

/-! ## formula functions: the straight-line code is the generated closed form -/

theorem eos_calc_density_seq (temp salt : α) :
    calcDensityRun temp salt Gen.eos_calc_density_seq = some (some (Gen.eos_density temp salt)) := by
  delta calcDensityRun fmRun Gen.eos_calc_density_seq FmSt.init
  iterate 18 run_stmt runProc_assign (densityStep densityStep.match_1)
  run_stmt runProc_return_fn (densityStep densityStep.match_1)
  rfl

/-- the two copies of `calc_density` are the same statement list -/
theorem calc_density_copies : Gen.egg_calc_density_seq = Gen.eos_calc_density_seq := rfl

/-- the copy in `egg/ibm.py` -/
theorem egg_calc_density_seq (temp salt : α) :
    calcDensityRun temp salt Gen.egg_calc_density_seq = some (some (Gen.egg_density temp salt)) := by
  rw [calc_density_copies, eos_calc_density_seq]
  rfl

theorem eos_viscosity_seq (temp salt : α) :
    viscosityRun temp salt Gen.eos_viscosity_seq = some (some (Gen.eos_viscosity temp salt)) := by
  delta viscosityRun fmRun Gen.eos_viscosity_seq FmSt.init
  run_stmt runProc_return_fn (viscosityStep viscosityStep.match_1)
  rfl

theorem larvae_growth_seq (temp weight dt : α) :
    larvaeGrowthRun temp weight dt Gen.larvae_growth_seq = some (some (Gen.larvae_growth temp weight dt)) := by
  delta larvaeGrowthRun fmRun Gen.larvae_growth_seq FmSt.init
  iterate 4 run_stmt runProc_assign (larvaeFnStep larvaeFnStep.match_1)
  run_stmt runProc_return_fn (larvaeFnStep larvaeFnStep.match_1)
  rfl

theorem larvae_weight_to_length_seq (weight : α) :
    larvaeLengthRun weight Gen.larvae_weight_to_length_seq = some (some (Gen.larvae_weight_to_length weight)) := by
  delta larvaeLengthRun fmRun Gen.larvae_weight_to_length_seq FmSt.init
  run_stmt runProc_assign (larvaeFnStep larvaeFnStep.match_1)
  run_stmt runProc_return_fn (larvaeFnStep larvaeFnStep.match_1)
  rfl

theorem larvae_sinkvel_egg_seq (mu_w dens_w dens_egg diam_egg : α) :
    larvaeSinkvelRun mu_w dens_w dens_egg diam_egg Gen.larvae_sinkvel_egg_seq
      = some (some (Gen.larvae_sinkvel_egg mu_w dens_w dens_egg diam_egg)) := by
  delta larvaeSinkvelRun fmRun Gen.larvae_sinkvel_egg_seq FmSt.init
  iterate 4 run_stmt runProc_assign (larvaeFnStep larvaeFnStep.match_1)
  run_stmt runProc_return_fn (larvaeFnStep larvaeFnStep.match_1)
  rfl

/-- `light(time, lon, lat, depth, extinction_coef)`: the surface light at `(lon, lat)` times `exp(-k * depth)` -/
theorem light_seq (surf : α → α → α) (lon lat depth k : α) :
    lightRun surf lon lat depth k Gen.light_seq = some (some (Gen.light_at_depth (surf lon lat) depth k)) := by
  delta lightRun fmRun Gen.light_seq FmSt.init
  run_stmt runProc_assign (lightStep lightStep.match_1)
  run_stmt runProc_return_fn (lightStep lightStep.match_1)
  rfl

/-- `surface_light(dtime, lon, lat)` for the day of the year and the hour of `dtime` -/
theorem surface_light_seq (yday hours lon lat : α) :
    surfaceLightRun yday hours lon lat Gen.surface_light_seq = some (some (Gen.surface_light yday hours lon lat)) := by
  delta surfaceLightRun fmRun Gen.surface_light_seq FmSt.init
  iterate 35 run_stmt runProc_assign (lightStep lightStep.match_1)
  run_stmt runProc_return_fn (lightStep lightStep.match_1)
  rfl

/-! ### salmon lice `infectivity` -/

/-- **`infectivity(age, temp, super)`** (self-contained specification; no generated closed form exists) -/
theorem lice_infectivity_seq (age temp super : α) :
    infectivityRun age temp super Gen.lice_infectivity_seq = some (some (liceInfectivity age temp super)) := by
  delta infectivityRun fmRun Gen.lice_infectivity_seq FmSt.init
  iterate 14 run_stmt runProc_assign (infectStep infectStep.match_1)
  run_stmt runProc_return_fn (infectStep infectStep.match_1)
  rfl

/-- the temperature inside `q`: clipped to `[5, 15]` -/
theorem lice_clip_temp (temp : α) :
    fmin (fmax temp 5.0) 15.0 = if temp < 5 then 5 else if 15 < temp then 15 else temp := by
  have h5 : (5.0 : α) = 5 := by norm_num
  unfold fmin fmax
  rw [h5, lit_15]
  split_ifs <;> first | rfl | (exfalso; linarith)

/-- after 200 degree-days: no infectivity -/
theorem lice_infectivity_old (age temp super : α) (h : 200 < age) : liceInfectivity age temp super = 0 := by
  have h' : (200.0 : α) < age := by rw [show (200.0 : α) = 200 by norm_num]; exact h
  simp [liceInfectivity, h', lit_0]

/-- before the copepodid age `temp * (24.79 / (temp - 10 + 24.79 * 0.525))²` (UNCLIPPED temperature): none -/
theorem lice_infectivity_young (age temp super : α) (h : age < liceCopAge temp) :
    liceInfectivity age temp super = 0 := by
  simp [liceInfectivity, h, lit_0]

/-- in between: the scaled logistic of `q`, times `super` -/
theorem lice_infectivity_inside (age temp super : α) (h1 : ¬ age < liceCopAge temp) (h2 : ¬ 200 < age) :
    liceInfectivity age temp super
      = 1.8 / 0.51 / (1.0 + exp (-(liceInfectQ age (fmin (fmax temp 5.0) 15.0)))) * super := by
  have h2' : ¬ (200.0 : α) < age := by rw [show (200.0 : α) = 200 by norm_num]; exact h2
  simp [liceInfectivity, h1, h2']

/-- the copepodid age in plain arithmetic -/
theorem lice_cop_age (temp : α) :
    liceCopAge temp = temp * (24.79 / (temp - 10 + 24.79 * 0.525)) ^ 2 := by
  unfold liceCopAge
  lits
  ring

/-- `q` as a polynomial in the clipped temperature `T` with cubic (`age ** 3` is a call of `pow`) coefficients in the
age -/
theorem lice_infect_q (age T : α) :
    liceInfectQ age T
      = (-34.66 + 0.7156 * age - 0.005354 * age ^ 2 + 1.191e-5 * rpow age 3.0)
        + (2.306 - 0.03577 * age + 0.0002526 * age ^ 2 - 5.541e-7 * rpow age 3.0) * T
        - 0.02585 * T ^ 2 := by
  unfold liceInfectQ liceRow
  lits
  ring

end Bridge
