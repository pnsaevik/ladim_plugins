import LadimProofs.Bridge.LocationSeq
import LadimModel.Release.GeoSeq
import LadimProofs.Bridge.Runners
/-!
# Bridge (C03, C17, C01) — `triangle_areas`, `_unit_triangle_sample`, `get_polygon_sample_triangles`,
# `get_polygons_from_feature_geometry`, `get_location_file`: the statement sequences of the code

`Gen.triangle_areas_seq`, `Gen.unit_triangle_sample_seq`, `Gen.polygon_sample_triangles_seq`,
`Gen.polygons_from_feature_seq`, `Gen.get_location_file_seq` (guard, kind and text of every statement of the five
functions of `release/makrel.py`, regenerated from the current source) are interpreted by
`LadimModel/Release/GeoSeq.lean` (runner `Seq.runRet`: every statement, condition and `return` expression must be a
known text, also in branches that are not taken).  The theorems hold for *every* input and have no hypotheses
(`none` = the code raises or leaves the modelled value space); only the operations of the scalar type are used (no
field or order laws), so they hold for every scalar type, `Float` included.

Equalities with the hand-written model (`LadimModel/Release/Sample.lean`):
* `Bridge.triangle_areas` : the interpretation is `tris.map Sample.triArea` (unsorted, in triangle order);
* `Bridge.unit_triangle_sample` : `unitTriangleSpec` — `Sample.foldUnit` on the pairs (first half, second half) of the
  `2·num` numbers drawn;
* `Bridge.get_polygon_sample_triangles` : `polygonSampleSpec` — `Seq.sampleTriangles` (= `Sample.samplePoint` per
  particle, the function `LocationSeq.lean` uses at the call site) on the draws `rngDraws`: particle `i` gets
  `u = rng[i]` (drawn first), `(s, t) = (rng[n+i], rng[2n+i])` (`rngDraws_getElem?`); the stream must hold the `3·num`
  numbers the code draws (`get_polygon_sample_triangles_of_stream`; a shorter stream is the `none` outcome), the
  returned triangle number is the index used for the vertices; `get_polygon_sample_triangles_points`: per particle.
Closed forms (there is no hand-written model function; the property join is part of the harness-side model):
* `Bridge.get_polygons_from_feature_geometry` : `polygonsSpec` — `MULTIPOLYGON` → the first ring of every polygon,
  `POLYGON` → the first ring, compared after `upper`, the last position of every ring dropped (`Seq.removeClosing`),
  other types raise; the nested `def` is interpreted as a function of its own (`remove_closing_coordinate`);
* `Bridge.get_location_file` : `locationFileSpec` — first layer, one property row per feature (`Seq.dfOfSeries`), the
  polygons flattened with their feature number (`Seq.flatWithId`), `latlon_from_poly(plat, plon, num)` with
  `plat` / `plon` = columns 1 / 0 of the rings (`Bridge.latlonFromPolySpec` of `Bridge/LocationSeq.lean`), the two
  re-indexings, returned `(lon, lat, attrs)`; `get_location_file_rows`: the property row of particle `j` is the row
  of the feature that carries the polygon `polynum[j]` (`flatWithId_owner`: that polygon is one of the feature's).
-/
open Ladim Ladim.Seq Ladim.Sample Ladim.Table

set_option linter.unusedSectionVars false
set_option linter.unusedVariables false
set_option linter.unusedSimpArgs false
namespace Bridge

section
variable {α : Type} [Add α] [Sub α] [Mul α] [Div α] [Neg α] [LT α] [DecidableLT α] [OfScientific α]

/-! ### triangle_areas -/

set_option maxRecDepth 100000 in
/-- **`triangle_areas`** is `Sample.triArea` for every triangle, in triangle order -/
theorem triangle_areas (tris : List (Tri α)) : triangleAreasSeq tris = some (some (tris.map triArea)) := by
  simp [triangleAreasSeq, Gen.triangle_areas_seq, runRet, stmtKnown, guardKnown, guardVal, areaAtom, areaStep, areaRet,
    List.zipWith_map, List.zipWith_self, triArea, Gen.rel_triangle_area]

/-! ### _unit_triangle_sample -/

/-- closed form of `_unit_triangle_sample(num)`: the `2·num` numbers of `np.random.rand(num * 2)`; column `j` of the
reshaped array is `(rng[j], rng[num + j])`, folded by `Sample.foldUnit`; returned: the row of the `s`, the row of the
`t`, and the rest of the stream; `none`: the stream holds fewer than `2·num` numbers -/
def unitTriangleSpec (num : Nat) (rng : List α) : Option ((List α × List α) × List α) :=
  if num * 2 ≤ rng.length then
    let st := ((rng.take num).zip ((rng.drop num).take num)).map (fun p => foldUnit p.1 p.2)
    some ((st.map (fun p => p.1), st.map (fun p => p.2)), rng.drop (num * 2))
  else none

theorem zipWith_mask {β : Type} (p : β → Bool) (f : β → β) (l : List β) :
    List.zipWith (fun m c => if m then f c else c) (l.map p) l = l.map (fun c => if p c then f c else c) := by
  induction l with
  | nil => rfl
  | cons a l ih => simp [ih]

set_option maxRecDepth 100000 in
/-- **`_unit_triangle_sample`** -/
theorem unit_triangle_sample (num : Nat) (rng : List α) :
    unitTriangleSeq num rng = some (unitTriangleSpec num rng) := by
  by_cases h : num * 2 ≤ rng.length
  · have h1 : min num (num * 2) = num := by omega
    have h2 : num * 2 - num = num := by omega
    simp [unitTriangleSeq, unitTriangleSpec, Gen.unit_triangle_sample_seq, runRet, stmtKnown, guardKnown, guardVal,
      unitAtom, unitStep, unitRet, randTake, h, zipWith_mask, List.take_take, List.drop_take, h1, h2, foldUnit]
  · simp [unitTriangleSeq, unitTriangleSpec, Gen.unit_triangle_sample_seq, runRet, stmtKnown, guardKnown, guardVal,
      unitAtom, unitStep, unitRet, randTake, h]

/-! ### get_polygon_sample_triangles -/

/-- the interpretation, stage by stage, for a non-empty triangle array (`tot` = `cumarea[-1]`) -/
def polygonSampleRaw (tris : List (Tri α)) (n : Nat) (rng : List α) (tot : α) :
    Option ((List α × List α × List Nat) × List α) :=
  let pick := searchsortedLeft ((cumsum (tris.map triArea)).map (fun c => c / tot))
  (randTake rng n).bind fun r1 =>
  (unitTriangleSpec n r1.2).bind fun r2 =>
  ((r1.1.map pick).mapM (fun k => tris[k]?)).map fun verts =>
    (((verts.zip (r2.1.1.zip r2.1.2)).map (fun p => (baryAt p.1 p.2.1 p.2.2).1),
      (verts.zip (r2.1.1.zip r2.1.2)).map (fun p => (baryAt p.1 p.2.1 p.2.2).2),
      r1.1.map pick), r2.2)

local macro "samp_unfold" : tactic => `(tactic|
  simp [polygonSampleTrianglesSeq, polygonSampleRaw, Gen.polygon_sample_triangles_seq, runRet, stmtKnown, guardKnown,
    guardVal, sampAtom, sampStep, sampRet, triangle_areas, unit_triangle_sample, *])

set_option maxRecDepth 100000 in
theorem sample_raw_none (tris : List (Tri α)) (n : Nat) (rng : List α)
    (hlast : (cumsum (tris.map triArea)).getLast? = none) :
    polygonSampleTrianglesSeq tris n rng = some none := by
  samp_unfold

set_option maxRecDepth 100000 in
theorem sample_raw (tris : List (Tri α)) (n : Nat) (rng : List α) (tot : α)
    (hlast : (cumsum (tris.map triArea)).getLast? = some tot) :
    polygonSampleTrianglesSeq tris n rng = some (polygonSampleRaw tris n rng tot) := by
  cases h1 : randTake rng n with
  | none => samp_unfold
  | some r1 =>
    cases h2 : unitTriangleSpec n r1.2 with
    | none => samp_unfold
    | some r2 =>
      cases h3 : r1.1.mapM ((fun k => tris[k]?) ∘
          searchsortedLeft ((cumsum (tris.map triArea)).map (fun c => c / tot))) <;> samp_unfold

/-- arrays by column (the code) = records by particle (the model) -/
theorem cols_eq (tris : List (Tri α)) (pick : α → Nat) (pt : Tri α → α × α → α × α) :
    ∀ (us : List α) (sts : List (α × α)), us.length = sts.length →
    (us.mapM (fun u => tris[pick u]?)).map (fun verts =>
        ((verts.zip sts).map (fun p => (pt p.1 p.2).1), (verts.zip sts).map (fun p => (pt p.1 p.2).2), us.map pick))
      = ((us.zip sts).mapM (fun d => (tris[pick d.1]?).map (fun T => ((pt T d.2).1, (pt T d.2).2, pick d.1)))).map
          (fun ps => (ps.map (fun p => p.1), ps.map (fun p => p.2.1), ps.map (fun p => p.2.2))) := by
  intro us
  induction us with
  | nil => intro sts h; cases sts <;> simp at h ⊢
  | cons u us ih =>
    intro sts h
    cases sts with
    | nil => simp at h
    | cons st sts =>
      have ih' := ih sts (by simpa using h)
      simp only [List.mapM_cons, List.zip_cons_cons]
      cases hT : tris[pick u]? with
      | none => simp
      | some T =>
        cases h1 : us.mapM (fun u => tris[pick u]?) with
        | none =>
          rw [h1] at ih'
          cases h2 : (us.zip sts).mapM (fun d => (tris[pick d.1]?).map (fun T => ((pt T d.2).1, (pt T d.2).2, pick d.1))) with
          | none => simp
          | some ps => rw [h2] at ih'; simp at ih'
        | some verts =>
          rw [h1] at ih'
          cases h2 : (us.zip sts).mapM (fun d => (tris[pick d.1]?).map (fun T => ((pt T d.2).1, (pt T d.2).2, pick d.1))) with
          | none => rw [h2] at ih'; simp at ih'
          | some ps =>
            rw [h2] at ih'
            simp at ih' ⊢
            obtain ⟨e1, e2, e3⟩ := ih'
            simp [e1, e2, e3]

/-- the draws `(u, s, t)` of particle `i` in the stream: `rng[i]`, `rng[n + i]`, `rng[2 n + i]` -/
def rngDraws (n : Nat) (rng : List α) : List (α × α × α) :=
  (rng.take n).zip (((rng.drop n).take n).zip ((rng.drop (n * 2)).take n))

/-- closed form of `get_polygon_sample_triangles(triangles, n)`: `Seq.sampleTriangles` (`Sample.samplePoint` for every
particle; `none` = no triangles, or a triangle number outside the array) on the draws `rngDraws n rng`, with the rest
of the stream; `none` also when the stream holds fewer than the `3·n` numbers the code draws -/
def polygonSampleSpec (tris : List (Tri α)) (n : Nat) (rng : List α) : Option ((List α × List α × List Nat) × List α) :=
  if n * 3 ≤ rng.length then (sampleTriangles tris n (rngDraws n rng)).map (fun r => (r, rng.drop (n * 3))) else none

theorem zip_map_fst_snd {β γ : Type} (l : List (β × γ)) : (l.map (fun p => p.1)).zip (l.map (fun p => p.2)) = l := by
  induction l with
  | nil => rfl
  | cons a l ih => simp [ih]

theorem cumsum_eq_nil (l : List α) (h : cumsum l = []) : l = [] := by
  cases l with
  | nil => rfl
  | cons a l => simp [cumsum] at h

theorem rngDraws_length (n : Nat) (rng : List α) (h : n * 3 ≤ rng.length) : (rngDraws n rng).length = n := by
  simp only [rngDraws, List.length_zip, List.length_take, List.length_drop]; omega

theorem raw_eq_spec (tris : List (Tri α)) (n : Nat) (rng : List α) (tot : α)
    (hlast : (cumsum (tris.map triArea)).getLast? = some tot) :
    polygonSampleRaw tris n rng tot = polygonSampleSpec tris n rng := by
  have hne : tris.isEmpty = false := by
    cases tris with
    | nil => simp [cumsum] at hlast
    | cons T tris => rfl
  have hpick : ∀ u, pickTriangle (tris.map triArea) u =
      searchsortedLeft ((cumsum (tris.map triArea)).map (fun c => c / tot)) u := by
    intro u; unfold pickTriangle; simp only [hlast]
  unfold polygonSampleRaw polygonSampleSpec randTake
  by_cases h1 : n ≤ rng.length
  · by_cases h2 : n * 2 ≤ (rng.drop n).length
    · have h3 : n * 3 ≤ rng.length := by rw [List.length_drop] at h2; omega
      have hd2 : (rng.drop n).drop n = rng.drop (n * 2) := by rw [List.drop_drop]; congr 1; omega
      have hd3 : (rng.drop n).drop (n * 2) = rng.drop (n * 3) := by rw [List.drop_drop]; congr 1; omega
      have hus : (rng.take n).length = (((rng.drop n).take n).zip ((rng.drop (n * 2)).take n)).length := by
        simp only [List.length_zip, List.length_take, List.length_drop]; omega
      have key := cols_eq tris (searchsortedLeft ((cumsum (tris.map triArea)).map (fun c => c / tot)))
        (fun T st => baryAt T st.1 st.2) (rng.take n)
        ((((rng.drop n).take n).zip ((rng.drop (n * 2)).take n)).map (fun p => foldUnit p.1 p.2))
        (by rw [List.length_map]; exact hus)
      simp only [if_pos h1, if_pos h3, Option.bind_some, unitTriangleSpec, if_pos h2, zip_map_fst_snd, hd2, hd3,
        sampleTriangles, hne, Bool.false_eq_true, if_false, List.take_of_length_le (Nat.le_of_eq (rngDraws_length n rng h3))]
      rw [List.mapM_map]
      have e : ∀ (o : Option (List α × List α × List Nat)) (o' : Option (List α × List α × List Nat)), o = o' →
          o.map (fun r => (r, rng.drop (n * 3))) = o'.map (fun r => (r, rng.drop (n * 3))) := by
        intro o o' h; rw [h]
      rw [Option.map_map]
      refine (Eq.trans ?_ (e _ _ key)).trans ?_
      · rw [Option.map_map]; rfl
      · rw [List.zip_map_right, List.mapM_map]
        have hf : ((fun d : α × α × α => Option.map (fun T => ((baryAt T d.2.1 d.2.2).1, (baryAt T d.2.1 d.2.2).2,
              searchsortedLeft ((cumsum (tris.map triArea)).map (fun c => c / tot)) d.1))
              tris[searchsortedLeft ((cumsum (tris.map triArea)).map (fun c => c / tot)) d.1]?) ∘
            Prod.map id (fun p : α × α => foldUnit p.1 p.2)) = fun d => samplePoint tris d.1 d.2.1 d.2.2 := by
          funext d
          simp only [Function.comp, samplePoint, hpick, Prod.map, id]
          cases tris[searchsortedLeft ((cumsum (tris.map triArea)).map (fun c => c / tot)) d.1]? <;> rfl
        rw [hf, Option.map_map]
        rfl
    · rw [List.length_drop] at h2
      have h3 : ¬ n * 3 ≤ rng.length := by omega
      simp [h1, h2, h3, unitTriangleSpec]
  · have h3 : ¬ n * 3 ≤ rng.length := by omega
    simp [h1, h3]

/-- **`get_polygon_sample_triangles`**: for every triangle array, particle count and stream -/
theorem get_polygon_sample_triangles (tris : List (Tri α)) (n : Nat) (rng : List α) :
    polygonSampleTrianglesSeq tris n rng = some (polygonSampleSpec tris n rng) := by
  cases h : (cumsum (tris.map triArea)).getLast? with
  | none =>
    rw [sample_raw_none tris n rng h]
    have ht : tris = [] := by
      have := cumsum_eq_nil _ (List.getLast?_eq_none_iff.mp h)
      simpa using this
    subst ht
    simp [polygonSampleSpec, sampleTriangles]
  | some tot => rw [sample_raw tris n rng tot h, raw_eq_spec tris n rng tot h]

/-- the layout of the stream: particle `i` uses `rng[i]` for the triangle choice (drawn first, `np.random.rand(num)`),
`rng[n + i]` and `rng[2 n + i]` as `(s, t)` (first and second half of `np.random.rand(num * 2)`) -/
theorem rngDraws_getElem? (n : Nat) (rng : List α) (i : Nat) (h : n * 3 ≤ rng.length) (hi : i < n) :
    (rngDraws n rng)[i]? = some (rng[i]'(by omega), rng[n + i]'(by omega), rng[n * 2 + i]'(by omega)) := by
  have h1 : i < rng.length := by omega
  have h2 : n + i < rng.length := by omega
  have h3 : n * 2 + i < rng.length := by omega
  unfold rngDraws
  simp only [List.getElem?_zip_eq_some, List.getElem?_take_of_lt hi, List.getElem?_drop, List.getElem?_eq_getElem h1,
    List.getElem?_eq_getElem h2, List.getElem?_eq_getElem h3, and_self]

/-- under the only hypothesis needed — the stream holds the `3 · num` numbers the code draws — -/
theorem get_polygon_sample_triangles_of_stream (tris : List (Tri α)) (n : Nat) (rng : List α)
    (h : n * 3 ≤ rng.length) :
    polygonSampleTrianglesSeq tris n rng =
      some ((sampleTriangles tris n (rngDraws n rng)).map (fun r => (r, rng.drop (n * 3)))) := by
  rw [get_polygon_sample_triangles, polygonSampleSpec, if_pos h]

/-- particle by particle: whatever the code returns is `Sample.samplePoint` on the draws of the particle, in order -/
theorem get_polygon_sample_triangles_points (tris : List (Tri α)) (n : Nat) (rng rest : List α)
    (xs ys : List α) (ks : List Nat)
    (h : polygonSampleTrianglesSeq tris n rng = some (some ((xs, ys, ks), rest))) :
    n * 3 ≤ rng.length ∧ rest = rng.drop (n * 3) ∧ tris ≠ [] ∧ ∃ ps : List (α × α × Nat),
      (rngDraws n rng).map (fun d => samplePoint tris d.1 d.2.1 d.2.2) = ps.map some ∧
      xs = ps.map (fun p => p.1) ∧ ys = ps.map (fun p => p.2.1) ∧ ks = ps.map (fun p => p.2.2) := by
  rw [get_polygon_sample_triangles] at h
  simp only [Option.some.injEq] at h
  unfold polygonSampleSpec at h
  split at h
  · rename_i h3
    obtain ⟨r, hr, he⟩ := Option.map_eq_some_iff.mp h
    simp only [Prod.mk.injEq] at he
    obtain ⟨rfl, rfl⟩ := he
    obtain ⟨hne, ps, hps, hr'⟩ := sampleTriangles_points tris n (rngDraws n rng) _ hr
    rw [List.take_of_length_le (Nat.le_of_eq (rngDraws_length n rng h3))] at hps
    simp only [Prod.mk.injEq] at hr'
    exact ⟨h3, rfl, hne, ps, hps, hr'.1, hr'.2.1, hr'.2.2⟩
  · cases h

end

section
variable {α : Type}

theorem mapMM_some {β γ : Type} (g : β → Option γ) (l : List β) :
    mapMM (fun a => some (g a)) l = some (l.mapM g) := by
  induction l with
  | nil => rfl
  | cons a l ih =>
    rw [mapMM, ih, List.mapM_cons]
    cases g a <;> cases l.mapM g <;> rfl

theorem mapMM_of_forall {β γ : Type} (f : β → Option (Option γ)) (g : β → Option γ) (l : List β)
    (h : ∀ a, f a = some (g a)) : mapMM f l = some (l.mapM g) := by
  have : f = fun a => some (g a) := funext h
  rw [this, mapMM_some]


/-- closed form of `get_polygons_from_feature_geometry(geom)`: one ring per polygon, without its closing position;
`none` = the code raises (unknown type, a polygon without rings, a ring without positions) or the coordinates do not
have the nesting the type announces -/
def polygonsSpec (upper : String → String) (g : Geometry α) : Option (List (List (α × α))) :=
  if upper g.gtype = "MULTIPOLYGON" then
    match g.coordinates with
    | .multi polys => (polys.mapM (fun p => List.head? p)).bind (fun rings => rings.mapM removeClosing)
    | _ => none
  else if upper g.gtype = "POLYGON" then
    match g.coordinates with
    | .polygon (r :: _) => (removeClosing r).map (fun c => [c])
    | _ => none
  else none

theorem ring_body : defBody ringDef Gen.polygons_from_feature_seq = [([], "return", "c[:-1, :]")] := by
  rfl

theorem geom_body : withoutDef ringDef Gen.polygons_from_feature_seq = [
    ([], "def", "remove_closing_coordinate(c)"),
    ([], "assign", "crd = geom['coordinates']"),
    ([(true, "geom['type'].upper() == 'MULTIPOLYGON'")], "assign", "coords = [np.array(p[0]) for p in crd]"),
    ([(false, "geom['type'].upper() == 'MULTIPOLYGON'"), (true, "geom['type'].upper() == 'POLYGON'")], "assign",
      "coords = [np.array(crd[0])]"),
    ([(false, "geom['type'].upper() == 'MULTIPOLYGON'"), (false, "geom['type'].upper() == 'POLYGON'")], "raise",
      "raise ValueError(f\"Unknown geom type: \"{geom['type']}\"\")"),
    ([], "return", "[remove_closing_coordinate(c) for c in coords]")] := by
  rfl

set_option maxRecDepth 100000 in
theorem remove_closing_coordinate (c : List (α × α)) :
    runRet ringAtom ringStep ringRet [([], "return", "c[:-1, :]")] (⟨c⟩ : RingSt α) = some (removeClosing c) := by
  simp [runRet, stmtKnown, guardKnown, guardVal, ringAtom, ringStep, ringRet]

local macro "geom_unfold" : tactic => `(tactic|
  simp [runRet, stmtKnown, guardKnown, guardVal, geomAtom, geomStep, geomRet, ringAtom, ringStep, ringRet, mapMM_some,
    polygonsSpec, *])

set_option maxRecDepth 100000 in
/-- **`get_polygons_from_feature_geometry`**: for every geometry object and every `upper` -/
theorem get_polygons_from_feature_geometry (upper : String → String) (g : Geometry α) :
    polygonsFromFeatureSeq upper g = some (polygonsSpec upper g) := by
  unfold polygonsFromFeatureSeq
  rw [ring_body, geom_body]
  obtain ⟨ty, crd⟩ := g
  by_cases hm : upper ty = "MULTIPOLYGON"
  · cases crd with
    | multi polys => cases hh : polys.mapM (fun p => List.head? p) <;> geom_unfold
    | polygon rings => geom_unfold
    | other => geom_unfold
  · by_cases hp : upper ty = "POLYGON"
    · cases crd with
      | polygon rings =>
        cases rings with
        | nil => geom_unfold
        | cons r rs => cases hr : removeClosing r <;> geom_unfold
      | multi polys => geom_unfold
      | other => geom_unfold
    · cases crd <;> geom_unfold

theorem mapM_getElem? {β γ : Type} (f : β → Option γ) : ∀ (l : List β) (r : List γ), l.mapM f = some r →
    ∀ k : Nat, r[k]? = (l[k]?).bind f := by
  intro l r h k
  have hm := mapM_map_some f l r h
  have : (r.map some)[k]? = (l.map f)[k]? := by rw [hm]
  simp only [List.getElem?_map] at this
  cases hl : l[k]? with
  | none => rw [hl] at this; cases hr : r[k]? with
    | none => rfl
    | some b => rw [hr] at this; simp at this
  | some a => rw [hl] at this; cases hr : r[k]? with
    | none => rw [hr] at this; simp at this
    | some b => rw [hr] at this; simp at this; simp [this]

/-- the two re-indexings: row `j` of the per-particle table is the row of the table by feature with the label
`ids[polynum[j]]` (`ids`: the feature number of every polygon); the columns stay those of the table by feature -/
theorem loc_loc_row (att byPoly byParticle : DF α) (ids polynum : List Nat)
    (h1 : att.loc ids = some byPoly) (h2 : byPoly.loc polynum = some byParticle) :
    byParticle.cols = att.cols ∧
    ∀ j : Nat, byParticle.rows[j]? = (polynum[j]?).bind fun (k : Nat) => (ids[k]?).bind fun (i : Nat) => att.rows[i]? := by
  unfold DF.loc at h1 h2
  obtain ⟨r1, hr1, rfl⟩ := Option.map_eq_some_iff.mp h1
  obtain ⟨r2, hr2, rfl⟩ := Option.map_eq_some_iff.mp h2
  refine ⟨rfl, fun j => ?_⟩
  simp only
  rw [mapM_getElem? _ _ _ hr2 j]
  cases polynum[j]? with
  | none => rfl
  | some k => simp only [Option.bind_some]; exact mapM_getElem? _ _ _ hr1 k

/-- entry `k` of the flat polygon list is a polygon of the feature whose number it carries -/
theorem flatWithId_owner {β : Type} (pss : List (List β)) (k i : Nat) (poly : β)
    (h : (flatWithId pss)[k]? = some (i, poly)) : ∃ ps, pss[i]? = some ps ∧ poly ∈ ps := by
  have hm : (i, poly) ∈ flatWithId pss := List.mem_of_getElem? h
  unfold flatWithId at hm
  obtain ⟨p, hp, hq⟩ := List.mem_flatMap.mp hm
  obtain ⟨q, hq1, hq2⟩ := List.mem_map.mp hq
  simp only [Prod.mk.injEq] at hq2
  obtain ⟨rfl, rfl⟩ := hq2
  refine ⟨p.1, ?_, hq1⟩
  have := List.mem_zipIdx_iff_getElem?.mp hp
  simpa using this

/-- row `i` of the table by feature: the properties of feature `i` laid out on the union of all property names -/
theorem dfOfSeries_row (ss : List (List (String × Cell α))) (i : Nat) :
    (dfOfSeries ss).rows[i]? =
      (ss[i]?).map (fun r => (seriesCols ss).map (fun c => (c, (lookup r c).getD Cell.nan))) := by
  simp [dfOfSeries]

end

section
variable {α : Type} [Add α] [Sub α] [Mul α] [Div α] [Neg α] [LT α] [DecidableLT α] [OfScientific α]

/-! ### get_location_file -/

/-- `data[0]` after `if isinstance(data, dict): data = [data]` -/
def firstLayer : GeoData α → Option (Layer α)
  | .layer l => some l
  | .layers (l :: _) => some l
  | .layers [] => none

/-- `get_polygons_from_feature_geometry(f['geometry'])` -/
def featurePolygons (upper : String → String) (ft : Feature α) : Option (List (List (α × α))) :=
  ft.geometry.bind (polygonsSpec upper)

theorem feature_polygons (upper : String → String) (ft : Feature α) :
    featurePolygonsSeq upper ft = some (featurePolygons upper ft) := by
  unfold featurePolygonsSeq featurePolygons
  cases ft.geometry with
  | none => rfl
  | some g => simp [get_polygons_from_feature_geometry]


/-! the statements of `get_location_file` one by one; the texts are compared by `String.reduceEq`, not by evaluation (see
the head of `Bridge/Runners.lean`) -/
section steps
variable {φ : Type} (readJson : φ → Option (GeoData α)) (upper : String → String)
  (tri : List (List (α × α)) → Option (List (Tri α) × List Nat)) (draws : List (α × α × α)) (s : FileSt α φ)

theorem file_atom_dict : fileAtom s "isinstance(data, dict)" =
    some (match s.data with | some (.layer _) => true | _ => false) := by
  unfold fileAtom fileAtom.match_4; simp only [↓reduceDIte, String.reduceEq]; rfl
theorem file_import : fileStep readJson upper tri draws s "import" "import json" = some (some s) := by
  unfold fileStep fileStep.match_4; simp only [↓reduceDIte, String.reduceEq]
theorem file_data : fileStep readJson upper tri draws s "assign" "data = json.loads(file.read())" =
    some ((readJson s.file).map (fun d => { s with data := some d })) := by
  unfold fileStep fileStep.match_4; simp only [↓reduceDIte, String.reduceEq]
theorem file_wrap : fileStep readJson upper tri draws s "assign" "data = [data]" =
    some (match s.data with
      | some (.layer l) => some { s with data := some (.layers [l]) }
      | _ => none) := by
  unfold fileStep fileStep.match_4; simp only [↓reduceDIte, String.reduceEq]; rfl
theorem file_layer : fileStep readJson upper tri draws s "assign" "layer = data[0]" =
    some (match s.data with
      | some (.layers (l :: _)) => some { s with layer := some l }
      | _ => none) := by
  unfold fileStep fileStep.match_4; simp only [↓reduceDIte, String.reduceEq]; rfl
theorem file_feats : fileStep readJson upper tri draws s "assign" "feats = layer['features']" =
    some ((s.layer.bind (fun l => l.features)).map (fun fs => { s with feats := fs })) := by
  unfold fileStep fileStep.match_4; simp only [↓reduceDIte, String.reduceEq]
theorem file_att_by_feature : fileStep readJson upper tri draws s "assign"
      "att_by_feature = pd.DataFrame([pd.Series(f.get('properties', {})) for f in feats])" =
    some (some { s with attByFeature := dfOfSeries (s.feats.map (fun f => f.properties.getD [])) }) := by
  unfold fileStep fileStep.match_4; simp only [↓reduceDIte, String.reduceEq]
theorem file_polys_flat : fileStep readJson upper tri draws s "assign"
      "polys_flat = [(feature_id, poly) for feature_id, f in enumerate(feats) for poly in get_polygons_from_feature_geometry(f['geometry'])]" =
    (mapMM (featurePolygonsSeq upper) s.feats).map (fun o => o.map (fun pss => { s with polysFlat := flatWithId pss })) := by
  unfold fileStep fileStep.match_4; simp only [↓reduceDIte, String.reduceEq]
theorem file_att_by_poly : fileStep readJson upper tri draws s "assign"
      "att_by_poly = att_by_feature.loc[[i for i, _ in polys_flat]].reset_index(drop=True)" =
    some ((s.attByFeature.loc (s.polysFlat.map (fun p => p.1))).map (fun d => { s with attByPoly := d })) := by
  unfold fileStep fileStep.match_4; simp only [↓reduceDIte, String.reduceEq]
theorem file_plon : fileStep readJson upper tri draws s "assign" "plon = [p[:, 0] for _, p in polys_flat]" =
    some (some { s with plon := s.polysFlat.map (fun p => p.2.map (fun c => c.1)) }) := by
  unfold fileStep fileStep.match_4; simp only [↓reduceDIte, String.reduceEq]
theorem file_plat : fileStep readJson upper tri draws s "assign" "plat = [p[:, 1] for _, p in polys_flat]" =
    some (some { s with plat := s.polysFlat.map (fun p => p.2.map (fun c => c.2)) }) := by
  unfold fileStep fileStep.match_4; simp only [↓reduceDIte, String.reduceEq]
theorem file_latlon : fileStep readJson upper tri draws s "assign"
      "slat, slon, polynum = latlon_from_poly(plat, plon, num)" =
    (latlonFromPolySeq tri draws (.multi s.plat) (.multi s.plon) s.num).map
      (fun o => o.map (fun r => { s with slat := r.1, slon := r.2.1, polynum := r.2.2 })) := by
  unfold fileStep fileStep.match_4; simp only [↓reduceDIte, String.reduceEq]
theorem file_att_by_particle : fileStep readJson upper tri draws s "assign"
      "att_by_particle = att_by_poly.loc[polynum].reset_index(drop=True)" =
    some ((s.attByPoly.loc s.polynum).map (fun d => { s with attByParticle := d })) := by
  unfold fileStep fileStep.match_4; simp only [↓reduceDIte, String.reduceEq]
theorem file_attrs : fileStep readJson upper tri draws s "assign" "attrs = att_by_particle.to_dict(orient='list')" =
    some (some { s with attrs := s.attByParticle.toDict }) := by
  unfold fileStep fileStep.match_4; simp only [↓reduceDIte, String.reduceEq]
theorem file_ret : fileRet s "(slon.tolist(), slat.tolist(), attrs)" = some (some (s.slon, s.slat, s.attrs)) := by
  unfold fileRet fileRet.match_1; simp only [↓reduceDIte, String.reduceEq]

end steps

theorem feature_polygons_all (upper : String → String) (fs : List (Feature α)) :
    mapMM (featurePolygonsSeq upper) fs = some (fs.mapM (featurePolygons upper)) :=
  mapMM_of_forall _ _ _ (feature_polygons upper)

/-- closed form of `get_location_file(file, num)`: `(lon, lat, property columns)`; `none` = the code raises or leaves
the modelled value space.  `att`: one row per feature; `pss`: the rings of every feature; `flat`: the rings with their
feature number; `byPoly`: one row per ring; `r = (lat, lon, polygon number)` per particle from `latlon_from_poly` with
the latitudes (column 1) first; `byParticle`: one row per particle -/
def locationFileSpec {φ : Type} (readJson : φ → Option (GeoData α)) (upper : String → String)
    (tri : List (List (α × α)) → Option (List (Tri α) × List Nat)) (draws : List (α × α × α))
    (f : φ) (num : Nat) : Option (List α × List α × Frame α) :=
  (readJson f).bind fun data =>
  (firstLayer data).bind fun layer =>
  layer.features.bind fun feats =>
  let att := dfOfSeries (feats.map (fun ft => ft.properties.getD []))
  (feats.mapM (featurePolygons upper)).bind fun pss =>
  let flat := flatWithId pss
  (att.loc (flat.map (fun p => p.1))).bind fun byPoly =>
  (latlonFromPolySpec tri draws (.multi (flat.map (fun p => p.2.map (fun c => c.2))))
      (.multi (flat.map (fun p => p.2.map (fun c => c.1)))) num).bind fun r =>
  (byPoly.loc r.2.2).map fun byParticle => (r.2.1, r.1, byParticle.toDict)

/-- **`get_location_file`**: for every stream object, reader and particle count -/
theorem get_location_file {φ : Type} (readJson : φ → Option (GeoData α)) (upper : String → String)
    (tri : List (List (α × α)) → Option (List (Tri α) × List Nat)) (draws : List (α × α × α))
    (f : φ) (num : Nat) :
    getLocationFileSeq readJson upper tri draws f num = some (locationFileSpec readJson upper tri draws f num) := by
  -- every statement is a known one, in every state: used after each statement that may raise
  have K : ∀ s, Gen.get_location_file_seq.all (stmtKnown fileAtom (fileStep readJson upper tri draws) fileRet s) = true := by
    intro s
    simp only [Gen.get_location_file_seq, List.all_cons, List.all_nil, stmtKnown, guardKnown, ↓reduceIte, String.reduceEq,
      file_atom_dict, file_import, file_data, file_wrap, file_layer, file_feats, file_att_by_feature, file_polys_flat,
      file_att_by_poly, file_plon, file_plat, file_latlon, file_att_by_particle, file_attrs, file_ret,
      feature_polygons_all, latlon_from_poly, Option.isSome_some, Option.isSome_map, Option.map_some, Bool.and_self]
  simp only [Gen.get_location_file_seq, List.all_cons, List.all_nil, Bool.and_eq_true, and_true] at K
  unfold locationFileSpec
  dsimp only
  unfold getLocationFileSeq Gen.get_location_file_seq
  refine (Run.runRet_step rfl (by decide) (by simp only [file_import]; rfl)).trans ?_
  refine Run.runRet_bind rfl (by decide) (by simp only [file_data]; rfl) (by simp only [List.all_cons, List.all_nil, K, Bool.and_self])
    fun data => ?_
  rcases data with l | (_ | ⟨l, ls⟩)
  on_goal 2 =>
    exact (Run.runRet_skip (Run.guardVal_neg (file_atom_dict _)) (K _).2.2.1).trans
      (Run.runRet_raise rfl (by decide) (by simp only [file_layer]) (by simp only [List.all_cons, List.all_nil, K, Bool.and_self]))
  on_goal 1 => refine (Run.runRet_step (Run.guardVal_pos (file_atom_dict _)) (by decide) (by simp only [file_wrap]; rfl)).trans ?_
  on_goal 2 => refine (Run.runRet_skip (Run.guardVal_neg (file_atom_dict _)) (K _).2.2.1).trans ?_
  all_goals
    refine ((Run.runRet_step rfl (by decide) (by simp only [file_layer]; rfl)).trans ?_).trans (congrArg some (Option.bind_some ..).symm)
    refine Run.runRet_bind rfl (by decide) (by simp only [file_feats]; rfl) (by simp only [List.all_cons, List.all_nil, K, Bool.and_self])
      fun feats => ?_
    refine (Run.runRet_step rfl (by decide) (by simp only [file_att_by_feature]; rfl)).trans ?_
    refine Run.runRet_bind rfl (by decide) (by simp only [file_polys_flat, feature_polygons_all, Option.map_some]; rfl)
      (by simp only [List.all_cons, List.all_nil, K, Bool.and_self]) fun pss => ?_
    refine Run.runRet_bind rfl (by decide) (by simp only [file_att_by_poly]; rfl)
      (by simp only [List.all_cons, List.all_nil, K, Bool.and_self]) fun byPoly => ?_
    refine (Run.runRet_step rfl (by decide) (by simp only [file_plon]; rfl)).trans ?_
    refine (Run.runRet_step rfl (by decide) (by simp only [file_plat]; rfl)).trans ?_
    refine Run.runRet_bind rfl (by decide) (by simp only [file_latlon, latlon_from_poly, Option.map_some]; rfl)
      (by simp only [List.all_cons, List.all_nil, K, Bool.and_self]) fun r => ?_
    refine Run.runRet_map rfl (by decide) (by simp only [file_att_by_particle]; rfl)
      (by simp only [List.all_cons, List.all_nil, K, Bool.and_self]) fun byParticle => ?_
    refine (Run.runRet_step rfl (by decide) (by simp only [file_attrs]; rfl)).trans ?_
    exact Run.runRet_return rfl (file_ret ..) rfl

/-- whatever `get_location_file` returns: the positions are those of `latlon_from_poly` on the rings (latitude =
column 1, longitude = column 0), the columns are the union of the property names of *all* features of the layer, and
the row of particle `j` is the property row of the feature whose number the ring `polynum[j]` carries -/
theorem get_location_file_rows {φ : Type} (readJson : φ → Option (GeoData α)) (upper : String → String)
    (tri : List (List (α × α)) → Option (List (Tri α) × List Nat)) (draws : List (α × α × α))
    (f : φ) (num : Nat) (lon lat : List α) (attrs : Frame α)
    (h : getLocationFileSeq readJson upper tri draws f num = some (some (lon, lat, attrs))) :
    ∃ data layer feats pss r byParticle,
      readJson f = some data ∧ firstLayer data = some layer ∧ layer.features = some feats ∧
      feats.mapM (featurePolygons upper) = some pss ∧
      latlonFromPolySpec tri draws (.multi ((flatWithId pss).map (fun p => p.2.map (fun c => c.2))))
        (.multi ((flatWithId pss).map (fun p => p.2.map (fun c => c.1)))) num = some r ∧
      lon = r.2.1 ∧ lat = r.1 ∧ attrs = DF.toDict byParticle ∧
      byParticle.cols = seriesCols (feats.map (fun ft => ft.properties.getD [])) ∧
      ∀ j : Nat, byParticle.rows[j]? = (r.2.2[j]?).bind fun (k : Nat) => ((flatWithId pss)[k]?).bind fun p =>
        (dfOfSeries (feats.map (fun ft => ft.properties.getD []))).rows[p.1]? := by
  rw [get_location_file] at h
  simp only [Option.some.injEq] at h
  unfold locationFileSpec at h
  obtain ⟨data, h1, h⟩ := Option.bind_eq_some_iff.mp h
  obtain ⟨layer, h2, h⟩ := Option.bind_eq_some_iff.mp h
  obtain ⟨feats, h3, h⟩ := Option.bind_eq_some_iff.mp h
  obtain ⟨pss, h4, h⟩ := Option.bind_eq_some_iff.mp h
  obtain ⟨byPoly, h5, h⟩ := Option.bind_eq_some_iff.mp h
  obtain ⟨r, h6, h⟩ := Option.bind_eq_some_iff.mp h
  obtain ⟨byParticle, h7, h⟩ := Option.map_eq_some_iff.mp h
  simp only [Prod.mk.injEq] at h
  obtain ⟨rfl, rfl, rfl⟩ := h
  obtain ⟨hc, hr⟩ := loc_loc_row _ _ _ _ _ h5 h7
  refine ⟨data, layer, feats, pss, r, byParticle, h1, h2, h3, h4, h6, rfl, rfl, rfl, hc, fun j => ?_⟩
  rw [hr j]
  cases r.2.2[j]? with
  | none => rfl
  | some k =>
    simp only [Option.bind_some, List.getElem?_map]
    cases (flatWithId pss)[k]? <;> rfl

end

/-! non-vacuity: the type is compared after `upper`; the closing position goes; only the first ring is used -/
example (upper : String → String) (h : upper "Polygon" = "POLYGON") :
    polygonsSpec upper (⟨"Polygon", .polygon [[(0, 0), (4, 0), (4, 3), (0, 0)], [(1, 1)]]⟩ : Geometry Nat)
      = some [[(0, 0), (4, 0), (4, 3)]] := by
  simp [polygonsSpec, removeClosing, h]
example (upper : String → String) (h : upper "multipolygon" = "MULTIPOLYGON") :
    polygonsSpec upper
      (⟨"multipolygon", .multi [[[(0, 0), (4, 0), (4, 3), (0, 0)]], [[(7, 7), (8, 7), (8, 8), (7, 7)], []]]⟩ : Geometry Nat)
      = some [[(0, 0), (4, 0), (4, 3)], [(7, 7), (8, 7), (8, 8)]] := by
  simp [polygonsSpec, removeClosing, h]
example (upper : String → String) (h : upper "LineString" = "LINESTRING") :
    polygonsSpec upper (⟨"LineString", .other⟩ : Geometry Nat) = none := by
  simp [polygonsSpec, h]
example : flatWithId [["p0"], [], ["p1", "p2"]] = [(0, "p0"), (2, "p1"), (2, "p2")] := by decide

end Bridge
