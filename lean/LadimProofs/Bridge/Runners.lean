import LadimModel.Release.ConfigSeq
import LadimModel.Release.ReleaseSeq
import LadimModel.Release.AttrSeq
import LadimModel.Grid.FjordSeq
import LadimModel.IBM.BioSeq
import LadimProofs.Bridge.RunSeq
/-!
# One statement of a statement-sequence runner

The strict runners of the sequence interpreters (`Seq.runStrict`, `runStrictRet`, `runRet`, `runFn`, `BioSeq.runProc`)
all consume a program statement by statement.  For each of them the four things a statement can do — be executed, be
skipped (guard false), raise, return — are stated here once, for an arbitrary interpreter (`atom`, `step`, `ret`), with
what the runner asks of the statement as hypotheses.  A bridge proof walks through a generated sequence with these and,
where a statement calls a function that has a sequence of its own, closes the hypothesis with the bridge theorem of
that function — so every generated sequence is interpreted once.  (The plain runner `Seq.run` and the guards are in
`Bridge/RunSeq.lean`.)

Each fact comes in up to three forms, for three ways of walking:

* `…_step`, `…_skip`, `…_raise`, `…_return` take the state after the statement as an argument; they are used with `rw` /
  `refine (… ).trans ?_`, one statement at a time.  `runRet_bind` / `runRet_map` are `…_step` and `…_raise` together for a
  statement whose value may be missing.
* `…_exec`, `…_ret`, `…_pass`, `…_nil` state the outcome as a `match` on what the interpreter answers, so that
  `simp only [runFn_exec, guardVal_nil, step.eq_def, String.reduceEq, …]` walks through a sequence by itself and stops at
  the first statement whose guard it cannot decide.  (`simp` can only use a side goal that it closes with a proof term,
  not by unfolding alone: hence `guardVal_nil` / `guardVal_cons` in `RunSeq.lean`.)
* `…_assign`, `…_assign_fn`, `runStrictRet_plain`, `runProc_assign` fix the kind, or ask for the step as a function of an
  arbitrary state: the statement text is then matched on a variable, not on the large term for the state that the run has
  reached.  `runProc_eq_runEff` does this for a whole program at once: all its texts are matched in one pass, and what is
  left is a run of the effects.

Where every text of a program is a known one in every state, the checks of `runFn` / `runRet` are proved once and the run
is `runPlain` (`runFn_eq_runPlain`, `runRet_eq_runPlain`).  `fnThen` (`RunSeq.lean`) stands for the `match` on the outcome of a statement
in `runFn_then`: when `simp` reduces such a `match` after rewriting its discriminant, the kernel checks the step by
evaluating the discriminant (the statement on its text, and the sequence of a callee behind it) once more; `fnThen` is
resolved by lemmas that are not `rfl`.

**Matching a statement text.**  The interpreters are `match`es on the statement text.  Evaluated by reduction (`rfl`,
`decide`), each test `"…" = "…"` of the matcher makes the elaborator and then the kernel UTF-8-encode both literals and
compare the byte lists, which is slow to check.  Instead the interpreter and its matcher
are unfolded (`delta f f.match_1` on a goal in which `f` is not yet applied to literals — the kernel checks a `delta` by
unfolding, and on literals it would unfold the `if`s as well and run the comparisons; or `have h := f.eq_def …; unfold
f.match_1 at h`), so that `step s k t` is the chain `if k = "…" then if t = "…" then … else …`, and
`simp only [String.reduceEq, ↓reduceDIte]` decides the tests: equal literals are syntactically equal, different ones get
a proof from the first position where they differ.  The equation lemmas of an interpreter (`simp only [f]`, `rw [f]`,
`split`) are not used: they are proved by `rfl` and make the kernel run every comparison again.

A guard that evaluates to `true` has all its conditions known (`guardKnown_of_true`), so an executed statement needs no
separate hypothesis for the guard.  The side condition "the kind is not `return`" has the form `(k = "return") = False`,
which `by decide` closes on literals and `simp` rewrites `if k = "return" then … else …` with.
-/
open Ladim Ladim.Seq

namespace Bridge.Run
variable {σ ρ : Type} {atom : σ → String → Option Bool} {step : σ → String → String → Option (Option σ)}
  {ret : σ → String → Option (Option ρ)}

theorem guardKnown_of_true {s : σ} : ∀ {g : List Cond}, guardVal atom s g = some true → guardKnown atom s g = true
  | [], _ => rfl
  | (pos, c) :: g, h => by
    cases ha : atom s c with
    | none => simp [guardVal, ha] at h
    | some b =>
      cases hb : b == pos with
      | false => simp [guardVal, ha, hb] at h
      | true =>
        have := guardKnown_of_true (g := g) (by simpa [guardVal, ha, hb] using h)
        simp only [guardKnown, List.all_cons, ha, Option.isSome_some, Bool.true_and] at this ⊢
        exact this

theorem guardKnown_one {s : σ} {c : String} {pos : Bool} (h : (atom s c).isSome = true) :
    guardKnown atom s [(pos, c)] = true := by
  simp only [guardKnown, List.all_cons, h, List.all_nil, Bool.and_self]

/-! ### `runStrict` -/
section runStrict
variable {g : List Cond} {k t : String} {rest : List Stmt} {s s' : σ}

theorem runStrict_step (hg : guardVal atom s g = some true) (hk : (k = "return") = False)
    (hs : step s k t = some (some s')) : runStrict atom step ((g, k, t) :: rest) s = runStrict atom step rest s' := by
  simp only [runStrict, hg, hk, if_false, hs]

theorem runStrict_raise (hg : guardVal atom s g = some true) (hk : (k = "return") = False)
    (hs : step s k t = some none) : runStrict atom step ((g, k, t) :: rest) s = some none := by
  simp only [runStrict, hg, hk, if_false, hs]

theorem runStrict_return (hg : guardVal atom s g = some true) :
    runStrict atom step ((g, "return", t) :: rest) s = some (some s) := by
  simp only [runStrict, hg, if_true]

theorem runStrict_skip (hg : guardVal atom s g = some false) (hs : (k == "return" || (step s k t).isSome) = true) :
    runStrict atom step ((g, k, t) :: rest) s = runStrict atom step rest s := by
  have : (decide (k = "return") || (step s k t).isSome) = true := by simpa using hs
  simp only [runStrict, hg, this, if_true]

theorem runStrict_exec (hg : guardVal atom s g = some true) (hk : (k = "return") = False) :
    runStrict atom step ((g, k, t) :: rest) s =
      match step s k t with
      | none => none
      | some none => some none
      | some (some s') => runStrict atom step rest s' := by
  simp only [runStrict, hg, hk, if_false]; rfl

end runStrict

/-! ### `runStrictRet` -/
section runStrictRet
variable {g : List Cond} {c k t : String} {pos : Bool} {rest : List Stmt} {s s' : σ}

theorem runStrictRet_step (hg : guardVal atom s g = some true) (hk : (k = "return") = False)
    (hs : step s k t = some (some s')) :
    runStrictRet atom step ((g, k, t) :: rest) s = runStrictRet atom step rest s' := by
  simp only [runStrictRet, hg, hs, hk, if_false]

theorem runStrictRet_raise (hg : guardVal atom s g = some true) (hs : step s k t = some none) :
    runStrictRet atom step ((g, k, t) :: rest) s = some none := by
  simp only [runStrictRet, hg, hs]

theorem runStrictRet_return (hg : guardVal atom s g = some true) (hs : step s "return" t = some (some s')) :
    runStrictRet atom step ((g, "return", t) :: rest) s = some (some s') := by
  simp only [runStrictRet, hg, hs, if_true]

theorem runStrictRet_skip (hg : guardVal atom s g = some false) (hs : (step s k t).isSome = true) :
    runStrictRet atom step ((g, k, t) :: rest) s = runStrictRet atom step rest s := by
  simp only [runStrictRet, hg, hs, if_true]

theorem runStrictRet_exec (hg : guardVal atom s g = some true) :
    runStrictRet atom step ((g, k, t) :: rest) s =
      match step s k t with
      | none => none
      | some none => some none
      | some (some s') => if k = "return" then some (some s') else runStrictRet atom step rest s' := by
  simp only [runStrictRet, hg]; rfl

theorem runStrictRet_assign (hg : guardVal atom s g = some true) (hs : step s "assign" t = some (some s')) :
    runStrictRet atom step ((g, "assign", t) :: rest) s = runStrictRet atom step rest s' :=
  runStrictRet_step hg (by decide) hs

/-- an `assign` whose effect is stated for an arbitrary state: the statement text is then matched on a variable, not on
the (large) term for the state that the run has reached -/
theorem runStrictRet_assign_fn {f : σ → σ} (hg : guardVal atom s g = some true)
    (hs : ∀ s, step s "assign" t = some (some (f s))) :
    runStrictRet atom step ((g, "assign", t) :: rest) s = runStrictRet atom step rest (f s) :=
  runStrictRet_assign hg (hs s)

/-- a statement without guard whose effect is stated for an arbitrary state -/
theorem runStrictRet_plain {f : σ → σ} (hk : (k = "return") = False) (hs : ∀ s, step s k t = some (some (f s))) :
    runStrictRet atom step (([], k, t) :: rest) s = runStrictRet atom step rest (f s) :=
  runStrictRet_step rfl hk (hs s)

/-- a statement under one condition that leaves the state as it is: whether it is executed does not matter -/
theorem runStrictRet_noop (ha : (atom s c).isSome = true) (hk : (k = "return") = False)
    (hs : step s k t = some (some s)) :
    runStrictRet atom step (([(pos, c)], k, t) :: rest) s = runStrictRet atom step rest s := by
  obtain ⟨b, ha⟩ := Option.isSome_iff_exists.mp ha
  cases hb : b == pos <;> simp [runStrictRet, guardVal, ha, hb, hs, hk]

/-- statements that do not `return` and run through can be run first, the rest from the state they leave -/
theorem runStrictRet_append {pre rest : List Stmt} {s s' : σ} (hk : pre.all (fun st => st.2.1 != "return") = true)
    (hp : runStrictRet atom step pre s = some (some s')) :
    runStrictRet atom step (pre ++ rest) s = runStrictRet atom step rest s' := by
  induction pre generalizing s with
  | nil => cases hp; rfl
  | cons st pre ih =>
    obtain ⟨g, k, t⟩ := st
    rw [List.all_cons, Bool.and_eq_true, bne_iff_ne] at hk
    have hk' : (k = "return") = False := eq_false hk.1
    simp only [List.cons_append, runStrictRet, hk', if_false] at hp ⊢
    cases hg : guardVal atom s g with
    | none => simp only [hg] at hp; cases hp
    | some b =>
      cases b with
      | false =>
        simp only [hg] at hp ⊢
        split at hp
        · rw [if_pos ‹_›]; exact ih hk.2 hp
        · cases hp
      | true =>
        simp only [hg] at hp ⊢
        cases hs : step s k t with
        | none => simp only [hs] at hp; cases hp
        | some o =>
          cases o with
          | none => simp only [hs] at hp; cases hp
          | some s'' => simp only [hs] at hp ⊢; exact ih hk.2 hp

theorem runStrictRet_split (n : Nat) {prog : List Stmt} {s s' : σ}
    (hk : (prog.take n).all (fun st => st.2.1 != "return") = true)
    (hp : runStrictRet atom step (prog.take n) s = some (some s')) :
    runStrictRet atom step prog s = runStrictRet atom step (prog.drop n) s' := by
  rw [← runStrictRet_append hk hp, List.take_append_drop]

end runStrictRet

/-! ### `runRet` -/
section runRet
variable {g : List Cond} {c k t : String} {pos : Bool} {st : Stmt} {rest : List Stmt} {s s' : σ} {r : Option ρ}

theorem runRet_step (hg : guardVal atom s g = some true) (hk : (k = "return") = False)
    (hs : step s k t = some (some s')) :
    runRet atom step ret ((g, k, t) :: rest) s = runRet atom step ret rest s' := by
  simp [runRet, Seq.stmtKnown, guardKnown_of_true hg, hg, hk, hs]

theorem runRet_raise (hg : guardVal atom s g = some true) (hk : (k = "return") = False)
    (hs : step s k t = some none) (hr : rest.all (Seq.stmtKnown atom step ret s) = true) :
    runRet atom step ret ((g, k, t) :: rest) s = some none := by
  simp [runRet, Seq.stmtKnown, guardKnown_of_true hg, hg, hk, hs, hr]

theorem runRet_return (hg : guardVal atom s g = some true) (hs : ret s t = some r)
    (hr : rest.all (Seq.stmtKnown atom step ret s) = true) :
    runRet atom step ret ((g, "return", t) :: rest) s = some r := by
  simp [runRet, Seq.stmtKnown, guardKnown_of_true hg, hg, hs, hr]

theorem runRet_skip (hg : guardVal atom s g = some false) (hk : Seq.stmtKnown atom step ret s (g, k, t) = true) :
    runRet atom step ret ((g, k, t) :: rest) s = runRet atom step ret rest s := by
  simp [runRet, hk, hg]

/-- A statement that assigns a value that may be missing (`o = none`: the code raises): when the rest of the run is known
for every value, the run is the `Option.bind` of the two — no case split on `o` in the caller. -/
theorem runRet_bind {β : Type} {o : Option β} {f : β → σ} {F : β → Option ρ}
    (hg : guardVal atom s g = some true) (hk : (k = "return") = False) (hs : step s k t = some (o.map f))
    (hr : rest.all (Seq.stmtKnown atom step ret s) = true)
    (h : ∀ b, runRet atom step ret rest (f b) = some (F b)) :
    runRet atom step ret ((g, k, t) :: rest) s = some (o.bind F) := by
  cases o with
  | none => exact runRet_raise hg hk hs hr
  | some b => exact (runRet_step hg hk hs).trans (h b)

theorem runRet_map {β : Type} {o : Option β} {f : β → σ} {F : β → ρ}
    (hg : guardVal atom s g = some true) (hk : (k = "return") = False) (hs : step s k t = some (o.map f))
    (hr : rest.all (Seq.stmtKnown atom step ret s) = true)
    (h : ∀ b, runRet atom step ret rest (f b) = some (some (F b))) :
    runRet atom step ret ((g, k, t) :: rest) s = some (o.map F) :=
  (runRet_bind hg hk hs hr h).trans (congrArg some (Option.map_eq_bind ..).symm)

theorem runRet_assign (hg : guardVal atom s g = some true) (hs : step s "assign" t = some (some s')) :
    runRet atom step ret ((g, "assign", t) :: rest) s = runRet atom step ret rest s' :=
  runRet_step hg (by decide) hs

theorem stmtKnown_assign (hg : guardKnown atom s g = true) (hs : (step s "assign" t).isSome = true) :
    Seq.stmtKnown atom step ret s (g, "assign", t) = true := by
  simp [Seq.stmtKnown, hg, hs]

theorem stmtKnown_return (hg : guardKnown atom s g = true) (hr : (ret s t).isSome = true) :
    Seq.stmtKnown atom step ret s (g, "return", t) = true := by
  simp [Seq.stmtKnown, hg, hr]

theorem runRet_skip_assign (ha : atom s c = some !pos) (hs : (step s "assign" t).isSome = true) :
    runRet atom step ret (([(pos, c)], "assign", t) :: rest) s = runRet atom step ret rest s :=
  runRet_skip (guardVal_neg ha) (stmtKnown_assign (guardKnown_one (by rw [ha]; rfl)) hs)

theorem runRet_skip_return (ha : atom s c = some !pos) (hr : (ret s t).isSome = true) :
    runRet atom step ret (([(pos, c)], "return", t) :: rest) s = runRet atom step ret rest s :=
  runRet_skip (guardVal_neg ha) (stmtKnown_return (guardKnown_one (by rw [ha]; rfl)) hr)

theorem allKnown_cons (h : Seq.stmtKnown atom step ret s st = true)
    (hr : rest.all (Seq.stmtKnown atom step ret s) = true) : (st :: rest).all (Seq.stmtKnown atom step ret s) = true := by
  rw [List.all_cons, h, hr]; rfl

end runRet

/-! ### `runFn` -/
section runFn
variable {fin : σ → Option (Option ρ)} {g : List Cond} {k t : String} {rest : List Stmt} {s s' : σ} {r : Option ρ}

theorem fnGuardKnown_of_true (hg : guardVal atom s g = some true) : fnGuardKnown atom s g = true :=
  guardKnown_of_true hg

theorem runFn_step (hg : guardVal atom s g = some true) (hk : (k = "return") = False)
    (hs : step s k t = some (some s')) :
    runFn atom step ret fin ((g, k, t) :: rest) s = runFn atom step ret fin rest s' := by
  simp [runFn, fnStmtKnown, fnGuardKnown_of_true hg, hg, hk, hs]

theorem runFn_raise (hg : guardVal atom s g = some true) (hk : (k = "return") = False)
    (hs : step s k t = some none) (hr : rest.all (fnStmtKnown atom step ret s) = true) :
    runFn atom step ret fin ((g, k, t) :: rest) s = some none := by
  simp [runFn, fnStmtKnown, fnGuardKnown_of_true hg, hg, hk, hs, hr]

theorem runFn_return (hg : guardVal atom s g = some true) (hs : ret s t = some r)
    (hr : rest.all (fnStmtKnown atom step ret s) = true) :
    runFn atom step ret fin ((g, "return", t) :: rest) s = some r := by
  simp [runFn, fnStmtKnown, fnGuardKnown_of_true hg, hg, hs, hr]

theorem runFn_skip (hg : guardVal atom s g = some false) (hk : fnStmtKnown atom step ret s (g, k, t) = true) :
    runFn atom step ret fin ((g, k, t) :: rest) s = runFn atom step ret fin rest s := by
  simp [runFn, hk, hg]

theorem runFn_nil : runFn atom step ret fin [] s = fin s := rfl

theorem runFn_exec (hg : guardVal atom s g = some true) (hk : (k = "return") = False) :
    runFn atom step ret fin ((g, k, t) :: rest) s =
      match step s k t with
      | none => none
      | some none => if rest.all (fnStmtKnown atom step ret s) then some none else none
      | some (some s') => runFn atom step ret fin rest s' := by
  cases hs : step s k t with
  | none => simp [runFn, fnStmtKnown, hk, hs]
  | some o => cases o <;> simp [runFn, fnStmtKnown, fnGuardKnown_of_true hg, hg, hk, hs]

theorem runFn_ret (hg : guardVal atom s g = some true) :
    runFn atom step ret fin ((g, "return", t) :: rest) s =
      match ret s t with
      | none => none
      | some r => if rest.all (fnStmtKnown atom step ret s) then some r else none := by
  cases hr : ret s t <;> simp [runFn, fnStmtKnown, fnGuardKnown_of_true hg, hg, hr]

theorem runFn_pass (hg : guardVal atom s g = some false) :
    runFn atom step ret fin ((g, k, t) :: rest) s =
      if fnStmtKnown atom step ret s (g, k, t) then runFn atom step ret fin rest s else none := by
  cases hk : fnStmtKnown atom step ret s (g, k, t) <;> simp [runFn, hg, hk]

theorem runFn_then (hg : guardVal atom s g = some true) (hk : (k = "return") = False) :
    runFn atom step ret fin ((g, k, t) :: rest) s =
      fnThen (step s k t) (if rest.all (fnStmtKnown atom step ret s) then some none else none)
        (runFn atom step ret fin rest) := by
  rw [runFn_exec hg hk]; rfl

/-! `runFn` asks at every statement that the statement is a known one, and at a `return` or a raising statement that the
rest of the program is.  Where that holds in every state it is proved once (`hK`), and the run is the one without the
checks. -/

/-- `runFn` without the checks -/
def runPlain (atom : σ → String → Option Bool) (step : σ → String → String → Option (Option σ))
    (ret : σ → String → Option (Option ρ)) (fin : σ → Option (Option ρ)) : List Stmt → σ → Option (Option ρ)
  | [], s => fin s
  | (g, k, t) :: rest, s =>
    match guardVal atom s g with
    | none => none
    | some false => runPlain atom step ret fin rest s
    | some true =>
      if k = "return" then ret s t else
        match step s k t with
        | none => none
        | some none => some none
        | some (some s') => runPlain atom step ret fin rest s'

theorem runFn_eq_runPlain {prog : List Stmt} (hK : ∀ s, prog.all (fnStmtKnown atom step ret s) = true) (s : σ) :
    runFn atom step ret fin prog s = runPlain atom step ret fin prog s := by
  induction prog generalizing s with
  | nil => rfl
  | cons st rest ih =>
    obtain ⟨g, k, t⟩ := st
    have h := fun s => Bool.and_eq_true_iff.mp ((List.all_cons).symm.trans (hK s))
    have ih := ih (fun s => (h s).2)
    simp only [runFn, runPlain, (h s).1, (h s).2, ih, Bool.not_true, Bool.false_eq_true, if_false, if_true]
    rcases guardVal atom s g with _ | _ | _
    · rfl
    · rfl
    · by_cases hk : k = "return"
      · simp only [hk, if_true]; cases ret s t <;> rfl
      · simp only [hk, if_false]; rcases step s k t with _ | _ | s' <;> rfl

theorem runPlain_nil : runPlain atom step ret fin [] s = fin s := rfl

theorem runPlain_exec (hg : guardVal atom s g = some true) (hk : (k = "return") = False) :
    runPlain atom step ret fin ((g, k, t) :: rest) s =
      match step s k t with
      | none => none
      | some none => some none
      | some (some s') => runPlain atom step ret fin rest s' := by
  simp only [runPlain, hg, hk, if_false]

theorem runPlain_ret (hg : guardVal atom s g = some true) :
    runPlain atom step ret fin ((g, "return", t) :: rest) s = ret s t := by
  simp only [runPlain, hg, if_true]

theorem runPlain_pass (hg : guardVal atom s g = some false) :
    runPlain atom step ret fin ((g, k, t) :: rest) s = runPlain atom step ret fin rest s := by
  simp only [runPlain, hg]

/-- One statement of `runPlain` as an unconditional rewrite rule: `simp` evaluates the guard as a term of the goal (and
remembers the value of a condition for the next guard that has it), `↓reduceIte` then takes one branch without looking
at the other, and the rest of the program is not under a binder. -/
theorem runPlain_cons : runPlain atom step ret fin ((g, k, t) :: rest) s =
    if guardVal atom s g = some true then
      if k = "return" then ret s t
      else (step s k t).bind fun o => o.elim (some none) (runPlain atom step ret fin rest)
    else if guardVal atom s g = some false then runPlain atom step ret fin rest s else none := by
  rw [runPlain]
  rcases guardVal atom s g with _ | _ | _ <;> try rfl
  by_cases hk : k = "return" <;> simp only [hk, if_true]
  rcases step s k t with _ | _ | _ <;> rfl

section
variable {F : σ → Option (Option ρ)}

/- not by `rfl`: `simp` would use them as definitional steps, and the kernel would then evaluate `step s k t` -/
theorem bind_elim_some : ((some (some s')).bind fun o => o.elim (some none) F) = F s' := by
  rw [Option.bind_some, Option.elim_some]

theorem bind_elim_none : ((some none).bind fun o : Option σ => o.elim (some none) F) = some none := by
  rw [Option.bind_some, Option.elim_none]

/-- a statement whose value may be missing (`o = none`: the code raises): the run goes on under the `some`, with the
value a variable, so that a caller need not split on `o` before the run -/
theorem bind_elim_map {β : Type} {o : Option β} {f : β → σ} :
    ((some (o.map f)).bind fun o => o.elim (some none) F) = o.elim (some none) fun b => F (f b) := by
  cases o <;> rfl

end

/-! `runRet` is `runFn` for a body that cannot be left without a `return` -/

theorem runRet_eq_runFn (prog : List Stmt) (s : σ) :
    runRet atom step ret prog s = runFn atom step ret (fun _ => none) prog s := by
  induction prog generalizing s with
  | nil => rfl
  | cons st rest ih =>
    obtain ⟨g, k, t⟩ := st
    simp only [runRet, runFn, ih]
    rfl

theorem runRet_eq_runPlain {prog : List Stmt} (hK : ∀ s, prog.all (Seq.stmtKnown atom step ret s) = true) (s : σ) :
    runRet atom step ret prog s = runPlain atom step ret (fun _ => none) prog s :=
  (runRet_eq_runFn prog s).trans (runFn_eq_runPlain hK s)

end runFn

/-! ### `BioSeq.runProc` -/
section runProc
open BioSeq (runProc)
variable {g : List Cond} {c k t : String} {pos : Bool} {rest : List Stmt} {s s' : σ}

theorem runProc_step (hg : guardVal atom s g = some true) (hk : (k = "return") = False)
    (hs : step s k t = some (some s')) : runProc atom step ((g, k, t) :: rest) s = runProc atom step rest s' := by
  simp [runProc, BioSeq.stmtKnown, show BioSeq.guardKnown atom s g = true from guardKnown_of_true hg, hg, hk, hs]

theorem runProc_raise (hg : guardVal atom s g = some true) (hs : step s k t = some none)
    (hr : rest.all (BioSeq.stmtKnown atom step s) = true) :
    runProc atom step ((g, k, t) :: rest) s = some none := by
  simp [runProc, BioSeq.stmtKnown, show BioSeq.guardKnown atom s g = true from guardKnown_of_true hg, hg, hs, hr]

theorem runProc_return (hg : guardVal atom s g = some true) (hs : step s "return" t = some (some s'))
    (hr : rest.all (BioSeq.stmtKnown atom step s') = true) :
    runProc atom step ((g, "return", t) :: rest) s = some (some s') := by
  simp [runProc, BioSeq.stmtKnown, show BioSeq.guardKnown atom s g = true from guardKnown_of_true hg, hg, hs, hr]

theorem runProc_skip (hg : guardVal atom s g = some false) (hk : BioSeq.stmtKnown atom step s (g, k, t) = true) :
    runProc atom step ((g, k, t) :: rest) s = runProc atom step rest s := by
  simp [runProc, hk, hg]

theorem runProc_nil : runProc atom step [] s = some (some s) := rfl

theorem runProc_exec (hg : guardVal atom s g = some true) :
    runProc atom step ((g, k, t) :: rest) s =
      match step s k t with
      | none => none
      | some none => if rest.all (BioSeq.stmtKnown atom step s) then some none else none
      | some (some s') =>
        if k = "return" then (if rest.all (BioSeq.stmtKnown atom step s') then some (some s') else none)
        else runProc atom step rest s' := by
  have := show BioSeq.guardKnown atom s g = true from guardKnown_of_true hg
  cases hs : step s k t with
  | none => simp [runProc, BioSeq.stmtKnown, hs]
  | some o => cases o <;> simp [runProc, BioSeq.stmtKnown, this, hg, hs]

theorem runProc_pass (hg : guardVal atom s g = some false) :
    runProc atom step ((g, k, t) :: rest) s =
      if BioSeq.stmtKnown atom step s (g, k, t) then runProc atom step rest s else none := by
  cases hk : BioSeq.stmtKnown atom step s (g, k, t) <;> simp [runProc, hg, hk]

/-- an `assign` whose effect is stated for an arbitrary state (`hF`); `hs` is the outcome for the state at hand, by
evaluation (no text is involved) -/
theorem runProc_assign {F : σ → Option σ} (hF : ∀ s, step s "assign" t = some (F s))
    (hg : guardVal atom s g = some true) (hs : F s = some s') :
    runProc atom step ((g, "assign", t) :: rest) s = runProc atom step rest s' :=
  runProc_step hg (by decide) (by rw [hF, hs])

theorem runProc_return_fn {F : σ → Option σ} (hF : ∀ s, step s "return" t = some (F s))
    (hg : guardVal atom s g = some true) (hs : F s = some s') :
    runProc atom step [(g, "return", t)] s = some (some s') :=
  runProc_return hg (by rw [hF, hs]) rfl

theorem runProc_skip_one (ha : atom s c = some !pos) (hs : (step s k t).isSome = true) :
    runProc atom step (([(pos, c)], k, t) :: rest) s = runProc atom step rest s :=
  runProc_skip (guardVal_neg ha) (by simp [BioSeq.stmtKnown, BioSeq.guardKnown, ha, hs])

/-! `runProc` reads kind and text of a statement only to ask the interpreter.  `runEff` is `runProc` on a program whose
statements carry instead whether the kind is `return` and the interpreter's answer as a function of the state.  After
`delta` of the interpreter and its matcher, one
`simp only [List.map_cons, List.map_nil, String.reduceEq, decide_false, ↓reduceDIte]` matches every text of the program,
with the state a bound variable; what is left is a run without texts, which evaluation or `runEff_step` carries out. -/

def runEff (atom : σ → String → Option Bool) :
    List (List Cond × Bool × (σ → Option (Option σ))) → σ → Option (Option σ)
  | [], s => some (some s)
  | (g, isRet, eff) :: rest, s =>
    if !(BioSeq.guardKnown atom s g && (eff s).isSome) then none else
    match guardVal atom s g with
    | none => none
    | some false => runEff atom rest s
    | some true =>
      match eff s with
      | none => none
      | some none => if rest.all (fun st => BioSeq.guardKnown atom s st.1 && (st.2.2 s).isSome) then some none else none
      | some (some s') =>
        if isRet then
          (if rest.all (fun st => BioSeq.guardKnown atom s' st.1 && (st.2.2 s').isSome) then some (some s') else none)
        else runEff atom rest s'

theorem runProc_eq_runEff (prog : List Stmt) (s : σ) :
    runProc atom step prog s
      = runEff atom (prog.map fun st => (st.1, decide (st.2.1 = "return"), fun s => step s st.2.1 st.2.2)) s := by
  induction prog generalizing s with
  | nil => rfl
  | cons st rest ih =>
    obtain ⟨g, k, t⟩ := st
    simp only [runProc, runEff, List.map_cons, BioSeq.stmtKnown, List.all_map, Function.comp_def, ih, decide_eq_true_eq]
    rfl

theorem runEff_step {g : List Cond} {eff : σ → Option (Option σ)}
    {rest : List (List Cond × Bool × (σ → Option (Option σ)))} {s s' : σ}
    (hg : guardVal atom s g = some true) (hs : eff s = some (some s')) :
    runEff atom ((g, false, eff) :: rest) s = runEff atom rest s' := by
  simp [runEff, show BioSeq.guardKnown atom s g = true from guardKnown_of_true hg, hg, hs]

end runProc

end Bridge.Run
