import LadimProofs.Bridge.ForcingRun
import LadimModel.Forcing.RomsCtorSeq
/-!
# Bridge (C06) — `chemicals/gridforce.py :: Forcing`: constructor, step table, `update`, readers

`LadimModel/Forcing/RomsCtorSeq.lean` interprets the generated statement sequences of `Forcing.__init__`,
`find_files`, `open_dataset`, `scan_file_times`, `forcing_steps`, `update`, `open_forcing_file`, `_read_velocity`,
`_read_field`, `close`, `__setitem__`, `__getitem__` (strict runner with really iterated, nested `for` loops; every
statement, condition and `return` text must be a known one).  This file proves what the interpretations amount to.
Headline theorems are `Bridge.forcing_*`; auxiliary definitions and lemmas carry the prefix `rc_`.

* **Step table** (`Gen.forcing_steps_seq`).  `forcing_steps` (hypothesis: the files list at most as many frames as
  there are frame times — an `IndexError` otherwise): `stepsSeq A = rc_stepsSpec A` — `IndexError` without frames,
  `SystemExit(3)` unless `time0 ≤ start` and `stop ≤ time1`, a raise for `dt = 0`, else
  `steps = [Roms.forcingStep (t − start) dt for t in all_frames]` (truncation toward zero, the model's function) and
  the dicts `file_idx`, `frame_idx` = successive assignments `steps[m] ↦ (file, position in file)` of frame `m`
  (`rc_frameLabels`).  `rc_stepsTable_fileIdx/_frameIdx`: a lookup answers with the *last* frame mapped to the step;
  `rc_stepsTable_lookup(_sorted)`: frame `k` is found under its step when no later frame shares it (always, for strictly
  increasing steps); `rc_tableSteps_aligned`: offsets that are multiples of `dt` give the exact quotient;
  `rc_tableSteps_sorted`: then strictly increasing times give `C06.Sorted` steps; `rc_tableSteps_mono` + the instance
  `forcing_steps_unaligned` (known finding F-C06e: offsets 0 s, 300 s with `dt` = 600 s share step 0 and the later
  frame replaces the earlier one in the dicts).
* **Files and times.** `forcing_find_files`, `forcing_open_dataset`, `forcing_scan_file_times` (no hypotheses; closed
  forms `rc_findFilesSpec`, `rc_scanSpec`; `rc_notAfter_iff_sorted`: the check passes iff the times increase strictly).
* **`__init__`** (`forcing_ctor`, no hypotheses): `ctorSeq = rc_ctorSpec` — files, then times, then steps, then the
  attributes in the order `rc_ctorLog`; `_nc = None`, `initialization_finished = False`, `_last_update = -1`;
  `forcing_ctor_ok`: the good case.
* **`update`** (`forcing_update`, no hypotheses): `_remaining_initialization()`, then `Seq.codeUpdate` (the fold of the
  interpreted `_update_one_step` over `_last_update + 1 … t`).  `forcing_update_model`: on the C06 state it is
  `Roms.update .loop`.  `forcing_update_any_schedule`: the C06 velocity theorem for runs of the interpreted `update`.
* **Readers.** `forcing_open_file`, `forcing_read_velocity`, `forcing_read_field`, `forcing_close` (no hypotheses;
  closed forms `rc_openFileObj`, `rc_readVelSpec`, `rc_readFieldSpec`), and what they serve: `forcing_read_velocity_opens`
  (first read / first frame of a file: frame `frame_idx[n]` of `file_idx[n]`), `forcing_read_velocity_same_file` and
  `forcing_read_field_open` (otherwise: frame `frame_idx[n]` of the file that is *open*).
  `RomsReadFieldExample`: a run in which `_read_field(name, 0)` of `_remaining_initialization` does not read the file of
  step 0.
* `forcing_setitem`, `forcing_getitem`: `setattr` / `getattr`.
-/
open Ladim Ladim.Seq Ladim.Seq.RomsCtor Ladim.Seq.RomsCtor.Nest

set_option linter.unusedSimpArgs false
set_option linter.unusedVariables false
set_option linter.unusedSectionVars false
set_option linter.auxLemma false

namespace Bridge

/-! ## the runner

A run is evaluated by rewriting (`simp only`), not by unfolding in the kernel; the statement texts are matched as the
head of `Bridge/Runners.lean` describes (`unfold ….match_1 at` a hypothesis `….eq_def`, then `String.reduceEq`).

The case distinctions of the runner itself are put behind `Run.fnThen`, which `simp` does not look into, and are resolved
by lemmas (`Run.fnThen_some`, …).  Were a `match` reduced definitionally after its discriminant has been rewritten, the
kernel would have to evaluate the discriminant, and the program behind it, once more to check that step.  Where the
outcome depends on the input (an `Option`, a condition) the run goes on below `Option.elim` / `if`; it stops at a loop,
which is rewritten by the lemma of that loop. -/
section runner
variable {σ τ : Type}

theorem rc_nest_run_eq (I : Interp σ) (prog : List Stmt) (s : σ) (h : prog.all (stmtKnown I s) = true) :
    Nest.run I prog s = runBlocks I (runDepth I 2) (Loops.blocks I.isLoop prog) s := by
  unfold Nest.run
  rw [if_pos h]
  rfl

theorem rc_runDepth_succ (I : Interp σ) (d : Nat) (prog : List Stmt) (s : σ) :
    runDepth I (d + 1) prog s = runBlocks I (runDepth I d) (Loops.blocks I.isLoop prog) s := by
  rw [runDepth]

theorem rc_runBlocks_nil (I : Interp σ) (sub : List Stmt → σ → Option (Option σ)) (s : σ) :
    runBlocks I sub [] s = some (some s) := by
  rw [runBlocks]

theorem rc_runBlocks_plain (I : Interp σ) (sub : List Stmt → σ → Option (Option σ)) (g : List Cond) (k t : String)
    (rest : List Loops.Block) (s : σ) :
    runBlocks I sub (.plain (g, k, t) :: rest) s =
      Run.fnThen (guardEnter I s g) (runBlocks I sub rest s) fun s1 =>
        Run.fnThen (I.step s1 k t) (some none) fun s' =>
          if k = "return" then some (some s') else runBlocks I sub rest s' := by
  rw [runBlocks]; rfl

theorem rc_runBlocks_loop (I : Interp σ) (sub : List Stmt → σ → Option (Option σ)) (c : String) (body : List Stmt)
    (rest : List Loops.Block) (s : σ) :
    runBlocks I sub (.loop c body :: rest) s =
      Run.fnThen (guardEnter I s (Loops.outerGuard I.isLoop body)) (runBlocks I sub rest s) fun s1 =>
        Run.fnThen (loopOver (sub (stripBody I.isLoop body)) (I.iter s1 c) s1) (some none) (runBlocks I sub rest) := by
  rw [runBlocks]; rfl

/-- without loop headers every statement is a block of its own -/
theorem rc_blocks_plain : ∀ prog : List Stmt, Loops.blocks (fun _ => false) prog = prog.map .plain
  | [] => rfl
  | st :: prog => by
    have h : ∀ g : List Cond, Loops.loopOf (fun _ => false) g = none := fun g => by
      induction g with
      | nil => rfl
      | cons c g ih => simpa [Loops.loopOf] using ih
    rw [Loops.blocks, h, rc_blocks_plain prog]
    rfl

theorem rc_retVal_eq {ρ : Type} (ret : σ → Option ρ) (r : Option (Option σ)) :
    retVal ret r = Run.fnThen r (some none) fun s => (ret s).map some := by
  unfold retVal Run.fnThen; rfl

theorem rc_loopOver_cons (body : σ → Option (Option σ)) (b : σ → σ) (bs : List (σ → σ)) (s : σ) :
    loopOver body (b :: bs) s = Run.fnThen (body (b s)) (some none) (loopOver body bs) := by
  rw [loopOver]; rfl

theorem rc_lift_eq {ρ : Type} (r : Option (Option ρ)) (k : ρ → σ) :
    Nest.lift r k = Run.fnThen r (some none) fun v => some (some (k v)) := by
  unfold Nest.lift Run.fnThen; rfl

end runner

section items
variable {ν : Type}

theorem forcing_setitem (attrs : List (String × ν)) (key : String) (value : ν) :
    setitemSeq attrs key value = some (some (dictSet attrs key value)) := by rfl

theorem forcing_getitem (attrs : List (String × ν)) (key : String) (dflt : ν) :
    getitemSeq attrs key dflt = some (attrs.lookup key) := by
  have hk : ∀ s, Gen.forcing_getitem_seq.all (stmtKnown (itemInterp key dflt) s) = true := fun _ => by rfl
  have hs := itemStep.eq_def key dflt
  unfold itemStep.match_1 at hs
  unfold getitemSeq
  rw [rc_nest_run_eq _ _ _ (hk _), show (itemInterp key dflt).isLoop = fun _ => false from rfl, rc_blocks_plain,
    rc_retVal_eq]
  simp only [Gen.forcing_getitem_seq, List.map, itemInterp, hs, rc_runBlocks_plain, Run.fnThen_some, Run.fnThen_map,
    Run.fnThen_elim, guardEnter, String.reduceEq, ↓reduceDIte, ↓reduceIte]
  cases attrs.lookup key <;> rfl

end items

/-! ## `close`, `open_dataset`, `find_files` -/
section small
variable {α : Type}

/-- **`Forcing.close`** (`Gen.forcing_close_seq`): the open dataset is closed (`AttributeError` on `None`); `_nc` keeps
pointing to it. -/
theorem forcing_close (o : FObj α) :
    closeSeq o = some (o.nc.map (fun f => { o with closed := o.closed ++ [f] })) := by
  have hk : ∀ s : FObj α, Gen.forcing_close_seq.all
    (stmtKnown ⟨fun _ _ => none, clStep, fun _ => false, fun _ _ => []⟩ s) = true := fun _ => by rfl
  have hs := clStep.eq_def (α := α)
  unfold clStep.match_1 at hs
  unfold closeSeq
  rw [rc_nest_run_eq _ _ _ (hk _), rc_blocks_plain]
  simp only [Gen.forcing_close_seq, List.map, hs, rc_runBlocks_plain, rc_runBlocks_nil, Run.fnThen_some, Run.fnThen_map,
    guardEnter, String.reduceEq, ↓reduceDIte, ↓reduceIte]
  cases o.nc <;> rfl

/-- **`Forcing.open_dataset`** (`Gen.forcing_open_dataset_seq`): a `memoryview` is opened in memory, anything else by
name. -/
theorem forcing_open_dataset (isMem : Bool) :
    openDatasetSeq isMem = some (some (if isMem then .memory else .path)) := by
  cases isMem <;> rfl

/-- `find_files` in closed form: a list / tuple is taken as it is (not sorted, not filtered); a pattern is globbed,
sorted, and filtered by `first_file` / `last_file` when these are given (and not empty) -/
def rc_findFilesSpec (glob : String → List String) (c : ForceCfg) : List String :=
  match c.inputFile with
  | .list l => l
  | .pattern p =>
    let f0 := (glob p).mergeSort (fun a b => decide (a ≤ b))
    let f1 := if truthy c.firstFile then f0.filter (fun f => decide (c.firstFile.getD "" ≤ f)) else f0
    if truthy c.lastFile then f1.filter (fun f => decide (f ≤ c.lastFile.getD "")) else f1

/-- **`Forcing.find_files`** (`Gen.forcing_find_files_seq`) -/
theorem forcing_find_files (glob : String → List String) (c : ForceCfg) :
    findFilesSeq glob c = some (some (rc_findFilesSpec glob c)) := by
  have hs := ffStep.eq_def glob c
  have ha := ffAtom.eq_def c
  unfold ffStep.match_3 at hs
  unfold ffAtom.match_3 at ha
  have hk : ∀ s, Gen.forcing_find_files_seq.all (stmtKnown (ffInterp glob c) s) = true := fun s => by
    simp only [Gen.forcing_find_files_seq, ffInterp, hs, ha, stmtKnown, condKnown, Nest.ofAtom, Loops.loopOf,
      List.all_cons, List.all_nil, String.reduceEq, String.reduceBEq, ↓reduceDIte, ↓reduceIte, Option.isSome_some,
      Option.map_some, Bool.false_eq_true, Option.isSome_none]
    rfl
  unfold findFilesSeq rc_findFilesSpec
  rw [rc_nest_run_eq _ _ _ (hk _), show (ffInterp glob c).isLoop = fun _ => false from rfl, rc_blocks_plain,
    rc_retVal_eq]
  simp only [Gen.forcing_find_files_seq, List.map, ffInterp, hs, ha, Nest.ofAtom, rc_runBlocks_plain,
    rc_runBlocks_nil, Run.fnThen_some, Run.fnThen_raise, Run.fnThen_ite, guardEnter, String.reduceEq, ↓reduceDIte,
    ↓reduceIte, Option.map_some, Bool.false_eq_true, beq_true, ite_self]
  obtain ⟨inp, first, last⟩ := c
  cases inp <;> cases truthy first <;> cases truthy last <;> rfl

end small
end Bridge

/-! ## `forcing_steps` -/
namespace Bridge

/-- the bodies of `for t in all_frames` (statements 12, 13 of the sequence) and of `for fname in files` (17 to 20);
the latter, seen from inside that loop, is the body of `for i in range(num_frames[fname])` -/
def rc_stBodyT : List Stmt := (Gen.forcing_steps_seq.drop 11).take 2
def rc_stBodyF : List Stmt := (Gen.forcing_steps_seq.drop 16).take 4
def rc_stBodyI : List Stmt := stripBody stepsIsLoop rc_stBodyF

theorem rc_steps_known (A : StepsArgs) (s : StepsSt) :
    Gen.forcing_steps_seq.all (stmtKnown (stepsInterp A) s) = true := by
  have hs := stepsStep.eq_def A
  have ha := stepsAtom.eq_def A
  have hl := stepsIsLoop.eq_def
  unfold stepsStep.match_1 at hs
  unfold stepsAtom.match_1 at ha
  unfold stepsIsLoop.match_1 at hl
  simp only [Gen.forcing_steps_seq, stepsInterp, hs, ha, hl, stmtKnown, condKnown, Nest.ofAtom, Loops.loopOf,
    List.all_cons, List.all_nil, String.reduceEq, String.reduceBEq, ↓reduceDIte, ↓reduceIte, Option.isSome_some,
    Option.map_some, Bool.false_eq_true, Option.isSome_none]
  rfl

section runner
variable {σ : Type}

theorem rc_loopOver_fold {ι : Type} (body : σ → Option (Option σ)) (bind : ι → σ → σ) (f : σ → ι → σ)
    (h : ∀ s x, body (bind x s) = some (some (f s x))) :
    ∀ (l : List ι) (s : σ), loopOver body (l.map bind) s = some (some (l.foldl f s))
  | [], s => rfl
  | x :: l, s => by
    simp only [List.map_cons, loopOver, h, List.foldl_cons]
    exact rc_loopOver_fold body bind f h l (f s x)

theorem rc_loopOver_fold_inv {ι : Type} (body : σ → Option (Option σ)) (bind : ι → σ → σ) (f : σ → ι → σ)
    (Inv : Nat → σ → Prop) (l : List ι)
    (h : ∀ k s x, l[k]? = some x → Inv k s → body (bind x s) = some (some (f s x)) ∧ Inv (k + 1) (f s x)) :
    ∀ (suf : List ι) (k : Nat) (s : σ), k ≤ l.length → l.drop k = suf → Inv k s →
      loopOver body (suf.map bind) s = some (some (suf.foldl f s)) ∧ Inv l.length (suf.foldl f s)
  | [], k, s, hk, hd, hi => by
    have : l.length ≤ k := List.drop_eq_nil_iff.mp hd
    have hkl : k = l.length := by omega
    subst hkl
    exact ⟨rfl, hi⟩
  | x :: suf, k, s, hk, hd, hi => by
    have hx : l[k]? = some x := by
      have := List.getElem?_drop (xs := l) (i := k) (j := 0)
      rw [hd] at this
      simpa using this.symm
    have hlt : k < l.length := by
      rcases Nat.lt_or_ge k l.length with h' | h'
      · exact h'
      · rw [List.getElem?_eq_none h'] at hx; cases hx
    have hd' : l.drop (k + 1) = suf := by
      rw [← List.drop_drop, hd]; rfl
    obtain ⟨h1, h2⟩ := h k s x hx hi
    obtain ⟨h3, h4⟩ := rc_loopOver_fold_inv body bind f Inv l h suf (k + 1) (f s x) hlt hd' h2
    refine ⟨?_, h4⟩
    simp only [List.map_cons, loopOver, h1, List.foldl_cons]
    exact h3

end runner

/-- one trip of `for t in all_frames` -/
def rc_stTripT (A : StepsArgs) (s : StepsSt) (t : Int) : StepsSt :=
  { s with t := t, dtime := t - A.start, steps := s.steps ++ [Roms.forcingStep (t - A.start) A.dt] }

theorem rc_st_tripT (A : StepsArgs) (s : StepsSt) (t : Int) :
    runDepth (stepsInterp A) 2 (stripBody (stepsInterp A).isLoop rc_stBodyT) { s with t := t } =
      if A.dt = 0 then some none else some (some (rc_stTripT A s t)) := by
  have hs := stepsStep.eq_def A
  have hl := stepsIsLoop.eq_def
  unfold stepsStep.match_1 at hs
  unfold stepsIsLoop.match_1 at hl
  simp only [rc_stBodyT, Gen.forcing_steps_seq, List.drop, List.take, stepsInterp, hs, hl, rc_runDepth_succ, stripBody,
    stripLoop, List.map, Loops.blocks, Loops.loopOf, rc_runBlocks_plain, rc_runBlocks_nil, Run.fnThen_some,
    guardEnter, String.reduceEq, ↓reduceDIte, ↓reduceIte]
  by_cases h : A.dt = 0
  · simp only [h, ↓reduceIte, Run.fnThen_raise]
  · simp only [h, ↓reduceIte, Run.fnThen_some]
    rfl

theorem rc_st_foldT (A : StepsArgs) : ∀ (l : List Int) (s : StepsSt),
    (l.foldl (rc_stTripT A) s).steps = s.steps ++ l.map (fun t => Roms.forcingStep (t - A.start) A.dt) ∧
    (l.foldl (rc_stTripT A) s).time0 = s.time0 ∧ (l.foldl (rc_stTripT A) s).time1 = s.time1
  | [], s => by simp
  | t :: l, s => by
    obtain ⟨h1, h2, h3⟩ := rc_st_foldT A l (rc_stTripT A s t)
    simp only [List.foldl_cons, h1, h2, h3, List.map_cons]
    simp [rc_stTripT]

/-- one trip of the inner loop, for the frame `lbl = (fname, i)` -/
def rc_stTripI (s : StepsSt) (lbl : String × Nat) : StepsSt :=
  { s with fname := lbl.1, i := lbl.2, stepCounter := s.stepCounter + 1,
           step := (pyGet s.steps (s.stepCounter + 1)).getD 0,
           fileIdx := dictSet s.fileIdx ((pyGet s.steps (s.stepCounter + 1)).getD 0) lbl.1,
           frameIdx := dictSet s.frameIdx ((pyGet s.steps (s.stepCounter + 1)).getD 0) lbl.2 }

theorem rc_st_tripI (A : StepsArgs) (s : StepsSt) (i : Nat) (st : Int)
    (h : pyGet s.steps (s.stepCounter + 1) = some st) :
    runDepth (stepsInterp A) 1 (stripBody (stepsInterp A).isLoop rc_stBodyI) { s with i := i } =
      some (some (rc_stTripI s (s.fname, i))) := by
  have hs := stepsStep.eq_def A
  have hl := stepsIsLoop.eq_def
  unfold stepsStep.match_1 at hs
  unfold stepsIsLoop.match_1 at hl
  simp only [rc_stBodyI, rc_stBodyF, Gen.forcing_steps_seq, List.drop, List.take, stepsInterp, hs, hl, rc_runDepth_succ,
    stripBody, stripLoop, List.map, Loops.blocks, Loops.loopOf, rc_runBlocks_plain, rc_runBlocks_nil, Run.fnThen_some,
    guardEnter, String.reduceEq, ↓reduceDIte, ↓reduceIte, h, Option.map_some]
  simp only [rc_stTripI, h, Option.getD_some]

theorem rc_pyGet_nat {β : Type} (l : List β) (m : Nat) : pyGet l (m : Int) = l[m]? := by
  unfold pyGet
  simp

/-- the inner loop `for i in range(n)` for the file `f`, when `m0` frames have been entered so far and `n` more
steps exist -/
theorem rc_st_loopI (A : StepsArgs) (f : String) (n m0 : Nat) (s : StepsSt) (hf : s.fname = f)
    (hc : s.stepCounter = (m0 : Int) - 1) (hlen : m0 + n ≤ s.steps.length) :
    loopOver (runDepth (stepsInterp A) 1 (stripBody (stepsInterp A).isLoop rc_stBodyI))
        ((List.range n).map (fun i s => { s with i := i })) s =
      some (some (((List.range n).map (fun i => (f, i))).foldl rc_stTripI s)) ∧
    (((List.range n).map (fun i => (f, i))).foldl rc_stTripI s).steps = s.steps ∧
    (((List.range n).map (fun i => (f, i))).foldl rc_stTripI s).stepCounter = ((m0 + n : Nat) : Int) - 1 := by
  have key := rc_loopOver_fold_inv
    (runDepth (stepsInterp A) 1 (stripBody (stepsInterp A).isLoop rc_stBodyI))
    (fun (i : Nat) (s : StepsSt) => { s with i := i }) (fun s i => rc_stTripI s (f, i))
    (fun k s' => s'.steps = s.steps ∧ s'.fname = f ∧ s'.stepCounter = ((m0 + k : Nat) : Int) - 1)
    (List.range n)
    (by
      intro k s' x hx ⟨h1, h2, h3⟩
      have hk : k < n ∧ x = k := by
        have := List.getElem?_eq_some_iff.mp hx
        obtain ⟨hlt, he⟩ := this
        simp at hlt he
        exact ⟨hlt, he.symm⟩
      have hget : pyGet s'.steps (s'.stepCounter + 1) = some (s.steps[m0 + k]'(by omega)) := by
        rw [h1, h3, show ((m0 + k : Nat) : Int) - 1 + 1 = ((m0 + k : Nat) : Int) by omega, rc_pyGet_nat]
        exact List.getElem?_eq_getElem (by omega)
      have := rc_st_tripI A s' x _ hget
      have e : rc_stTripI s' (s'.fname, x) = rc_stTripI s' (f, x) := by rw [h2]
      rw [e] at this
      refine ⟨this, ?_, ?_, ?_⟩
      · exact h1
      · rfl
      · show s'.stepCounter + 1 = _
        rw [h3]; push_cast; omega)
    (List.range n) 0 s (Nat.zero_le _) rfl ⟨rfl, hf, by simpa using hc⟩
  rw [List.foldl_map]
  refine ⟨key.1, key.2.1, ?_⟩
  have := key.2.2.2
  simpa using this

/-- one trip of `for fname in files` -/
def rc_stTripF (A : StepsArgs) (s : StepsSt) (f : String) : StepsSt :=
  ((List.range (A.numFrames f)).map (fun i => (f, i))).foldl rc_stTripI { s with fname := f }

theorem rc_st_tripF (A : StepsArgs) (f : String) (m0 : Nat) (s : StepsSt)
    (hc : s.stepCounter = (m0 : Int) - 1) (hlen : m0 + A.numFrames f ≤ s.steps.length) :
    runDepth (stepsInterp A) 2 (stripBody (stepsInterp A).isLoop rc_stBodyF) { s with fname := f } =
      some (some (rc_stTripF A s f)) ∧
    (rc_stTripF A s f).steps = s.steps ∧ (rc_stTripF A s f).stepCounter = ((m0 + A.numFrames f : Nat) : Int) - 1 := by
  obtain ⟨h1, h2, h3⟩ := rc_st_loopI A f (A.numFrames f) m0 { s with fname := f } rfl hc hlen
  refine ⟨?_, h2, h3⟩
  have hl := stepsIsLoop.eq_def
  have hi := stepsIter.eq_def A
  unfold stepsIsLoop.match_1 at hl hi
  simp only [rc_stBodyI, rc_stBodyF, Gen.forcing_steps_seq, List.drop, List.take, stepsInterp, hl, hi, rc_runDepth_succ,
    stripBody, stripLoop, List.map, Loops.blocks, Loops.loopOf, Loops.outerGuard, List.takeWhile_cons, Bool.not_true,
    Bool.false_eq_true, rc_runBlocks_loop, rc_runBlocks_nil, Run.fnThen_some, guardEnter, String.reduceEq, ↓reduceDIte,
    ↓reduceIte] at h1 ⊢
  simp only [h1, Run.fnThen_some]
  rfl

/-- number of frames of a list of files -/
def rc_stCount (A : StepsArgs) (l : List String) : Nat := (l.map A.numFrames).sum

theorem rc_stCount_take_succ (A : StepsArgs) (l : List String) (j : Nat) (x : String) (h : l[j]? = some x) :
    rc_stCount A (l.take (j + 1)) = rc_stCount A (l.take j) + A.numFrames x := by
  unfold rc_stCount
  rw [List.take_add_one, h]
  simp

theorem rc_stCount_take_le (A : StepsArgs) (l : List String) (j : Nat) : rc_stCount A (l.take j) ≤ rc_stCount A l := by
  unfold rc_stCount
  conv => rhs; rw [← List.take_append_drop j l]
  rw [List.map_append, List.sum_append]
  omega

/-- the loop `for fname in files` -/
theorem rc_st_loopF (A : StepsArgs) (s : StepsSt) (hc : s.stepCounter = -1)
    (hlen : rc_stCount A A.files ≤ s.steps.length) :
    loopOver (runDepth (stepsInterp A) 2 (stripBody (stepsInterp A).isLoop rc_stBodyF))
        (A.files.map (fun f s => { s with fname := f })) s =
      some (some (A.files.foldl (rc_stTripF A) s)) := by
  have key := rc_loopOver_fold_inv
    (runDepth (stepsInterp A) 2 (stripBody (stepsInterp A).isLoop rc_stBodyF))
    (fun (f : String) (s : StepsSt) => { s with fname := f }) (rc_stTripF A)
    (fun j s' => s'.steps = s.steps ∧ s'.stepCounter = ((rc_stCount A (A.files.take j) : Nat) : Int) - 1)
    A.files
    (by
      intro j s' x hx ⟨h1, h2⟩
      have hle : rc_stCount A (A.files.take j) + A.numFrames x ≤ s'.steps.length := by
        rw [← rc_stCount_take_succ A _ j x hx, h1]
        exact Nat.le_trans (rc_stCount_take_le A _ _) hlen
      obtain ⟨k1, k2, k3⟩ := rc_st_tripF A x (rc_stCount A (A.files.take j)) s' h2 hle
      refine ⟨k1, k2.trans h1, ?_⟩
      rw [k3, rc_stCount_take_succ A _ j x hx])
    A.files 0 s (Nat.zero_le _) rfl ⟨rfl, by simp [rc_stCount, hc]⟩
  exact key.1

/-- the frames of the files in order: (file name, index of the frame in its file) -/
def rc_frameLabels (files : List String) (numFrames : String → Nat) : List (String × Nat) :=
  files.flatMap (fun f => (List.range (numFrames f)).map (fun i => (f, i)))

theorem rc_frameLabels_length (files : List String) (nf : String → Nat) :
    (rc_frameLabels files nf).length = (files.map nf).sum := by
  induction files with
  | nil => rfl
  | cons f fs ih => simp [rc_frameLabels, List.flatMap_cons] at ih ⊢

/-- what the table loops change: `steps`, `step_counter`, `file_idx`, `frame_idx` -/
abbrev rc_StCore := List Int × Int × List (Int × String) × List (Int × Nat)
def rc_stCore (s : StepsSt) : rc_StCore := (s.steps, s.stepCounter, s.fileIdx, s.frameIdx)
def rc_stCoreStep (c : rc_StCore) (lbl : String × Nat) : rc_StCore :=
  (c.1, c.2.1 + 1, dictSet c.2.2.1 ((pyGet c.1 (c.2.1 + 1)).getD 0) lbl.1,
    dictSet c.2.2.2 ((pyGet c.1 (c.2.1 + 1)).getD 0) lbl.2)

theorem rc_stCore_foldI : ∀ (l : List (String × Nat)) (s : StepsSt),
    rc_stCore (l.foldl rc_stTripI s) = l.foldl rc_stCoreStep (rc_stCore s)
  | [], _ => rfl
  | lbl :: l, s => by
    simp only [List.foldl_cons]
    rw [rc_stCore_foldI l (rc_stTripI s lbl)]
    rfl

theorem rc_stCore_foldF (A : StepsArgs) : ∀ (files : List String) (s : StepsSt),
    rc_stCore (files.foldl (rc_stTripF A) s) = (rc_frameLabels files A.numFrames).foldl rc_stCoreStep (rc_stCore s)
  | [], _ => rfl
  | f :: fs, s => by
    simp only [List.foldl_cons, rc_frameLabels, List.flatMap_cons, List.foldl_append]
    rw [rc_stCore_foldF A fs (rc_stTripF A s f)]
    unfold rc_stTripF
    rw [rc_stCore_foldI]
    rfl

/-- the two dicts after the frames `labels` have been entered, `m` frames having been entered before -/
theorem rc_stCore_fold_zip (S : List Int) : ∀ (labels : List (String × Nat)) (m : Nat) (d1 : List (Int × String))
    (d2 : List (Int × Nat)), m + labels.length ≤ S.length →
    labels.foldl rc_stCoreStep (S, (m : Int) - 1, d1, d2) =
      (S, ((m + labels.length : Nat) : Int) - 1,
        ((S.drop m).zip labels).foldl (fun d p => dictSet d p.1 p.2.1) d1,
        ((S.drop m).zip labels).foldl (fun d p => dictSet d p.1 p.2.2) d2)
  | [], m, d1, d2, _ => by simp
  | lbl :: labels, m, d1, d2, h => by
    have hm : m < S.length := by simp at h; omega
    have hget : pyGet S ((m : Int) - 1 + 1) = some S[m] := by
      rw [show (m : Int) - 1 + 1 = (m : Int) by omega, rc_pyGet_nat]
      exact List.getElem?_eq_getElem hm
    have ih := rc_stCore_fold_zip S labels (m + 1) (dictSet d1 S[m] lbl.1) (dictSet d2 S[m] lbl.2)
      (by simp at h ⊢; omega)
    simp only [List.foldl_cons]
    have e : rc_stCoreStep (S, (m : Int) - 1, d1, d2) lbl =
        (S, ((m + 1 : Nat) : Int) - 1, dictSet d1 S[m] lbl.1, dictSet d2 S[m] lbl.2) := by
      simp only [rc_stCoreStep, hget, Option.getD_some]
      congr 2
      push_cast; omega
    rw [e, ih, List.drop_eq_getElem_cons hm]
    simp only [List.zip_cons_cons, List.foldl_cons, List.length_cons]
    congr 2
    push_cast; omega

/-- the table: steps of all frames; the dicts in insertion order -/
def rc_stepsTable (A : StepsArgs) : StepTable :=
  (A.allFrames.map (fun t => Roms.forcingStep (t - A.start) A.dt),
    dictOf (((A.allFrames.map (fun t => Roms.forcingStep (t - A.start) A.dt)).zip
      (rc_frameLabels A.files A.numFrames)).map (fun p => (p.1, p.2.1))),
    dictOf (((A.allFrames.map (fun t => Roms.forcingStep (t - A.start) A.dt)).zip
      (rc_frameLabels A.files A.numFrames)).map (fun p => (p.1, p.2.2))))

/-- `forcing_steps` in closed form.  `some none`: the code raises (`IndexError` without frames, `SystemExit(3)` when
the frames do not cover the simulation period, `dt = 0`). -/
def rc_stepsSpec (A : StepsArgs) : Option (Option StepTable) :=
  match A.allFrames.head?, A.allFrames.getLast? with
  | some t0, some t1 =>
    if A.start < t0 then some none
    else if t1 < A.stop then some none
    else if A.dt = 0 then some none
    else some (some (rc_stepsTable A))
  | _, _ => some none

/-- the loop `for t in all_frames`, over any list of frame times: the first trip raises when `dt = 0` -/
theorem rc_st_loopT (A : StepsArgs) (l : List Int) (s : StepsSt) :
    loopOver (runDepth (stepsInterp A) 2 (stripBody (stepsInterp A).isLoop rc_stBodyT))
        (l.map (fun t s => { s with t := t })) s =
      if A.dt = 0 ∧ l ≠ [] then some none else some (some (l.foldl (rc_stTripT A) s)) := by
  by_cases hdt : A.dt = 0
  · cases l with
    | nil => simp only [ne_eq, not_true_eq_false, and_false, ↓reduceIte]; rfl
    | cons t l =>
      rw [List.map_cons, rc_loopOver_cons, rc_st_tripT, if_pos hdt, Run.fnThen_raise, if_pos ⟨hdt, List.cons_ne_nil t l⟩]
  · rw [if_neg (fun h => hdt h.1)]
    exact rc_loopOver_fold _ _ _ (fun s t => by rw [rc_st_tripT, if_neg hdt]) l s

/-- what the two loops leave, started with an empty `steps` and empty dicts: the table -/
theorem rc_steps_table (A : StepsArgs) (hlen : (rc_frameLabels A.files A.numFrames).length ≤ A.allFrames.length)
    (s : StepsSt) (hs : s.steps = []) :
    ((A.files.foldl (rc_stTripF A)
        { A.allFrames.foldl (rc_stTripT A) s with fileIdx := [], frameIdx := [], stepCounter := -1 }).steps,
      (A.files.foldl (rc_stTripF A)
        { A.allFrames.foldl (rc_stTripT A) s with fileIdx := [], frameIdx := [], stepCounter := -1 }).fileIdx,
      (A.files.foldl (rc_stTripF A)
        { A.allFrames.foldl (rc_stTripT A) s with fileIdx := [], frameIdx := [], stepCounter := -1 }).frameIdx) =
      rc_stepsTable A := by
  obtain ⟨f1, _, _⟩ := rc_st_foldT A A.allFrames s
  rw [hs, List.nil_append] at f1
  have hcore := rc_stCore_foldF A A.files
    { A.allFrames.foldl (rc_stTripT A) s with fileIdx := [], frameIdx := [], stepCounter := -1 }
  have hz := rc_stCore_fold_zip (A.allFrames.map (fun t => Roms.forcingStep (t - A.start) A.dt))
    (rc_frameLabels A.files A.numFrames) 0 [] [] (by simpa using hlen)
  have e0 : rc_stCore { A.allFrames.foldl (rc_stTripT A) s with fileIdx := [], frameIdx := [], stepCounter := -1 } =
      (A.allFrames.map (fun t => Roms.forcingStep (t - A.start) A.dt), ((0 : Nat) : Int) - 1, [], []) := by
    simp [rc_stCore, f1]
  rw [e0, hz] at hcore
  simp only [rc_stCore, Prod.mk.injEq] at hcore
  obtain ⟨e1, _, e3, e4⟩ := hcore
  rw [e1, e3, e4]
  simp [rc_stepsTable, dictOf, List.foldl_map]

/-- **`Forcing.forcing_steps`** (`Gen.forcing_steps_seq`) -/
theorem forcing_steps (A : StepsArgs)
    (hlen : (rc_frameLabels A.files A.numFrames).length ≤ A.allFrames.length) :
    stepsSeq A = rc_stepsSpec A := by
  have hs := stepsStep.eq_def A
  have ha := stepsAtom.eq_def A
  have hl := stepsIsLoop.eq_def
  have hi := stepsIter.eq_def A
  unfold stepsStep.match_1 at hs
  unfold stepsAtom.match_1 at ha
  unfold stepsIsLoop.match_1 at hl hi
  have hT := rc_st_loopT A A.allFrames
  have hF := rc_st_loopF A
  have hst : ∀ s, rc_stCount A A.files ≤ (A.allFrames.foldl (rc_stTripT A) s).steps.length := fun s => by
    rw [(rc_st_foldT A A.allFrames s).1, List.length_append, List.length_map, rc_stCount, ← rc_frameLabels_length]
    omega
  simp only [rc_stBodyT, rc_stBodyF, Gen.forcing_steps_seq, List.drop, List.take, stepsInterp] at hT hF
  unfold stepsSeq rc_stepsSpec
  rw [rc_nest_run_eq _ _ _ (rc_steps_known A _), rc_retVal_eq]
  simp only [Gen.forcing_steps_seq, stepsInterp, hs, ha, hl, hi, hT, hF, hst, Nest.ofAtom, Loops.blocks, Loops.loopOf,
    Loops.outerGuard, List.takeWhile_cons, List.takeWhile_nil, Bool.not_true, Bool.false_eq_true, rc_runBlocks_plain,
    rc_runBlocks_loop, rc_runBlocks_nil, Run.fnThen_some, Run.fnThen_raise, Run.fnThen_ite, Run.fnThen_map, Run.fnThen_elim,
    guardEnter, String.reduceEq, ↓reduceDIte, ↓reduceIte, Option.map_some, beq_true, decide_eq_true_eq, ite_self,
    rc_steps_table A hlen]
  cases hh : A.allFrames.head? with
  | none => rfl
  | some t0 =>
    cases A.allFrames.getLast? with
    | none => rfl
    | some t1 =>
      have hne : A.allFrames ≠ [] := fun h => by rw [h] at hh; cases hh
      simp only [Option.elim_some, hne, ne_eq, not_false_eq_true, and_true]

end Bridge

namespace Bridge


/-! ## dicts -/
section dicts
variable {κ ν : Type} [BEq κ] [LawfulBEq κ]

theorem rc_lookup_map_other (d : List (κ × ν)) (k k' : κ) (v : ν) (hk : (k == k') = false) :
    (d.map (fun e => if e.1 == k' then (k', v) else e)).lookup k = d.lookup k := by
  induction d with
  | nil => rfl
  | cons e d ih =>
    obtain ⟨a, b⟩ := e
    by_cases ha : a == k'
    · have : a = k' := eq_of_beq ha
      subst this
      simp only [List.map_cons, ha, if_true, List.lookup_cons, hk]
      exact ih
    · simp only [List.map_cons, ha, Bool.false_eq_true, if_false, List.lookup_cons]
      rw [ih]

theorem rc_lookup_map_self (d : List (κ × ν)) (k' : κ) (v : ν) (hany : d.any (fun e => e.1 == k') = true) :
    (d.map (fun e => if e.1 == k' then (k', v) else e)).lookup k' = some v := by
  induction d with
  | nil => simp at hany
  | cons e d ih =>
    obtain ⟨a, b⟩ := e
    by_cases ha : a == k'
    · simp only [List.map_cons, ha, if_true, List.lookup_cons_self]
    · have hka : (k' == a) = false := by
        rw [Bool.eq_false_iff]; intro h; exact ha (by rw [eq_of_beq h]; exact BEq.rfl)
      have hany' : d.any (fun e => e.1 == k') = true := by
        simpa [List.any_cons, ha] using hany
      simp only [List.map_cons, ha, Bool.false_eq_true, if_false, List.lookup_cons, hka]
      exact ih hany'

theorem rc_lookup_dictSet (d : List (κ × ν)) (k k' : κ) (v : ν) :
    (dictSet d k' v).lookup k = if k == k' then some v else d.lookup k := by
  unfold dictSet
  by_cases hany : d.any (fun e => e.1 == k') = true
  · rw [if_pos hany]
    by_cases hk : k == k'
    · have hk' : k = k' := eq_of_beq hk
      subst hk'
      rw [rc_lookup_map_self d k v hany, if_pos hk]
    · have hk2 : (k == k') = false := by rw [Bool.eq_false_iff]; exact hk
      rw [rc_lookup_map_other d k k' v hk2, if_neg hk]
  · rw [if_neg hany, List.lookup_append]
    by_cases hk : k == k'
    · have hk' : k = k' := eq_of_beq hk
      subst hk'
      have hn : d.lookup k = none := by
        rw [List.lookup_eq_none_iff]
        intro p hp
        have := (List.any_eq_false.mp (Bool.eq_false_iff.mpr hany)) p hp
        simp only [bne_iff_ne, ne_eq]
        intro h
        exact this (by rw [h]; exact BEq.rfl)
      simp [hn, List.lookup_cons]
    · have hk2 : (k == k') = false := by rw [Bool.eq_false_iff]; exact hk
      simp [List.lookup_cons, hk2]

/-- a dict built by successive assignments answers with the *last* value assigned to the key -/
theorem rc_lookup_foldl_dictSet (l : List (κ × ν)) (k : κ) : ∀ (acc : List (κ × ν)),
    (l.foldl (fun d e => dictSet d e.1 e.2) acc).lookup k = (l.reverse.lookup k).or (acc.lookup k) := by
  induction l with
  | nil => intro acc; simp
  | cons e l ih =>
    intro acc
    simp only [List.foldl_cons, List.reverse_cons, List.lookup_append]
    rw [ih, rc_lookup_dictSet]
    obtain ⟨a, b⟩ := e
    cases l.reverse.lookup k with
    | some v => simp
    | none =>
      by_cases hk : k == a <;> simp [List.lookup_cons, hk]

theorem rc_lookup_dictOf (l : List (κ × ν)) (k : κ) : (dictOf l).lookup k = l.reverse.lookup k := by
  unfold dictOf
  rw [rc_lookup_foldl_dictSet]
  simp

theorem rc_lookup_reverse_split (pre post : List (κ × ν)) (a : κ) (b : ν) (h : ∀ p ∈ post, p.1 ≠ a) :
    (pre ++ (a, b) :: post).reverse.lookup a = some b := by
  have hpost : post.reverse.lookup a = none := by
    rw [List.lookup_eq_none_iff]
    intro p hp
    rw [List.mem_reverse] at hp
    simp only [bne_iff_ne, ne_eq]
    exact fun e => h p hp e.symm
  rw [List.reverse_append, List.reverse_cons, List.append_assoc, List.lookup_append, hpost]
  simp [List.lookup_cons]

/-- entry `i` of the assignments is the one that counts when no later assignment has the same key -/
theorem rc_lookup_reverse_of_last (l : List (κ × ν)) (i : Nat) (hi : i < l.length)
    (h : ∀ j (hj : j < l.length), i < j → l[j].1 ≠ l[i].1) : l.reverse.lookup l[i].1 = some l[i].2 := by
  have hsplit : l = l.take i ++ (l[i].1, l[i].2) :: l.drop (i + 1) := by
    rw [show (l[i].1, l[i].2) = l[i] from rfl, List.getElem_cons_drop hi, List.take_append_drop]
  have := rc_lookup_reverse_split (l.take i) (l.drop (i + 1)) l[i].1 l[i].2 (by
    intro p hp
    obtain ⟨j, hj, hpj⟩ := List.getElem_of_mem hp
    rw [List.getElem_drop] at hpj
    have := h (i + 1 + j) (by simp at hj; omega) (by omega)
    rw [hpj] at this
    exact this)
  rw [← hsplit] at this
  exact this

end dicts
end Bridge

namespace Bridge

/-! ## the step table -/

/-- the forcing steps: `int((t − start) / dt)` for every frame time -/
def rc_tableSteps (A : StepsArgs) : List Int := A.allFrames.map (fun t => Roms.forcingStep (t - A.start) A.dt)

theorem rc_stepsTable_steps (A : StepsArgs) : (rc_stepsTable A).1 = rc_tableSteps A := rfl

/-- `file_idx[n]`: the file of the *last* frame whose (truncated) step is `n` -/
theorem rc_stepsTable_fileIdx (A : StepsArgs) (n : Int) :
    (rc_stepsTable A).2.1.lookup n =
      (((rc_tableSteps A).zip (rc_frameLabels A.files A.numFrames)).map (fun p => (p.1, p.2.1))).reverse.lookup n :=
  rc_lookup_dictOf _ _

/-- `frame_idx[n]`: the index in its file of the *last* frame whose (truncated) step is `n` -/
theorem rc_stepsTable_frameIdx (A : StepsArgs) (n : Int) :
    (rc_stepsTable A).2.2.lookup n =
      (((rc_tableSteps A).zip (rc_frameLabels A.files A.numFrames)).map (fun p => (p.1, p.2.2))).reverse.lookup n :=
  rc_lookup_dictOf _ _

/-- frame number `k` (in file order) is found under its step — file name and position in the file — provided no
later frame is mapped to the same step -/
theorem rc_stepsTable_lookup (A : StepsArgs) (k : Nat) (hk : k < (rc_frameLabels A.files A.numFrames).length)
    (hk' : k < (rc_tableSteps A).length)
    (hlast : ∀ j (hj : j < (rc_tableSteps A).length), k < j → (rc_tableSteps A)[j] ≠ (rc_tableSteps A)[k]) :
    (rc_stepsTable A).2.1.lookup (rc_tableSteps A)[k] = some (rc_frameLabels A.files A.numFrames)[k].1 ∧
    (rc_stepsTable A).2.2.lookup (rc_tableSteps A)[k] = some (rc_frameLabels A.files A.numFrames)[k].2 := by
  have hz : k < ((rc_tableSteps A).zip (rc_frameLabels A.files A.numFrames)).length := by
    simp only [List.length_zip]; omega
  constructor
  · rw [rc_stepsTable_fileIdx]
    have := rc_lookup_reverse_of_last
      (((rc_tableSteps A).zip (rc_frameLabels A.files A.numFrames)).map (fun p => (p.1, p.2.1))) k
      (by simpa using hz) (by
        intro j hj hkj
        simp only [List.length_map, List.length_zip] at hj
        simp only [List.getElem_map, List.getElem_zip]
        exact hlast j (by omega) hkj)
    simpa using this
  · rw [rc_stepsTable_frameIdx]
    have := rc_lookup_reverse_of_last
      (((rc_tableSteps A).zip (rc_frameLabels A.files A.numFrames)).map (fun p => (p.1, p.2.2))) k
      (by simpa using hz) (by
        intro j hj hkj
        simp only [List.length_map, List.length_zip] at hj
        simp only [List.getElem_map, List.getElem_zip]
        exact hlast j (by omega) hkj)
    simpa using this

/-- frame offsets that are multiples of `dt`: the step is the exact quotient -/
theorem rc_tableSteps_aligned (A : StepsArgs) (k : Nat) (hk : k < A.allFrames.length)
    (hal : A.dt ∣ A.allFrames[k] - A.start) :
    (rc_tableSteps A)[k]'(by simpa [rc_tableSteps] using hk) * A.dt = A.allFrames[k] - A.start := by
  simp only [rc_tableSteps, List.getElem_map]
  exact C06.steps_aligned _ _ hal

/-- in general the quotient is truncated toward zero (the model's `Roms.forcingStep`) -/
theorem rc_tableSteps_getElem (A : StepsArgs) (k : Nat) (hk : k < A.allFrames.length) :
    (rc_tableSteps A)[k]'(by simpa [rc_tableSteps] using hk) = (A.allFrames[k] - A.start).tdiv A.dt := by
  simp [rc_tableSteps, Roms.forcingStep]

/-- strictly increasing frame times whose offsets are multiples of `dt > 0` give strictly increasing steps: the step
list is one the C06 theorems apply to -/
theorem rc_tableSteps_sorted (A : StepsArgs) (hdt : 0 < A.dt) (hs : List.Pairwise (· < ·) A.allFrames)
    (hal : ∀ t ∈ A.allFrames, A.dt ∣ t - A.start) : C06.Sorted (rc_tableSteps A) := by
  unfold C06.Sorted rc_tableSteps
  rw [List.pairwise_map]
  refine List.Pairwise.imp_of_mem ?_ hs
  intro a b ha hb hab
  obtain ⟨ka, hka⟩ := hal a ha
  obtain ⟨kb, hkb⟩ := hal b hb
  have hne : A.dt ≠ 0 := by omega
  simp only [Roms.forcingStep, hka, hkb, Int.mul_tdiv_cancel_left _ hne]
  have : A.dt * ka < A.dt * kb := by omega
  exact Int.lt_of_mul_lt_mul_left this (by omega)

/-- without the alignment the steps are still non-decreasing (`dt > 0`), but two frames can share a step -/
theorem rc_tableSteps_mono (A : StepsArgs) (hdt : 0 < A.dt) (hs : List.Pairwise (· < ·) A.allFrames) :
    List.Pairwise (· ≤ ·) (rc_tableSteps A) := by
  unfold rc_tableSteps
  rw [List.pairwise_map]
  refine List.Pairwise.imp ?_ hs
  intro a b hab
  exact Int.tdiv_le_tdiv hdt (by omega)

/-- known finding F-C06e on the interpreted code: one file with frames at 0 s, 300 s, 600 s, `dt = 600 s`, start at
0 s.  The frame at 300 s is truncated to step 0: `steps = [0, 0, 1]` is not strictly increasing, and in `frame_idx`
the frame at 300 s has *replaced* the frame at the start time (`frame_idx[0] = 1`). -/
theorem forcing_steps_unaligned :
    stepsSeq ⟨["a.nc"], [0, 300, 600], fun _ => 3, 0, 600, 600⟩ =
      some (some ([0, 0, 1], [(0, "a.nc"), (1, "a.nc")], [(0, 1), (1, 2)])) := by
  rw [forcing_steps _ (by decide)]
  rfl

end Bridge

namespace Bridge

/-! ## `scan_file_times` -/
section scan
variable {α : Type}

/-- the body of `for fname in files` (statements 3 to 7 of the sequence) -/
def rc_scBody : List Stmt := (Gen.forcing_scan_file_times_seq.drop 2).take 5

theorem rc_scan_known (fs : String → NcFile α) (files : List String) (s : ScanSt) :
    Gen.forcing_scan_file_times_seq.all (stmtKnown (scanInterp fs files) s) = true := by
  have hs := scanStep.eq_def fs
  have hc := scanCond.eq_def
  have hl := scanIsLoop.eq_def
  unfold scanStep.match_1 at hs
  unfold scanCond.match_1 at hc
  unfold scanIsLoop.match_1 at hl
  simp only [Gen.forcing_scan_file_times_seq, scanInterp, hs, hc, hl, stmtKnown, condKnown, Loops.loopOf,
    List.all_cons, List.all_nil, String.reduceEq, String.reduceBEq, ↓reduceDIte, ↓reduceIte, Option.isSome_some,
    Option.map_some, Bool.false_eq_true, Option.isSome_none]
  cases s.nc <;> rfl

/-- one trip of `for fname in files` -/
def rc_scTrip (fs : String → NcFile α) (s : ScanSt) (f : String) : ScanSt :=
  { s with fname := f, nc := some f, newTimes := (fs f).times, newFrames := (fs f).times,
           numFrames := dictSet s.numFrames f (fs f).times.length, allFrames := s.allFrames ++ (fs f).times }

theorem rc_sc_trip (fs : String → NcFile α) (files : List String) (s : ScanSt) (f : String) :
    runDepth (scanInterp fs files) 2 (stripBody (scanInterp fs files).isLoop rc_scBody) { s with fname := f } =
      some (some (rc_scTrip fs s f)) := by
  have hs := scanStep.eq_def fs
  have hc := scanCond.eq_def
  have hl := scanIsLoop.eq_def
  unfold scanStep.match_1 at hs
  unfold scanCond.match_1 at hc
  unfold scanIsLoop.match_1 at hl
  simp only [rc_scBody, Gen.forcing_scan_file_times_seq, List.drop, List.take, scanInterp, hs, hc, hl,
    rc_runDepth_succ, stripBody, stripLoop, List.map, Loops.blocks, Loops.loopOf, rc_runBlocks_plain,
    rc_runBlocks_nil, Run.fnThen_some, guardEnter, String.reduceEq, ↓reduceDIte, ↓reduceIte, Option.map_some,
    Bool.false_eq_true, beq_self_eq_true]
  rfl

theorem rc_sc_fold (fs : String → NcFile α) : ∀ (files : List String) (s : ScanSt),
    (files.foldl (rc_scTrip fs) s).allFrames = s.allFrames ++ files.flatMap (fun f => (fs f).times) ∧
    (files.foldl (rc_scTrip fs) s).numFrames =
      (files.map (fun f => (f, (fs f).times.length))).foldl (fun d e => dictSet d e.1 e.2) s.numFrames
  | [], s => by simp
  | f :: files, s => by
    obtain ⟨h1, h2⟩ := rc_sc_fold fs files (rc_scTrip fs s f)
    simp only [List.foldl_cons, h1, h2, List.flatMap_cons, List.map_cons]
    simp [rc_scTrip]

/-- `scan_file_times` in closed form: the frame times of all files in file order; `SystemExit(4)` unless they
increase strictly; the number of frames of every file -/
def rc_scanSpec (fs : String → NcFile α) (files : List String) : Option (Option (List Int × List (String × Nat))) :=
  if (notAfter (files.flatMap (fun f => (fs f).times))).any id then some none
  else some (some (files.flatMap (fun f => (fs f).times), dictOf (files.map (fun f => (f, (fs f).times.length)))))

/-- **`Forcing.scan_file_times`** (`Gen.forcing_scan_file_times_seq`) -/
theorem forcing_scan_file_times (fs : String → NcFile α) (files : List String) :
    scanSeq fs files = rc_scanSpec fs files := by
  have hs := scanStep.eq_def fs
  have hc := scanCond.eq_def
  have hl := scanIsLoop.eq_def
  have hi := scanIter.eq_def files
  unfold scanStep.match_1 at hs
  unfold scanCond.match_1 at hc
  unfold scanIsLoop.match_1 at hl hi
  have hL := rc_loopOver_fold _ _ _ (rc_sc_trip fs files) files
  simp only [rc_scBody, Gen.forcing_scan_file_times_seq, List.drop, List.take, scanInterp] at hL
  unfold scanSeq rc_scanSpec
  rw [rc_nest_run_eq _ _ _ (rc_scan_known fs files _), rc_retVal_eq]
  simp only [Gen.forcing_scan_file_times_seq, scanInterp, hs, hc, hl, hi, hL, Loops.blocks, Loops.loopOf,
    Loops.outerGuard, List.takeWhile_cons, List.takeWhile_nil, Bool.not_true, Bool.false_eq_true, rc_runBlocks_plain,
    rc_runBlocks_loop, rc_runBlocks_nil, Run.fnThen_some, Run.fnThen_raise, Run.fnThen_ite, guardEnter, String.reduceEq,
    ↓reduceDIte, ↓reduceIte, Option.map_some, beq_true, ite_self, rc_sc_fold fs files, List.nil_append, dictOf]

end scan
end Bridge

namespace Bridge

/-- the check of `scan_file_times` passes exactly for strictly increasing frame times -/
theorem rc_notAfter_iff_sorted : ∀ (l : List Int), (notAfter l).any id = false ↔ List.Pairwise (· < ·) l
  | [] => by simp [notAfter]
  | [a] => by simp [notAfter]
  | a :: b :: l => by
    have ih := rc_notAfter_iff_sorted (b :: l)
    have e : notAfter (a :: b :: l) = decide (b ≤ a) :: notAfter (b :: l) := rfl
    rw [e, List.any_cons, Bool.or_eq_false_iff, ih]
    constructor
    · rintro ⟨h1, h2⟩
      have hab : a < b := by simpa using h1
      refine List.pairwise_cons.mpr ⟨?_, h2⟩
      intro x hx
      rcases List.mem_cons.mp hx with rfl | hx
      · exact hab
      · exact Int.lt_trans hab ((List.pairwise_cons.mp h2).1 x hx)
    · intro h
      obtain ⟨h1, h2⟩ := List.pairwise_cons.mp h
      refine ⟨?_, h2⟩
      have := h1 b (by simp)
      simp only [id, decide_eq_false_iff_not]
      omega

theorem rc_lookup_map_fn {ν : Type} (g : String → ν) (k : String) : ∀ (ks : List String), k ∈ ks →
    (ks.map (fun f => (f, g f))).lookup k = some (g k)
  | [], h => by cases h
  | a :: ks, h => by
    by_cases hk : k = a
    · subst hk; simp [List.lookup_cons]
    · have hk' : (k == a) = false := by simpa using hk
      rcases List.mem_cons.mp h with h | h
      · exact absurd h hk
      · simp only [List.map_cons, List.lookup_cons, hk']
        exact rc_lookup_map_fn g k ks h

/-- `num_frames[fname]` of the scan: the number of frames of the file -/
theorem rc_scan_numFrames {α : Type} (fs : String → NcFile α) (files : List String) (f : String) (hf : f ∈ files) :
    (dictOf (files.map (fun f => (f, (fs f).times.length)))).lookup f = some (fs f).times.length := by
  rw [rc_lookup_dictOf, ← List.map_reverse]
  exact rc_lookup_map_fn (fun f => (fs f).times.length) f files.reverse (by simpa using hf)

end Bridge

namespace Bridge

/-! ## `__init__` -/
section ctor
variable {α : Type}

theorem rc_frameLabels_congr (files : List String) (nf nf' : String → Nat) (h : ∀ f ∈ files, nf f = nf' f) :
    rc_frameLabels files nf = rc_frameLabels files nf' := by
  unfold rc_frameLabels
  induction files with
  | nil => rfl
  | cons f fs ih =>
    simp only [List.flatMap_cons]
    rw [h f (by simp), ih (fun g hg => h g (by simp [hg]))]

/-- the arguments `__init__` hands to `forcing_steps` -/
def rc_ctorArgs (fs : String → NcFile α) (cfg : Config) (files : List String) : StepsArgs :=
  ⟨files, files.flatMap (fun f => (fs f).times), fun f => (fs f).times.length, cfg.start, cfg.stop, cfg.dt⟩

theorem rc_ctorArgs_len (fs : String → NcFile α) (cfg : Config) (files : List String) :
    (rc_frameLabels (rc_ctorArgs fs cfg files).files (rc_ctorArgs fs cfg files).numFrames).length =
      (rc_ctorArgs fs cfg files).allFrames.length := by
  rw [rc_frameLabels_length]
  simp only [rc_ctorArgs, List.length_flatMap]

/-- the attribute assignments of `__init__`, in order -/
def rc_ctorLog : List String :=
  ["_grid", "ibm_forcing", "_files", "stepdiff", "file_idx", "frame_idx", "_nc", "steps", "_files",
   "initialization_finished", "_last_update"]

/-- the constructed object -/
def rc_ctorObj (cfg : Config) (files : List String) (tbl : StepTable) : FObj α :=
  { (FObj.blank : FObj α) with
    ibm := cfg.ibm, files := files, steps := tbl.1, stepdiff := npDiff tbl.1, fileIdx := tbl.2.1,
    frameIdx := tbl.2.2, nc := none, initDone := false, lastUpdate := -1, log := rc_ctorLog }

/-- `__init__` in closed form: `SystemExit(3)` without files, `SystemExit(4)` for frame times that do not increase
strictly, then whatever `forcing_steps` raises; otherwise the object with the step table of the files -/
def rc_ctorSpec (glob : String → List String) (fs : String → NcFile α) (cfg : Config) : Option (Option (FObj α)) :=
  if (rc_findFilesSpec glob cfg.force).length = 0 then some none
  else if (notAfter ((rc_findFilesSpec glob cfg.force).flatMap (fun f => (fs f).times))).any id then some none
  else
    match rc_stepsSpec (rc_ctorArgs fs cfg (rc_findFilesSpec glob cfg.force)) with
    | some (some tbl) => some (some (rc_ctorObj cfg (rc_findFilesSpec glob cfg.force) tbl))
    | _ => some none

theorem rc_lift_isSome {ρ σ : Type} (r : Option (Option ρ)) (k : ρ → σ) (h : r.isSome = true) :
    (Nest.lift r k).isSome = true := by
  rcases r with _ | _ | _ <;> simp_all [Nest.lift]

theorem rc_scanSpec_isSome (fs : String → NcFile α) (files : List String) : (rc_scanSpec fs files).isSome = true := by
  unfold rc_scanSpec; split <;> rfl

theorem rc_stepsSpec_isSome (A : StepsArgs) : (rc_stepsSpec A).isSome = true := by
  unfold rc_stepsSpec
  split
  · split
    · rfl
    · split
      · rfl
      · split <;> rfl
  · rfl

/-- the call of `forcing_steps` in `__init__`: `num_frames` of the scan gives every file its number of frames -/
theorem rc_ctor_steps (fs : String → NcFile α) (cfg : Config) (files : List String) :
    stepsSeq ⟨files, files.flatMap (fun f => (fs f).times),
        fun f => ((dictOf (files.map (fun f => (f, (fs f).times.length)))).lookup f).getD 0,
        cfg.start, cfg.stop, cfg.dt⟩ = rc_stepsSpec (rc_ctorArgs fs cfg files) := by
  have hl : rc_frameLabels files
      (fun f => ((dictOf (files.map (fun f => (f, (fs f).times.length)))).lookup f).getD 0) =
      rc_frameLabels files (fun f => (fs f).times.length) :=
    rc_frameLabels_congr _ _ _ (fun f hf => by simp [rc_scan_numFrames fs files f hf])
  rw [forcing_steps _ (by
    show (rc_frameLabels files _).length ≤ _
    rw [hl]
    exact Nat.le_of_eq (rc_ctorArgs_len fs cfg files))]
  simp only [rc_stepsSpec, rc_stepsTable, hl, rc_ctorArgs]
  rfl

theorem rc_ctor_known (glob : String → List String) (fs : String → NcFile α) (cfg : Config) :
    Gen.forcing_ctor_seq.all (stmtKnown (ctorInterp glob fs cfg) CtorSt.init) = true := by
  have hs := ctorStep.eq_def glob fs cfg
  have ha := ctorAtom.eq_def (α := α)
  unfold ctorStep.match_1 at hs
  unfold ctorAtom.match_1 at ha
  have hS : ∀ A, (rc_frameLabels A.files A.numFrames).length ≤ A.allFrames.length → (stepsSeq A).isSome = true :=
    fun A h => by rw [forcing_steps A h]; exact rc_stepsSpec_isSome A
  simp only [Gen.forcing_ctor_seq, ctorInterp, hs, ha, stmtKnown, condKnown, Nest.ofAtom, Loops.loopOf, List.all_cons,
    List.all_nil, String.reduceEq, String.reduceBEq, ↓reduceDIte, ↓reduceIte, Option.isSome_some, Option.map_some,
    Bool.false_eq_true, Option.isSome_none, rc_lift_isSome, forcing_find_files, forcing_scan_file_times,
    rc_scanSpec_isSome, hS, CtorSt.init, rc_frameLabels, List.flatMap_nil, List.length_nil, Nat.le_refl]
  rfl

/-- **`Forcing.__init__`** (`Gen.forcing_ctor_seq`): files, then times, then steps, then the attributes (in the order
`rc_ctorLog`); `_nc = None`, `initialization_finished = False`, `_last_update = -1`: nothing is read before the first
`update`. -/
theorem forcing_ctor (glob : String → List String) (fs : String → NcFile α) (cfg : Config) :
    ctorSeq glob fs cfg = rc_ctorSpec glob fs cfg := by
  have hs := ctorStep.eq_def glob fs cfg
  have ha := ctorAtom.eq_def (α := α)
  unfold ctorStep.match_1 at hs
  unfold ctorAtom.match_1 at ha
  unfold ctorSeq rc_ctorSpec
  rw [rc_nest_run_eq _ _ _ (rc_ctor_known glob fs cfg), rc_lift_eq]
  simp only [Gen.forcing_ctor_seq, ctorInterp, hs, ha, Nest.ofAtom, Loops.blocks, Loops.loopOf, Bool.false_eq_true,
    rc_runBlocks_plain, rc_runBlocks_nil, Run.fnThen_some, Run.fnThen_raise, Run.fnThen_ite, rc_lift_eq, guardEnter,
    String.reduceEq, ↓reduceDIte, ↓reduceIte, Option.map_some, beq_true, ite_self, forcing_find_files,
    forcing_scan_file_times, rc_scanSpec, rc_ctor_steps, beq_iff_eq]
  rcases hsp : rc_stepsSpec (rc_ctorArgs fs cfg (rc_findFilesSpec glob cfg.force)) with _ | _ | tbl
  · have := rc_stepsSpec_isSome (rc_ctorArgs fs cfg (rc_findFilesSpec glob cfg.force))
    rw [hsp] at this
    cases this
  · simp only [Run.fnThen_raise]
  · simp only [Run.fnThen_some]
    rfl

/-- the good case: at least one file, strictly increasing frame times that cover `[start, stop]`, `dt ≠ 0` -/
theorem forcing_ctor_ok (glob : String → List String) (fs : String → NcFile α) (cfg : Config) (t0 t1 : Int)
    (hfiles : rc_findFilesSpec glob cfg.force ≠ [])
    (hsorted : List.Pairwise (· < ·) ((rc_findFilesSpec glob cfg.force).flatMap (fun f => (fs f).times)))
    (hh : ((rc_findFilesSpec glob cfg.force).flatMap (fun f => (fs f).times)).head? = some t0)
    (hl : ((rc_findFilesSpec glob cfg.force).flatMap (fun f => (fs f).times)).getLast? = some t1)
    (h0 : t0 ≤ cfg.start) (h1 : cfg.stop ≤ t1) (hdt : cfg.dt ≠ 0) :
    ctorSeq glob fs cfg = some (some (rc_ctorObj cfg (rc_findFilesSpec glob cfg.force)
      (rc_stepsTable (rc_ctorArgs fs cfg (rc_findFilesSpec glob cfg.force))))) := by
  rw [forcing_ctor]
  unfold rc_ctorSpec
  have hlen : ¬ (rc_findFilesSpec glob cfg.force).length = 0 := by
    intro h; exact hfiles (List.length_eq_zero_iff.mp h)
  have hs := (rc_notAfter_iff_sorted _).mpr hsorted
  rw [if_neg hlen, hs]
  have hsp : rc_stepsSpec (rc_ctorArgs fs cfg (rc_findFilesSpec glob cfg.force)) =
      some (some (rc_stepsTable (rc_ctorArgs fs cfg (rc_findFilesSpec glob cfg.force)))) := by
    unfold rc_stepsSpec
    have e1 : (rc_ctorArgs fs cfg (rc_findFilesSpec glob cfg.force)).allFrames.head? = some t0 := hh
    have e2 : (rc_ctorArgs fs cfg (rc_findFilesSpec glob cfg.force)).allFrames.getLast? = some t1 := hl
    rw [e1, e2]
    have a1 : ¬ (rc_ctorArgs fs cfg (rc_findFilesSpec glob cfg.force)).start < t0 := by
      show ¬ cfg.start < t0; omega
    have a2 : ¬ t1 < (rc_ctorArgs fs cfg (rc_findFilesSpec glob cfg.force)).stop := by
      show ¬ t1 < cfg.stop; omega
    have a3 : ¬ (rc_ctorArgs fs cfg (rc_findFilesSpec glob cfg.force)).dt = 0 := hdt
    simp only [a1, a2, a3, if_false]
  rw [hsp]
  rfl

end ctor
end Bridge

namespace Bridge

/-! ## `update` -/
section update
variable {α : Type} [Add α] [Sub α] [Mul α] [Div α] [HasOfInt α]

/-- the body of the catch-up loop (statements 2, 3 of the sequence) -/
def rc_upBody : List Stmt := (Gen.forcing_update_seq.drop 1).take 2

theorem rc_upd_known (fr : Roms.Frames α) (cw : α → α) (t : Int) (s : UpdSt α) :
    Gen.forcing_update_seq.all (stmtKnown (updInterp fr cw t) s) = true := by
  have hs := updStep.eq_def fr cw
  have hl := updIsLoop.eq_def
  unfold updStep.match_1 at hs
  unfold updIsLoop.match_1 at hl
  simp only [Gen.forcing_update_seq, updInterp, hs, hl, stmtKnown, condKnown, Loops.loopOf, List.all_cons,
    List.all_nil, String.reduceEq, String.reduceBEq, ↓reduceDIte, ↓reduceIte, Option.isSome_some, Bool.false_eq_true,
    Option.isSome_none]
  rfl

/-- one trip of the catch-up loop: `_update_one_step(x)`, then `_last_update = x` -/
def rc_upTrip (fr : Roms.Frames α) (cw : α → α) (s : UpdSt α) (x : Int) : Option (Option (UpdSt α)) :=
  match run (stepAtom fr x) (stepStep fr cw x) Gen.forcing_step_seq s.st with
  | none => some none
  | some st' => some (some ⟨st', x, x⟩)

theorem rc_up_trip (fr : Roms.Frames α) (cw : α → α) (t : Int) (s : UpdSt α) (x : Int) :
    runDepth (updInterp fr cw t) 2 (stripBody (updInterp fr cw t).isLoop rc_upBody) { s with step := x } =
      rc_upTrip fr cw s x := by
  have hs := updStep.eq_def fr cw
  have hl := updIsLoop.eq_def
  unfold updStep.match_1 at hs
  unfold updIsLoop.match_1 at hl
  simp only [rc_upBody, Gen.forcing_update_seq, List.drop, List.take, updInterp, hs, hl, rc_runDepth_succ, stripBody,
    stripLoop, List.map, Loops.blocks, Loops.loopOf, rc_runBlocks_plain, rc_runBlocks_nil, Run.fnThen_some, Run.fnThen_map,
    guardEnter, String.reduceEq, ↓reduceDIte, ↓reduceIte, rc_upTrip]
  cases run (stepAtom fr x) (stepStep fr cw x) Gen.forcing_step_seq s.st <;> rfl

/-- the catch-up loop in closed form: `n` trips from step `start` on -/
def rc_upLoopSpec (fr : Roms.Frames α) (cw : α → α) : Nat → Int → UpdSt α → Option (Option (UpdSt α))
  | 0, _, s => some (some s)
  | n + 1, start, s =>
    match rc_upTrip fr cw s start with
    | none => none
    | some none => some none
    | some (some s') => rc_upLoopSpec fr cw n (start + 1) s'

theorem rc_up_loop (fr : Roms.Frames α) (cw : α → α) (t : Int) : ∀ (n : Nat) (start : Int) (s : UpdSt α),
    loopOver (runDepth (updInterp fr cw t) 2 (stripBody (updInterp fr cw t).isLoop rc_upBody))
        ((List.range n).map (fun (i : Nat) (s' : UpdSt α) => { s' with step := start + (i : Int) })) s =
      rc_upLoopSpec fr cw n start s
  | 0, _, _ => rfl
  | n + 1, start, s => by
    rw [List.range_succ_eq_map, List.map_cons, List.map_map]
    have e : ((fun (i : Nat) (s' : UpdSt α) => { s' with step := start + (i : Int) }) ∘ Nat.succ) =
        (fun (i : Nat) (s' : UpdSt α) => { s' with step := (start + 1) + (i : Int) }) := by
      funext i s'
      simp only [Function.comp, Nat.succ_eq_add_one]
      congr 1
      push_cast; omega
    rw [e]
    simp only [loopOver, rc_upLoopSpec]
    have : ({ s with step := start + ((0 : Nat) : Int) } : UpdSt α) = { s with step := start } := by simp
    rw [this, rc_up_trip]
    rcases rc_upTrip fr cw s start with _ | _ | s'
    · rfl
    · rfl
    · exact rc_up_loop fr cw t n (start + 1) s'

/-- … is the loop `codeSteps` of `RomsSeq.lean` (a failing step counts as a raise) -/
theorem rc_upLoopSpec_codeSteps (fr : Roms.Frames α) (cw : α → α) : ∀ (n : Nat) (start : Int) (s : UpdSt α),
    rc_upLoopSpec fr cw n start s =
      match codeSteps fr cw s.st start n with
      | none => some none
      | some st' => some (some ⟨st', if n = 0 then s.last else start + n - 1, if n = 0 then s.step else start + n - 1⟩)
  | 0, _, _ => rfl
  | n + 1, start, s => by
    simp only [rc_upLoopSpec, rc_upTrip, codeSteps]
    cases hr : run (stepAtom fr start) (stepStep fr cw start) Gen.forcing_step_seq s.st with
    | none => rfl
    | some st' =>
      simp only [Option.bind_some]
      rw [rc_upLoopSpec_codeSteps fr cw n (start + 1) ⟨st', start, start⟩]
      cases codeSteps fr cw st' (start + 1) n with
      | none => rfl
      | some st'' =>
        simp only [Nat.add_eq_zero_iff, one_ne_zero, and_false, if_false]
        by_cases hn : n = 0
        · subst hn; simp
        · simp only [hn, if_false]
          congr 3 <;> (push_cast; omega)

/-- **`Forcing.update`** (`Gen.forcing_update_seq`): `_remaining_initialization()`, then the catch-up loop
`codeUpdate` of `RomsSeq.lean` — `_update_one_step(step)` for every `step` from `_last_update + 1` to `t`, each one
the interpretation of `Gen.forcing_step_seq`, and `_last_update = t`; nothing happens for `t ≤ _last_update`. -/
theorem forcing_update (fr : Roms.Frames α) (cw : α → α) (c : CodeSt α) (t : Int) :
    updateSeq fr cw c t =
      match run (initAtom fr) (initStep fr cw) Gen.forcing_init_seq c.st with
      | none => some none
      | some st0 =>
        match codeUpdate fr cw ⟨st0, c.last⟩ t with
        | none => some none
        | some c' => some (some c') := by
  have hs := updStep.eq_def fr cw
  have hl := updIsLoop.eq_def
  have hi := updIter.eq_def (α := α) t
  unfold updStep.match_1 at hs
  unfold updIsLoop.match_1 at hl hi
  have hL := rc_up_loop fr cw t
  simp only [rc_upBody, Gen.forcing_update_seq, List.drop, List.take, updInterp] at hL
  unfold updateSeq
  rw [rc_nest_run_eq _ _ _ (rc_upd_known fr cw t _), rc_lift_eq]
  simp only [Gen.forcing_update_seq, updInterp, hs, hl, hi, hL, Loops.blocks, Loops.loopOf, Loops.outerGuard,
    List.takeWhile_cons, Bool.not_true, Bool.false_eq_true, rc_runBlocks_plain, rc_runBlocks_loop, rc_runBlocks_nil,
    Run.fnThen_some, Run.fnThen_map, Run.fnThen_elim, guardEnter, String.reduceEq, ↓reduceDIte, ↓reduceIte]
  cases hi : run (initAtom fr) (initStep fr cw) Gen.forcing_init_seq c.st with
  | none => rfl
  | some st0 =>
    simp only [Option.elim_some, rc_upLoopSpec_codeSteps, codeUpdate]
    by_cases hlt : c.last < t
    · have hn : ¬ (t - c.last).toNat = 0 := by omega
      simp only [hlt, if_true, hn, if_false]
      cases codeSteps fr cw st0 (c.last + 1) (t - c.last).toNat with
      | none => rfl
      | some st' =>
        simp only [Run.fnThen_some, rc_runBlocks_nil, Option.map_some]
        congr 3
        omega
    · have hn : (t - c.last).toNat = 0 := by omega
      simp only [hlt, if_false, hn, codeSteps, if_true, Run.fnThen_some, rc_runBlocks_nil]

end update
end Bridge

namespace Bridge

section updateModel
variable {α : Type} [Field α] [LinearOrder α] [IsStrictOrderedRing α]

/-- `_remaining_initialization` returns at once when the initialisation is finished -/
theorem rc_init_done_noop (fr : Roms.Frames α) (cw : α → α) (s : FSt α) (h : s.initDone = true) :
    run (initAtom fr) (initStep fr cw) Gen.forcing_init_seq s = some s := by
  have e : Gen.forcing_init_seq = ([(true, "self.initialization_finished")], "return", "") ::
      Gen.forcing_init_seq.tail := rfl
  rw [e]
  simp [Seq.run, guardVal, initAtom, h]

/-- a run of statements without `return` that ends with an unguarded statement: the outcome is an outcome of that
statement -/
theorem rc_run_last {σ : Type} (atom : σ → String → Option Bool) (step : σ → String → String → Option σ)
    (Q : σ → Prop) (k t : String) (hk : (k == "return") = false) (hQ : ∀ s s', step s k t = some s' → Q s') :
    ∀ (mid : List Stmt) (s s0 : σ), mid.all (fun st => st.2.1 != "return") = true →
      run atom step (mid ++ [([], k, t)]) s = some s0 → Q s0
  | [], s, s0, _, h => by
    have hk' : ¬ k = "return" := by simpa using hk
    simp only [List.nil_append, Seq.run, guardVal, if_neg hk'] at h
    cases hs : step s k t with
    | none => rw [hs] at h; cases h
    | some s' =>
      rw [hs] at h
      rw [← Option.some.inj h]
      exact hQ s s' hs
  | (g, k', t') :: mid, s, s0, hm, h => by
    rw [List.all_cons, Bool.and_eq_true] at hm
    have hk' : ¬ k' = "return" := by simpa using hm.1
    simp only [List.cons_append, Seq.run, if_neg hk'] at h
    rcases hg : guardVal atom s g with _ | _ | _
    · rw [hg] at h; cases h
    · rw [hg] at h
      exact rc_run_last atom step Q k t hk hQ mid s s0 hm.2 h
    · rw [hg] at h
      cases hs : step s k' t' with
      | none => rw [hs] at h; cases h
      | some s' =>
        rw [hs] at h
        exact rc_run_last atom step Q k t hk hQ mid s' s0 hm.2 h

/-- … and finishes it otherwise: the `return` at the head is not taken, and the last statement sets the flag -/
theorem rc_init_sets_done (fr : Roms.Frames α) (cw : α → α) (z : α) (s0 : FSt α)
    (h : run (initAtom fr) (initStep fr cw) Gen.forcing_init_seq (FSt.blank z) = some s0) : s0.initDone = true := by
  have e : Gen.forcing_init_seq = ([(true, "self.initialization_finished")], "return", "") ::
      (Gen.forcing_init_seq.tail.dropLast ++ [([], "assign", "self.initialization_finished = True")]) := rfl
  have h0 : guardVal (initAtom fr) (FSt.blank z) [(true, "self.initialization_finished")] = some false := rfl
  rw [e, Seq.run, h0] at h
  refine rc_run_last _ _ (fun s => s.initDone = true) _ _ (by decide) (fun s s' hs => ?_) _ _ _ (by decide) h
  have hst := initStep.eq_def fr cw
  unfold initStep.match_1 at hst
  simp only [hst, String.reduceEq, ↓reduceDIte, Option.some.injEq] at hs
  rw [← hs]

theorem rc_stepExplicit_initDone (fr : Roms.Frames α) (cw : α → α) (t : Int) (s : FSt α) :
    (stepExplicit fr cw t s).initDone = s.initDone := by
  unfold stepExplicit
  cases h1 : fr.steps.contains (t - 1) <;> cases h2 : fr.steps.contains t <;>
    cases hn : Roms.nextStep fr.steps (t - 1) <;> simp

theorem rc_stepsExplicit_initDone (fr : Roms.Frames α) (cw : α → α) : ∀ (n : Nat) (start : Int) (s : FSt α),
    (stepsExplicit fr cw s start n).initDone = s.initDone
  | 0, _, _ => rfl
  | n + 1, start, s => by
    show (stepsExplicit fr cw (stepExplicit fr cw start s) (start + 1) n).initDone = _
    rw [rc_stepsExplicit_initDone fr cw n, rc_stepExplicit_initDone]

/-- **`Forcing.update(t)` is `Roms.update .loop`.**  For an initialised object (`initialization_finished`), when every
forcing step met up to `t` has a successor frame: the interpretation of `Gen.forcing_update_seq` (with the
interpretation of `Gen.forcing_step_seq` for every `_update_one_step`) succeeds, and on the state of the C06 model it
is the model's `update` with the catch-up loop. -/
theorem forcing_update_model (fr : Roms.Frames α) (cw : α → α) (c : CodeSt α) (t : Int)
    (hdone : c.st.initDone = true)
    (hnext : ∀ x, x ≤ t → fr.steps.contains (x - 1) = true → (Roms.nextStep fr.steps (x - 1)).isSome = true) :
    ∃ c', updateSeq fr cw c t = some (some c') ∧ c'.st.initDone = true ∧
      c'.st.roms c'.last = Roms.update .loop fr (c.st.roms c.last) t ∧
      c' = (if c.last < t then ⟨stepsExplicit fr cw c.st (c.last + 1) (t - c.last).toNat, t⟩ else c) := by
  rw [forcing_update, rc_init_done_noop fr cw c.st hdone]
  dsimp only
  by_cases hlt : c.last < t
  · rw [codeUpdate_eq fr cw c.st c.last t hlt hnext]
    refine ⟨_, rfl, ?_, ?_, by rw [if_pos hlt]⟩
    · rw [rc_stepsExplicit_initDone]; exact hdone
    · obtain ⟨l', hl'⟩ := stepsExplicit_roms fr cw (t - c.last).toNat (c.last + 1) c.last c.st
      have hU : Roms.update .loop fr (c.st.roms c.last) t =
          Roms.updateRange fr (c.st.roms c.last) (c.last + 1) (t - c.last).toNat := by
        show (if (c.st.roms c.last).last < t then _ else _) = _
        rw [if_pos (show (c.st.roms c.last).last < t from hlt)]
        rfl
      rw [hU, ← hl']
      obtain ⟨k, hk⟩ : ∃ k, (t - c.last).toNat = k + 1 := ⟨(t - c.last).toNat - 1, by omega⟩
      have hlast := C06.updateRange_last fr (c.st.roms c.last) (c.last + 1) k
      rw [← hk, ← hl'] at hlast
      have : l' = t := by
        have e : ((stepsExplicit fr cw c.st (c.last + 1) (t - c.last).toNat).roms l').last = l' := rfl
        rw [e] at hlast
        omega
      rw [this]
  · have hcu : codeUpdate fr cw ⟨c.st, c.last⟩ t = some ⟨c.st, c.last⟩ := by
      unfold codeUpdate; rw [if_neg hlt]
    rw [hcu]
    refine ⟨_, rfl, hdone, ?_, by rw [if_neg hlt]⟩
    show _ = (if (c.st.roms c.last).last < t then _ else _)
    rw [if_neg (show ¬ (c.st.roms c.last).last < t from hlt)]

/-- the calls of a schedule after the first one -/
theorem rc_updateSeqRun_eq (fr : Roms.Frames α) (cw : α → α) (z : α) (T : Int)
    (hnext : ∀ x, x ≤ T → fr.steps.contains (x - 1) = true → (Roms.nextStep fr.steps (x - 1)).isSome = true) :
    ∀ (sched : List Int) (c0 c : CodeSt α), c0.st.initDone = true → List.Pairwise (· < ·) sched →
      (∀ x ∈ sched, c0.last < x) → (∀ x ∈ sched, x ≤ T) →
      sched.foldlM (codeUpdate fr cw) c0 = some c → updateSeqRun fr cw z sched c0 = some (some c)
  | [], c0, c, _, _, _, _, h => by
    simp only [List.foldlM_nil] at h
    cases h; rfl
  | t :: ts, c0, c, hd, hp, hx, hT, h => by
    have hlt := hx t (by simp)
    have htT := hT t (by simp)
    obtain ⟨c1, h1, h2, _, h4⟩ := forcing_update_model fr cw c0 t hd (fun x hx' => hnext x (by omega))
    rw [if_pos hlt] at h4
    rw [List.foldlM_cons, codeUpdate_eq fr cw c0.st c0.last t hlt (fun x hx' => hnext x (by omega))] at h
    simp only [updateSeqRun, h1]
    refine rc_updateSeqRun_eq fr cw z T hnext ts c1 c h2 (List.pairwise_cons.mp hp).2 ?_
      (fun x hx' => hT x (by simp [hx'])) ?_
    · intro x hx'
      rw [h4]
      exact (List.pairwise_cons.mp hp).1 x hx'
    · rw [h4]; exact h

/-- **C06 for the interpreted `update`.**  A freshly constructed `Forcing` object (`initialization_finished = False`,
`_last_update = -1`), then `update(t)` for every `t` of a strictly increasing schedule of non-negative steps, every
call being the interpretation of `Gen.forcing_update_seq` (which calls the interpretations of `Gen.forcing_init_seq`
and `Gen.forcing_step_seq`): the run succeeds, is the run `codeRun` of `RomsSeq.lean`, and the velocity it serves at
the last step `T` is the linear-in-time interpolation of the two enclosing frames (the vertical velocity its image
under a linear `compute_w`). -/
theorem forcing_update_any_schedule (fr : Roms.Frames α) (cw : α → α) (z : α)
    (hs : C06.Sorted fr.steps) (hinit : (Roms.init .stepdiff .next fr).isSome = true)
    (sched : List Int) (hp : List.Pairwise (· < ·) sched) (h0 : ∀ x ∈ sched, 0 ≤ x) (T : Int)
    (hT : sched.getLast? = some T) (n n' : Int) (hb : C06.Bracket fr.steps T n n') :
    ∃ c, updateSeqRun fr cw z sched ⟨FSt.blank z, -1⟩ = some (some c) ∧ codeRun fr cw z sched = some c ∧
      c.last = T ∧ c.st.U = C06.lerp fr T n n' ∧ (LinearW cw → c.st.W = cw c.st.U) := by
  obtain ⟨c, hc, h1, h2, h3⟩ := code_velocity_any_schedule fr cw z hs hinit sched hp h0 T hT n n' hb
  refine ⟨c, ?_, hc, h1, h2, h3⟩
  -- every forcing step met has a successor
  obtain ⟨hb1, hb2, hb3⟩ := hb
  have hn'mem := (C06.nextStep_spec fr.steps hs n n' hb1).2.1
  have hnext : ∀ x, x ≤ T → fr.steps.contains (x - 1) = true →
      (Roms.nextStep fr.steps (x - 1)).isSome = true := by
    intro x hx hcn
    obtain ⟨m, hm⟩ := C06.nextStep_of_mem fr.steps hs (x - 1) ((C06.contains_iff _ _).mp hcn)
      ⟨n', hn'mem, by omega⟩
    rw [hm]; rfl
  have hle : ∀ x ∈ sched, x ≤ T := by
    intro x hx
    rcases List.mem_iff_getElem.mp hx with ⟨i, hi, rfl⟩
    have hlast : sched[sched.length - 1]'(by omega) = T := by
      rw [List.getLast?_eq_getElem?] at hT
      rw [List.getElem?_eq_getElem (by omega)] at hT
      exact Option.some.inj hT
    by_cases hil : i = sched.length - 1
    · subst hil; omega
    · have := (List.pairwise_iff_getElem.mp hp) i (sched.length - 1) hi (by omega) (by omega)
      omega
  unfold codeRun at hc
  cases hr : Seq.run (initAtom fr) (initStep fr cw) Gen.forcing_init_seq (FSt.blank z) with
  | none => rw [hr] at hc; cases hc
  | some s0 =>
    rw [hr, Option.bind_some] at hc
    have hd0 := rc_init_sets_done fr cw z s0 hr
    cases sched with
    | nil => simp at hT
    | cons t ts =>
      have ht0 := h0 t (by simp)
      rw [List.foldlM_cons, codeUpdate_eq fr cw s0 (-1) t (by omega) (fun x hx' => hnext x (by
        have := hle t (by simp); omega))] at hc
      have hfirst : updateSeq fr cw ⟨FSt.blank z, -1⟩ t =
          some (some ⟨stepsExplicit fr cw s0 (-1 + 1) (t - -1).toNat, t⟩) := by
        rw [forcing_update, hr]
        show (match codeUpdate fr cw ⟨s0, -1⟩ t with | none => some none | some c' => some (some c')) = _
        rw [codeUpdate_eq fr cw s0 (-1) t (by omega) (fun x hx' => hnext x (by
          have := hle t (by simp); omega))]
      simp only [updateSeqRun, hfirst]
      exact rc_updateSeqRun_eq fr cw z T hnext ts _ c (by rw [rc_stepsExplicit_initDone]; exact hd0)
        (List.pairwise_cons.mp hp).2 (fun x hx' => (List.pairwise_cons.mp hp).1 x hx')
        (fun x hx' => hle x (by simp [hx'])) hc

end updateModel
end Bridge

namespace Bridge

/-! ## the readers -/
section readers
variable {α : Type} [Add α] [Mul α] [HasNarrow α]

/-- the body of `for key in forcing_variables` (statements 8 to 11 of the sequence) -/
def rc_ofBody : List Stmt := (Gen.forcing_open_file_seq.drop 7).take 4

theorem rc_of_known (fs : String → NcFile α) (n : Int) (s : RdSt α) :
    Gen.forcing_open_file_seq.all (stmtKnown (ofInterp fs n) s) = true := by
  have hs := ofStep.eq_def fs n
  have ha := ofAtom.eq_def fs
  have hl := ofIsLoop.eq_def
  unfold ofStep.match_3 at hs
  unfold ofAtom.match_1 at ha
  unfold ofIsLoop.match_1 at hl
  simp only [Gen.forcing_open_file_seq, ofInterp, hs, ha, hl, stmtKnown, condKnown, Nest.ofAtom, Loops.loopOf,
    List.all_cons, List.all_nil, String.reduceEq, String.reduceBEq, ↓reduceDIte, ↓reduceIte, Option.isSome_some,
    Option.map_some, Bool.false_eq_true, Option.isSome_none]
  rfl

/-- one trip of `for key in forcing_variables` while the dataset of file `f` is in `nc` -/
def rc_ofTrip (fs : String → NcFile α) (f : String) (s : RdSt α) (k : String) : RdSt α :=
  match (fs f).scale k with
  | some sc =>
    { s with key := k, o := { s.o with scaled := dictSet s.o.scaled k true,
                                       scaleFactor := dictSet s.o.scaleFactor k (narrow sc.1),
                                       addOffset := dictSet s.o.addOffset k (narrow sc.2) } }
  | none => { s with key := k, o := { s.o with scaled := dictSet s.o.scaled k false } }

theorem rc_of_trip (fs : String → NcFile α) (n : Int) (f : String) (s : RdSt α) (k : String) (hf : s.ncLoc = some f) :
    runDepth (ofInterp fs n) 2 (stripBody (ofInterp fs n).isLoop rc_ofBody) { s with key := k } =
      some (some (rc_ofTrip fs f s k)) := by
  have hs := ofStep.eq_def fs n
  have ha := ofAtom.eq_def fs
  have hl := ofIsLoop.eq_def
  unfold ofStep.match_3 at hs
  unfold ofAtom.match_1 at ha
  unfold ofIsLoop.match_1 at hl
  cases hsc : (fs f).scale k <;>
    simp only [rc_ofBody, Gen.forcing_open_file_seq, List.drop, List.take, ofInterp, hs, ha, hl, hf, hsc, Nest.ofAtom,
      rc_runDepth_succ, stripBody, stripLoop, List.map, Loops.blocks, Loops.loopOf, rc_runBlocks_plain,
      rc_runBlocks_nil, Run.fnThen_some, Run.fnThen_raise, guardEnter, String.reduceEq, ↓reduceDIte, ↓reduceIte,
      Option.map_some, Option.bind_some, Option.isSome_some, Option.isSome_none, Bool.false_eq_true, beq_self_eq_true,
      Bool.true_eq_false, Bool.false_eq_true, rc_ofTrip] <;> rfl

/-- the loop `for key in forcing_variables` while the dataset of file `f` is in `nc` -/
theorem rc_of_loop (fs : String → NcFile α) (n : Int) (f : String) (keys : List String) (s : RdSt α)
    (hf : s.ncLoc = some f) :
    loopOver (runDepth (ofInterp fs n) 2 (stripBody (ofInterp fs n).isLoop rc_ofBody))
        (keys.map (fun k s' => { s' with key := k })) s = some (some (keys.foldl (rc_ofTrip fs f) s)) :=
  (rc_loopOver_fold_inv _ _ (rc_ofTrip fs f) (fun _ s => s.ncLoc = some f) keys
    (fun _ s x _ hs => ⟨rc_of_trip fs n f s x hs, by unfold rc_ofTrip; cases (fs f).scale x <;> exact hs⟩)
    keys 0 s (Nat.zero_le _) rfl hf).1

/-- the three dicts that `open_forcing_file` rebuilds, started from `d1 d2 d3`, for the variables `keys` of file `f` -/
def rc_ofScaled (fs : String → NcFile α) (f : String) (keys : List String) (d : List (String × Bool)) :
    List (String × Bool) :=
  (keys.map (fun k => (k, ((fs f).scale k).isSome))).foldl (fun d e => dictSet d e.1 e.2) d
def rc_ofFactor (fs : String → NcFile α) (f : String) (keys : List String) (d : List (String × α)) : List (String × α) :=
  (keys.filterMap (fun k => ((fs f).scale k).map (fun sc => (k, narrow sc.1)))).foldl (fun d e => dictSet d e.1 e.2) d
def rc_ofOffset (fs : String → NcFile α) (f : String) (keys : List String) (d : List (String × α)) : List (String × α) :=
  (keys.filterMap (fun k => ((fs f).scale k).map (fun sc => (k, narrow sc.2)))).foldl (fun d e => dictSet d e.1 e.2) d

theorem rc_of_fold (fs : String → NcFile α) (f : String) : ∀ (keys : List String) (s : RdSt α),
    (keys.foldl (rc_ofTrip fs f) s).o =
      { s.o with scaled := rc_ofScaled fs f keys s.o.scaled, scaleFactor := rc_ofFactor fs f keys s.o.scaleFactor,
                 addOffset := rc_ofOffset fs f keys s.o.addOffset } ∧
    (keys.foldl (rc_ofTrip fs f) s).ncLoc = s.ncLoc
  | [], s => ⟨rfl, rfl⟩
  | k :: keys, s => by
    obtain ⟨h1, h2⟩ := rc_of_fold fs f keys (rc_ofTrip fs f s k)
    simp only [List.foldl_cons, h1, h2]
    unfold rc_ofTrip rc_ofScaled rc_ofFactor rc_ofOffset
    cases hsc : (fs f).scale k <;> simp [hsc]

/-- the object after `open_forcing_file` has opened file `f`: `_nc` is the new dataset, the scaling dicts are rebuilt
for `['u', 'v'] + ibm_forcing`; the previous dataset is *not* closed here -/
def rc_openFileObj (fs : String → NcFile α) (o : FObj α) (f : String) : FObj α :=
  { o with nc := some f, opened := o.opened ++ [f],
           scaled := rc_ofScaled fs f ("u" :: "v" :: o.ibm) [],
           scaleFactor := rc_ofFactor fs f ("u" :: "v" :: o.ibm) [],
           addOffset := rc_ofOffset fs f ("u" :: "v" :: o.ibm) [] }

/-- **`Forcing.open_forcing_file(n)`** (`Gen.forcing_open_file_seq`): the file is `file_idx[n]` (`KeyError` for an
unknown step) -/
theorem forcing_open_file (fs : String → NcFile α) (z : α) (o : FObj α) (n : Int) :
    openFileSeq fs z o n = some ((o.fileIdx.lookup n).map (rc_openFileObj fs o)) := by
  have hs := ofStep.eq_def fs n
  have hl := ofIsLoop.eq_def
  have hi := ofIter.eq_def (α := α)
  unfold ofStep.match_3 at hs
  unfold ofIsLoop.match_1 at hl hi
  unfold openFileSeq
  rw [rc_nest_run_eq _ _ _ (rc_of_known fs n _), rc_lift_eq]
  cases hl' : o.fileIdx.lookup n with
  | none =>
    simp only [Gen.forcing_open_file_seq, ofInterp, hs, hl, RdSt.init, hl', Loops.blocks, Loops.loopOf,
      rc_runBlocks_plain, Run.fnThen_some, Run.fnThen_raise, guardEnter, String.reduceEq, ↓reduceDIte, ↓reduceIte,
      Option.map_none]
  | some f =>
    have hL := rc_of_loop fs n f
    simp only [rc_ofBody, Gen.forcing_open_file_seq, List.drop, List.take, ofInterp] at hL
    simp only [Gen.forcing_open_file_seq, ofInterp, hs, hl, hi, hL, RdSt.init, hl', Loops.blocks, Loops.loopOf,
      Loops.outerGuard, List.takeWhile_cons, Bool.not_true, Bool.false_eq_true, rc_runBlocks_plain,
      rc_runBlocks_loop, rc_runBlocks_nil, Run.fnThen_some, guardEnter, String.reduceEq, ↓reduceDIte, ↓reduceIte,
      Option.map_some, rc_of_fold fs f]
    rfl

/-! ### `_read_velocity` -/

/-- the open / close logic at the head of `_read_velocity(n)`: first read — open `file_idx[n]`; `frame_idx[n] == 0` —
close the open dataset, open `file_idx[n]`; otherwise keep the open dataset, whatever `file_idx[n]` is.
`none` = `KeyError` -/
def rc_rvOpen (fs : String → NcFile α) (o : FObj α) (n : Int) : Option (FObj α) :=
  match o.nc with
  | none => (o.fileIdx.lookup n).map (rc_openFileObj fs o)
  | some g =>
    if o.frameIdx.lookup n == some 0 then
      (o.fileIdx.lookup n).map (rc_openFileObj fs { o with closed := o.closed ++ [g] })
    else some o

/-- reading frame `frame_idx[n]` of the open dataset: the raw values, times `scale_factor` (as `float32`) when
`self.scaled['u']` — for `v` too, `add_offset` is not applied — times the land mask.  `none` = the read raises -/
def rc_rvRead (fs : String → NcFile α) (Mu Mv : α) (o : FObj α) (n : Int) : Option (α × α) :=
  match o.frameIdx.lookup n, o.nc with
  | some k, some f =>
    if o.scaled.lookup "u" == some true then
      match o.scaleFactor.lookup "u", o.scaleFactor.lookup "v" with
      | some cu, some cv => some (cu * (fs f).var "u" k * Mu, cv * (fs f).var "v" k * Mv)
      | _, _ => none
    else some ((fs f).var "u" k * Mu, (fs f).var "v" k * Mv)
  | _, _ => none

/-- the read proper: the last eight statements of the sequence (it has no loops) -/
def rc_rvTail : List Loops.Block := (Gen.forcing_read_velocity_seq.drop 4).map .plain

theorem rc_rv_known (fs : String → NcFile α) (Mu Mv z : α) (n : Int) (s : RdSt α) :
    Gen.forcing_read_velocity_seq.all (stmtKnown (rvInterp fs Mu Mv z n) s) = true := by
  have hs := rvStep.eq_def fs Mu Mv z n
  have ha := rvAtom.eq_def (α := α) n
  unfold rvStep.match_1 at hs
  unfold rvAtom.match_1 at ha
  simp only [Gen.forcing_read_velocity_seq, rvInterp, hs, ha, stmtKnown, condKnown, Nest.ofAtom, Loops.loopOf,
    List.all_cons, List.all_nil, String.reduceEq, String.reduceBEq, ↓reduceDIte, ↓reduceIte, Option.isSome_some,
    Option.map_some, Bool.false_eq_true, Option.isSome_none, rc_lift_isSome, forcing_open_file]
  rfl

/-- the read proper, in any state -/
theorem rc_rv_tail (fs : String → NcFile α) (Mu Mv z : α) (n : Int) (s : RdSt α) :
    retVal (fun s => s.retUV.map (fun uv => (uv, s.o)))
        (runBlocks (rvInterp fs Mu Mv z n) (runDepth (rvInterp fs Mu Mv z n) 2) rc_rvTail s) =
      some ((rc_rvRead fs Mu Mv s.o n).map (fun uv => (uv, s.o))) := by
  have hs := rvStep.eq_def fs Mu Mv z n
  have ha := rvAtom.eq_def (α := α) n
  unfold rvStep.match_1 at hs
  unfold rvAtom.match_1 at ha
  unfold rc_rvRead
  rw [rc_retVal_eq]
  simp only [rc_rvTail, Gen.forcing_read_velocity_seq, List.drop, List.map, rvInterp, hs, ha, Nest.ofAtom,
    rc_runBlocks_plain, rc_runBlocks_nil, Run.fnThen_some, Run.fnThen_raise, Run.fnThen_ite, Run.fnThen_map, Run.fnThen_elim,
    guardEnter, String.reduceEq, ↓reduceDIte, ↓reduceIte, Option.map_some, Bool.false_eq_true, beq_true, ite_self]
  cases s.o.frameIdx.lookup n <;> cases s.o.nc <;> cases (s.o.scaled.lookup "u" == some true) <;>
    cases s.o.scaleFactor.lookup "u" <;> cases s.o.scaleFactor.lookup "v" <;> rfl

/-- `_read_velocity(n)` in closed form: the open / close logic, then the read from the dataset that is open then -/
def rc_readVelSpec (fs : String → NcFile α) (Mu Mv : α) (o : FObj α) (n : Int) : Option (Option ((α × α) × FObj α)) :=
  match rc_rvOpen fs o n with
  | none => some none
  | some o1 => some ((rc_rvRead fs Mu Mv o1 n).map (fun uv => (uv, o1)))

/-- **`Forcing._read_velocity(n)`** (`Gen.forcing_read_velocity_seq`) -/
theorem forcing_read_velocity (fs : String → NcFile α) (Mu Mv z : α) (o : FObj α) (n : Int) :
    readVelocitySeq fs Mu Mv z o n = rc_readVelSpec fs Mu Mv o n := by
  have hs := rvStep.eq_def fs Mu Mv z n
  have ha := rvAtom.eq_def (α := α) n
  unfold rvStep.match_1 at hs
  unfold rvAtom.match_1 at ha
  have hT := rc_rv_tail fs Mu Mv z n
  have hb : Loops.blocks (rvInterp fs Mu Mv z n).isLoop Gen.forcing_read_velocity_seq =
      (Gen.forcing_read_velocity_seq.take 4).map .plain ++ rc_rvTail := by
    rw [show (rvInterp fs Mu Mv z n).isLoop = fun _ => false from rfl, rc_blocks_plain]
    rfl
  simp only [rvInterp, rc_retVal_eq] at hT
  unfold readVelocitySeq rc_readVelSpec rc_rvOpen
  rw [rc_nest_run_eq _ _ _ (rc_rv_known fs Mu Mv z n _), hb, rc_retVal_eq]
  simp only [Gen.forcing_read_velocity_seq, List.take, List.map, List.cons_append, List.nil_append, rvInterp, hs, ha,
    hT, RdSt.init, Nest.ofAtom, rc_runBlocks_plain, Run.fnThen_some, Run.fnThen_raise, Run.fnThen_ite, Run.fnThen_map,
    Run.fnThen_elim, rc_lift_eq, forcing_open_file, guardEnter, String.reduceEq, ↓reduceDIte, ↓reduceIte,
    Option.map_some, Bool.false_eq_true, beq_true, beq_false, Bool.not_eq_true', ite_self]
  cases hnc : o.nc <;> cases hl : o.fileIdx.lookup n <;> cases hz : (o.frameIdx.lookup n == some 0) <;>
    simp only [Option.isNone_none, Option.isNone_some, ↓reduceIte, Option.elim_some, Option.elim_none,
      Option.map_some, Option.map_none, Bool.true_eq_false, Bool.false_eq_true]

/-! ### `_read_field` -/

/-- `_read_field(name, n)` in closed form: frame `frame_idx[n]` of the dataset that is *open* (nothing is opened
here), `add_offset + scale_factor * raw` when `self.scaled[name]`.  `none` = the read raises -/
def rc_readFieldSpec (fs : String → NcFile α) (o : FObj α) (name : String) (n : Int) : Option α :=
  match o.frameIdx.lookup n, o.nc with
  | some k, some f =>
    if o.scaled.lookup name == some true then
      match o.addOffset.lookup name, o.scaleFactor.lookup name with
      | some a, some c => some (a + c * (fs f).var name k)
      | _, _ => none
    else some ((fs f).var name k)
  | _, _ => none

/-- **`Forcing._read_field(name, n)`** (`Gen.forcing_read_field_seq`) -/
theorem forcing_read_field (fs : String → NcFile α) (z : α) (o : FObj α) (name : String) (n : Int) :
    readFieldSeq fs z o name n = some (rc_readFieldSpec fs o name n) := by
  have hs := rfStep.eq_def fs name n
  have ha := rfAtom.eq_def (α := α) name
  unfold rfStep.match_4 at hs
  unfold rfAtom.match_1 at ha
  have hk : ∀ s : RdSt α, Gen.forcing_read_field_seq.all
      (stmtKnown ⟨Nest.ofAtom (rfAtom name), rfStep fs name n, fun _ => false, fun _ _ => []⟩ s) = true := fun s => by
    simp only [Gen.forcing_read_field_seq, hs, ha, stmtKnown, condKnown, Nest.ofAtom, Loops.loopOf, List.all_cons,
      List.all_nil, String.reduceEq, String.reduceBEq, ↓reduceDIte, ↓reduceIte, Option.isSome_some, Option.map_some,
      Bool.false_eq_true, Option.isSome_none]
    rfl
  unfold readFieldSeq rc_readFieldSpec
  rw [rc_nest_run_eq _ _ _ (hk _), rc_blocks_plain, rc_retVal_eq]
  simp only [Gen.forcing_read_field_seq, List.map, hs, ha, RdSt.init, Nest.ofAtom, rc_runBlocks_plain,
    rc_runBlocks_nil, Run.fnThen_some, Run.fnThen_raise, Run.fnThen_ite, Run.fnThen_map, Run.fnThen_elim, guardEnter,
    String.reduceEq, ↓reduceDIte, ↓reduceIte, Option.map_some, Bool.false_eq_true, beq_true, ite_self]
  cases o.frameIdx.lookup n <;> cases o.nc <;> cases (o.scaled.lookup name == some true) <;>
    cases o.addOffset.lookup name <;> cases o.scaleFactor.lookup name <;> rfl

/-! ### what the readers serve -/

theorem rc_lookup_filterMap_fn {ν : Type} (h : String → Option ν) (k : String) : ∀ (ks : List String), k ∈ ks →
    (ks.filterMap (fun k => (h k).map (fun v => (k, v)))).lookup k = h k
  | [], hk => by cases hk
  | a :: ks, hk => by
    by_cases hka : k = a
    · subst hka
      cases hh : h k with
      | none =>
        simp only [List.filterMap_cons, hh, Option.map_none]
        rw [List.lookup_eq_none_iff]
        intro p hp
        simp only [List.mem_filterMap] at hp
        obtain ⟨b, _, hb⟩ := hp
        cases hhb : h b with
        | none => rw [hhb] at hb; cases hb
        | some v =>
          rw [hhb] at hb
          simp only [Option.map_some, Option.some.injEq] at hb
          subst hb
          simp only [bne_iff_ne, ne_eq]
          intro e; subst e; rw [hh] at hhb; cases hhb
      | some v => simp [List.filterMap_cons, hh, List.lookup_cons]
    · have hk' : (k == a) = false := by simpa using hka
      have hmem : k ∈ ks := by
        rcases List.mem_cons.mp hk with h' | h'
        · exact absurd h' hka
        · exact h'
      cases hh : h a with
      | none =>
        simp only [List.filterMap_cons, hh, Option.map_none]
        exact rc_lookup_filterMap_fn h k ks hmem
      | some v =>
        simp only [List.filterMap_cons, hh, Option.map_some, List.lookup_cons, hk']
        exact rc_lookup_filterMap_fn h k ks hmem

/-- after `open_forcing_file` has opened `f`: the scaling entries of every forcing variable are those of `f` -/
theorem rc_openFileObj_lookup (fs : String → NcFile α) (o : FObj α) (f : String) (k : String)
    (hk : k ∈ "u" :: "v" :: o.ibm) :
    (rc_openFileObj fs o f).scaled.lookup k = some ((fs f).scale k).isSome ∧
    (rc_openFileObj fs o f).scaleFactor.lookup k = ((fs f).scale k).map (fun sc => narrow sc.1) ∧
    (rc_openFileObj fs o f).addOffset.lookup k = ((fs f).scale k).map (fun sc => narrow sc.2) := by
  have hr : k ∈ ("u" :: "v" :: o.ibm).reverse := List.mem_reverse.mpr hk
  refine ⟨?_, ?_, ?_⟩
  · show (dictOf (("u" :: "v" :: o.ibm).map (fun k => (k, ((fs f).scale k).isSome)))).lookup k = _
    rw [rc_lookup_dictOf, ← List.map_reverse]
    exact rc_lookup_map_fn (fun k => ((fs f).scale k).isSome) k _ hr
  · show (dictOf (("u" :: "v" :: o.ibm).filterMap
      (fun k => ((fs f).scale k).map (fun sc => (k, narrow sc.1))))).lookup k = _
    rw [rc_lookup_dictOf, ← List.filterMap_reverse]
    have e : (fun k => ((fs f).scale k).map (fun sc => (k, narrow sc.1))) =
        (fun k => (((fs f).scale k).map (fun sc => narrow sc.1)).map (fun v => (k, v))) := by
      funext k; simp [Option.map_map, Function.comp_def]
    rw [e]
    exact rc_lookup_filterMap_fn (fun k => ((fs f).scale k).map (fun sc => narrow sc.1)) k _ hr
  · show (dictOf (("u" :: "v" :: o.ibm).filterMap
      (fun k => ((fs f).scale k).map (fun sc => (k, narrow sc.2))))).lookup k = _
    rw [rc_lookup_dictOf, ← List.filterMap_reverse]
    have e : (fun k => ((fs f).scale k).map (fun sc => (k, narrow sc.2))) =
        (fun k => (((fs f).scale k).map (fun sc => narrow sc.2)).map (fun v => (k, v))) := by
      funext k; simp [Option.map_map, Function.comp_def]
    rw [e]
    exact rc_lookup_filterMap_fn (fun k => ((fs f).scale k).map (fun sc => narrow sc.2)) k _ hr

/-- the velocity of frame `k` of file `f` as `_read_velocity` serves it: the raw values, times `float32(scale_factor)`
when `u` has that attribute (then `v` must have it, too: `KeyError` otherwise = `none`; `add_offset` is ignored),
times the land masks -/
def rc_frameVel (fs : String → NcFile α) (Mu Mv : α) (f : String) (k : Nat) : Option (α × α) :=
  match (fs f).scale "u" with
  | none => some ((fs f).var "u" k * Mu, (fs f).var "v" k * Mv)
  | some su =>
    match (fs f).scale "v" with
    | some sv => some (narrow su.1 * (fs f).var "u" k * Mu, narrow sv.1 * (fs f).var "v" k * Mv)
    | none => none

/-- the field `name` of frame `k` of file `f` as `_read_field` serves it -/
def rc_frameField (fs : String → NcFile α) (f name : String) (k : Nat) : α :=
  match (fs f).scale name with
  | none => (fs f).var name k
  | some sc => narrow sc.2 + narrow sc.1 * (fs f).var name k

/-- a read right after `open_forcing_file` opened `f` serves frame `frame_idx[n]` of `f` -/
theorem rc_rvRead_openFileObj (fs : String → NcFile α) (Mu Mv : α) (o : FObj α) (f : String) (n : Int) (k : Nat)
    (hk : o.frameIdx.lookup n = some k) :
    rc_rvRead fs Mu Mv (rc_openFileObj fs o f) n = rc_frameVel fs Mu Mv f k := by
  obtain ⟨hu1, hu2, _⟩ := rc_openFileObj_lookup fs o f "u" (by simp)
  obtain ⟨_, hv2, _⟩ := rc_openFileObj_lookup fs o f "v" (by simp)
  have hfi : (rc_openFileObj fs o f).frameIdx = o.frameIdx := rfl
  have hnc : (rc_openFileObj fs o f).nc = some f := rfl
  unfold rc_rvRead rc_frameVel
  rw [hfi, hk, hnc, hu1, hu2, hv2]
  cases hsu : (fs f).scale "u" with
  | none => simp
  | some su => cases hsv : (fs f).scale "v" <;> simp

theorem rc_readFieldSpec_openFileObj (fs : String → NcFile α) (o : FObj α) (f name : String) (n : Int) (k : Nat)
    (hk : o.frameIdx.lookup n = some k) (hname : name ∈ "u" :: "v" :: o.ibm) :
    rc_readFieldSpec fs (rc_openFileObj fs o f) name n = some (rc_frameField fs f name k) := by
  obtain ⟨h1, h2, h3⟩ := rc_openFileObj_lookup fs o f name hname
  have hfi : (rc_openFileObj fs o f).frameIdx = o.frameIdx := rfl
  have hnc : (rc_openFileObj fs o f).nc = some f := rfl
  unfold rc_readFieldSpec rc_frameField
  rw [hfi, hk, hnc, h1, h2, h3]
  cases hs : (fs f).scale name <;> simp

/-- **first read, or first frame of a file**: `_read_velocity(n)` opens `file_idx[n]` (after closing the dataset that
was open, if any) and returns frame `frame_idx[n]` of that file -/
theorem forcing_read_velocity_opens (fs : String → NcFile α) (Mu Mv z : α) (o : FObj α) (n : Int) (f : String)
    (k : Nat) (hf : o.fileIdx.lookup n = some f) (hk : o.frameIdx.lookup n = some k)
    (hopen : o.nc = none ∨ k = 0) :
    readVelocitySeq fs Mu Mv z o n =
      some ((rc_frameVel fs Mu Mv f k).map (fun uv =>
        (uv, rc_openFileObj fs (match o.nc with | none => o | some g => { o with closed := o.closed ++ [g] }) f))) := by
  rw [forcing_read_velocity]
  unfold rc_readVelSpec rc_rvOpen
  cases hnc : o.nc with
  | none =>
    simp only [hf, Option.map_some]
    rw [rc_rvRead_openFileObj fs Mu Mv o f n k hk]
  | some g =>
    have hk0 : k = 0 := by
      rcases hopen with h | h
      · rw [hnc] at h; cases h
      · exact h
    subst hk0
    simp only [hk, beq_self_eq_true, if_true, hf, Option.map_some]
    have := fun (o' : FObj α) (h : o'.frameIdx.lookup n = some 0) => rc_rvRead_openFileObj fs Mu Mv o' f n 0 h
    rw [this]
    exact hk

/-- **a later frame**: when a dataset `g` is open (the object is as `open_forcing_file` left it) and
`frame_idx[n] ≠ 0`, `_read_velocity(n)` returns frame `frame_idx[n]` of the *open* file `g` — `file_idx[n]` is not
looked at — and leaves the object alone -/
theorem forcing_read_velocity_same_file (fs : String → NcFile α) (Mu Mv z : α) (o : FObj α) (g : String) (n : Int)
    (k : Nat) (hk : o.frameIdx.lookup n = some k) (hk0 : k ≠ 0) :
    readVelocitySeq fs Mu Mv z (rc_openFileObj fs o g) n =
      some ((rc_frameVel fs Mu Mv g k).map (fun uv => (uv, rc_openFileObj fs o g))) := by
  rw [forcing_read_velocity]
  unfold rc_readVelSpec rc_rvOpen
  have hnc : (rc_openFileObj fs o g).nc = some g := rfl
  have hfi : (rc_openFileObj fs o g).frameIdx = o.frameIdx := rfl
  have hne : (some k == some 0) = false := by simpa using hk0
  simp only [hnc, hfi, hk, hne, Bool.false_eq_true, if_false]
  rw [rc_rvRead_openFileObj fs Mu Mv o g n k hk]

/-- `_read_field(name, n)` on an object as `open_forcing_file` left it with `g` open: frame `frame_idx[n]` of the
*open* file `g` -/
theorem forcing_read_field_open (fs : String → NcFile α) (z : α) (o : FObj α) (g name : String) (n : Int) (k : Nat)
    (hk : o.frameIdx.lookup n = some k) (hname : name ∈ "u" :: "v" :: o.ibm) :
    readFieldSeq fs z (rc_openFileObj fs o g) name n = some (some (rc_frameField fs g name k)) := by
  rw [forcing_read_field, rc_readFieldSpec_openFileObj fs o g name n k hk hname]

end readers
end Bridge

namespace Bridge

/-! ## a read that does not come from `file_idx[n]` -/
namespace RomsReadFieldExample

local instance : HasNarrow Int := ⟨id⟩

/-- two files: `a.nc` with the single frame at the start time (fields 30), `b.nc` with frames 600 s and 1200 s later
(fields 130, 131); nothing is scaled -/
def fs : String → NcFile Int := fun f =>
  if f = "a.nc" then ⟨[0], fun _ k => 30 + k, fun _ => none⟩ else ⟨[600, 1200], fun _ k => 130 + k, fun _ => none⟩

def cfg : Config := ⟨["temp"], ⟨.list ["a.nc", "b.nc"], none, none⟩, 0, 1200, 600⟩

/-- the constructed object: steps `[0, 1, 2]`, `file_idx = {0: a, 1: b, 2: b}`, `frame_idx = {0: 0, 1: 0, 2: 1}` -/
def o0 : FObj Int := rc_ctorObj cfg ["a.nc", "b.nc"] ([0, 1, 2], [(0, "a.nc"), (1, "b.nc"), (2, "b.nc")], [(0, 0), (1, 0), (2, 1)])
def o1 : FObj Int := rc_openFileObj fs o0 "a.nc"
def o2 : FObj Int := rc_openFileObj fs { o1 with closed := ["a.nc"] } "b.nc"

/-- The simulation starts on the only frame of the first file.  `_remaining_initialization` (branch
`steps[0] == 0`) calls `_read_velocity(0)`, `_read_velocity(steps[1])` and then `_read_field(name, 0)`: the second
velocity read has moved on to `b.nc` (its `frame_idx` is 0), so the field "at step 0" is read from frame
`frame_idx[0] = 0` of `b.nc` — the field of step 1 (130), not that of step 0 (30 = `rc_frameField fs "a.nc" "temp" 0`). -/
theorem read_field_of_step_0_comes_from_next_file :
    ctorSeq (fun _ => []) fs cfg = some (some o0) ∧
    readVelocitySeq fs 1 1 0 o0 0 = some (some ((30, 30), o1)) ∧
    readVelocitySeq fs 1 1 0 o1 1 = some (some ((130, 130), o2)) ∧
    readFieldSeq fs 0 o2 "temp" 0 = some (some 130) ∧
    o2.fileIdx.lookup 0 = some "a.nc" ∧ rc_frameField fs "a.nc" "temp" 0 = 30 := by
  refine ⟨?_, ?_, ?_, ?_, rfl, rfl⟩
  · rw [forcing_ctor]; rfl
  · rw [forcing_read_velocity]; rfl
  · rw [forcing_read_velocity]; rfl
  · rw [forcing_read_field]; rfl

end RomsReadFieldExample
end Bridge

namespace Bridge

/-! ## the step table as the `Frames` of the C06 model -/

/-- with strictly increasing steps every frame is found under its own step: `file_idx[steps[k]]` is the file of frame
`k`, `frame_idx[steps[k]]` its position in that file -/
theorem rc_stepsTable_lookup_sorted (A : StepsArgs) (hs : C06.Sorted (rc_tableSteps A)) (k : Nat)
    (hk : k < (rc_frameLabels A.files A.numFrames).length) (hk' : k < (rc_tableSteps A).length) :
    (rc_stepsTable A).2.1.lookup (rc_tableSteps A)[k] = some (rc_frameLabels A.files A.numFrames)[k].1 ∧
    (rc_stepsTable A).2.2.lookup (rc_tableSteps A)[k] = some (rc_frameLabels A.files A.numFrames)[k].2 :=
  rc_stepsTable_lookup A k hk hk' (fun j hj hkj => by
    have := (List.pairwise_iff_getElem.mp hs) k j hk' hj hkj
    omega)

section frames
variable {α : Type} [Add α] [Mul α] [HasNarrow α]

/-- the input of the C06 model (`Roms.Frames`) that the step table and the readers define: the steps of the table;
`vel n` / `sc n` = the `u` velocity / the field `name` of frame `frame_idx[n]` of file `file_idx[n]` as the readers
serve them (`z` where the table has no entry or the read raises) -/
def rc_framesOfFiles (fs : String → NcFile α) (Mu Mv z : α) (name : String) (A : StepsArgs) : Roms.Frames α where
  steps := rc_tableSteps A
  vel := fun n =>
    match (rc_stepsTable A).2.1.lookup n, (rc_stepsTable A).2.2.lookup n with
    | some f, some k => ((rc_frameVel fs Mu Mv f k).map (·.1)).getD z
    | _, _ => z
  sc := fun n =>
    match (rc_stepsTable A).2.1.lookup n, (rc_stepsTable A).2.2.lookup n with
    | some f, some k => rc_frameField fs f name k
    | _, _ => z

/-- for strictly increasing steps `vel` / `sc` at the step of frame `k` are the values of frame `k` itself -/
theorem rc_framesOfFiles_at (fs : String → NcFile α) (Mu Mv z : α) (name : String) (A : StepsArgs)
    (hs : C06.Sorted (rc_tableSteps A)) (k : Nat) (hk : k < (rc_frameLabels A.files A.numFrames).length)
    (hk' : k < (rc_tableSteps A).length) :
    (rc_framesOfFiles fs Mu Mv z name A).vel (rc_tableSteps A)[k] =
      ((rc_frameVel fs Mu Mv (rc_frameLabels A.files A.numFrames)[k].1 (rc_frameLabels A.files A.numFrames)[k].2).map
        (·.1)).getD z ∧
    (rc_framesOfFiles fs Mu Mv z name A).sc (rc_tableSteps A)[k] =
      rc_frameField fs (rc_frameLabels A.files A.numFrames)[k].1 name (rc_frameLabels A.files A.numFrames)[k].2 := by
  obtain ⟨h1, h2⟩ := rc_stepsTable_lookup_sorted A hs k hk hk'
  simp only [rc_framesOfFiles, h1, h2]
  trivial

end frames
end Bridge
