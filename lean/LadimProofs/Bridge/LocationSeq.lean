import LadimProofs.C03
import LadimModel.Release.LocationSeq
import LadimProofs.Bridge.Runners
/-!
# Bridge (C03, C17) — `get_location`, `get_location_offset`, `latlon_from_poly`: the statement sequences of the code

`Gen.get_location_seq`, `Gen.get_location_offset_seq`, `Gen.latlon_from_poly_seq` (guard, kind and text of every
statement of the three functions of `release/makrel.py`, regenerated from the current source) are interpreted by
`LadimModel/Release/LocationSeq.lean` (runner `Seq.runRet`: every statement, condition and `return` expression must be a
known text, also in branches that are not taken).  The theorems give the interpretation of each sequence in closed form,
for *every* input and without hypotheses (`none` = the code raises or leaves the modelled value space):

* `Bridge.latlon_from_poly` : `latlonFromPolySpec` — the `(lat, lon)` vertex rows (`polyCoords`: a single polygon is
  wrapped into a one-element list), `tri` (= `triangulate_nonconvex_multi`) on them, `Seq.sampleTriangles`
  (= `Sample.samplePoint` per particle, `sampleTriangles_points`) on its triangles, and `polynum[triangle_num]`;
  returned `(first coordinates = lat, second coordinates = lon, polygon numbers)`.
* `Bridge.get_location_offset` : `locationOffsetSpec` — `Gen.metric_to_deg` with the *centre* latitude as reference,
  polygon = centre + offsets, `latlon_from_poly(plat, plon, num)`, returned as `(lon, lat)`; the caller's mapping
  is returned unchanged (`get_location_offset_conf`).
* `Bridge.get_location` : `locationSpec` — the dispatch on the form of `loc_conf`, `latlon_from_poly(lat_spec, lon_spec,
  num)` with the latitude first, the property columns without `longitude` / `latitude`, and the returned mapping
  `{longitude, latitude, **properties}` (`locFrame`, `locFrame_eq_cons`).

Only the operations of the scalar type are used in these three theorems (no field or order laws): they hold for every
scalar type, `Float` included.  `latlon_in_triangles` (ordered field) connects to `C03.sample_in_chosen_triangle`.
There is no hand-written `latlonFromPoly` / `getLocation` in `LadimModel/Release/Sample.lean`; the closed forms are
defined here, on top of `Sample.samplePoint`, `Gen.metric_to_deg` and `Table.dictMerge`.
-/
open Ladim Ladim.Seq Ladim.Sample Ladim.Table

set_option linter.unusedSectionVars false
set_option linter.unusedVariables false
set_option linter.auxLemma false
namespace Bridge

/-! ### list lemmas -/
theorem mapM_map_some {β γ : Type} (f : β → Option γ) : ∀ (l : List β) (r : List γ), l.mapM f = some r →
    l.map f = r.map some
  | [], r, h => by
    simp at h; subst h; rfl
  | a :: l, r, h => by
    rw [List.mapM_cons] at h
    cases ha : f a with
    | none => simp [ha] at h
    | some b =>
      cases hl : l.mapM f with
      | none => simp [ha, hl] at h
      | some bs =>
        simp [ha, hl] at h
        subst h
        simp [ha, mapM_map_some f l bs hl]

theorem mapM_mem {β γ : Type} (f : β → Option γ) (l : List β) (r : List γ) (h : l.mapM f = some r) :
    ∀ b ∈ r, ∃ a ∈ l, f a = some b := by
  intro b hb
  have : some b ∈ l.map f := by rw [mapM_map_some f l r h]; exact List.mem_map.mpr ⟨b, hb, rfl⟩
  obtain ⟨a, ha, hab⟩ := List.mem_map.mp this
  exact ⟨a, ha, hab⟩

theorem lookup_step {β : Type} (k : String) (kv : String × β) (hkv : (kv.1 == k) = false) :
    ∀ base : List (String × β),
    lookup (if base.any (fun p => p.1 == kv.1) then base.map (fun p => if p.1 == kv.1 then (p.1, kv.2) else p)
        else base ++ [kv]) k = lookup base k := by
  intro base
  have hmap : lookup (base.map (fun p => if p.1 == kv.1 then (p.1, kv.2) else p)) k = lookup base k := by
    unfold lookup
    induction base with
    | nil => rfl
    | cons q base ihb =>
      simp only [List.map_cons, List.find?_cons]
      by_cases hq : (q.1 == kv.1) = true
      · have hqk : (q.1 == k) = false := by
          have : q.1 = kv.1 := eq_of_beq hq
          rw [this]; exact hkv
        simp only [hq, if_true, hqk]
        exact ihb
      · have hq' : (q.1 == kv.1) = false := by simpa using hq
        simp only [hq', Bool.false_eq_true, if_false]
        cases hqk : (q.1 == k)
        · exact ihb
        · rfl
  have happ : lookup (base ++ [kv]) k = lookup base k := by
    unfold lookup
    rw [List.find?_append]
    cases List.find? (fun p => p.1 == k) base with
    | some v => rfl
    | none => simp [hkv]
  split
  · exact hmap
  · exact happ

theorem dictMerge_lookup_other {β : Type} (k : String) : ∀ (upd base : List (String × β)),
    (∀ p ∈ upd, (p.1 == k) = false) → lookup (dictMerge base upd) k = lookup base k := by
  intro upd
  induction upd with
  | nil => intro base _; rfl
  | cons kv upd ih =>
    intro base h
    have hkv : (kv.1 == k) = false := h kv List.mem_cons_self
    show lookup (dictMerge _ upd) k = _
    rw [ih _ (fun p hp => h p (List.mem_cons_of_mem _ hp))]
    exact lookup_step k kv hkv base

theorem dictMerge_fresh {β : Type} : ∀ (upd base : List (String × β)),
    (∀ p ∈ upd, ∀ q ∈ base, (q.1 == p.1) = false) → (upd.map (fun p => p.1)).Nodup → dictMerge base upd = base ++ upd := by
  intro upd
  induction upd with
  | nil => intro base _ _; exact (List.append_nil base).symm
  | cons kv upd ih =>
    intro base h hn
    have hany : base.any (fun p => p.1 == kv.1) = false :=
      List.any_eq_false.mpr fun q hq => ne_true_of_eq_false (h kv List.mem_cons_self q hq)
    show dictMerge (if base.any (fun p => p.1 == kv.1) then _ else base ++ [kv]) upd = _
    rw [List.map_cons, List.nodup_cons] at hn
    rw [hany, if_neg Bool.false_ne_true, ih (base ++ [kv]) ?_ hn.2, List.append_assoc, List.singleton_append]
    intro p hp q hq
    rcases List.mem_append.mp hq with hq | hq
    · exact h p (List.mem_cons_of_mem _ hp) q hq
    · rw [List.mem_singleton.mp hq]
      exact beq_false_of_ne fun e => hn.1 (e ▸ List.mem_map_of_mem hp)

/-! ### the three sequences -/
section
variable {α : Type} [Add α] [Sub α] [Mul α] [Div α] [Neg α] [LT α] [DecidableLT α] [OfScientific α]

/-- the vertex rows handed to the triangulation: per polygon the list of `(lat, lon)` pairs; a single polygon (two flat
lists) becomes a one-element list; `none` = `np.stack` raises (rows of different lengths, mixed nesting) -/
def polyCoords : Coord α → Coord α → Option (List (List (α × α)))
  | .single la, .single lo => if la.length = lo.length then some [la.zip lo] else none
  | .multi la, lon => stackCoords (.multi la) lon
  | _, _ => none

/-- closed form of `latlon_from_poly(lat, lon, n)`: `(sampled first coordinates = lat, second = lon,
polygon number of every particle's triangle)`; `none` = the code raises / leaves the modelled value space -/
def latlonFromPolySpec (tri : List (List (α × α)) → Option (List (Tri α) × List Nat)) (draws : List (α × α × α))
    (lat lon : Coord α) (n : Nat) : Option (List α × List α × List Nat) :=
  if lat.hasFirst then
    (polyCoords lat lon).bind fun coords =>
    (tri coords).bind fun tp =>
    (sampleTriangles tp.1 n draws).bind fun r =>
    (takeIdx tp.2 r.2.2).map fun p => (r.1, r.2.1, p)
  else none

theorem stack_one (a b : List α) :
    stackCoords (.multi [a]) (.multi [b]) = if a.length = b.length then some [a.zip b] else none := by
  show [(a, b)].mapM _ = _
  rw [List.mapM_cons, List.mapM_nil]
  split <;> rfl

theorem poly_known (tri : List (List (α × α)) → Option (List (Tri α) × List Nat)) (draws : List (α × α × α))
    (s : PolySt α) :
    Gen.latlon_from_poly_seq.all (stmtKnown polyAtom (polyStep tri draws) polyRet s) = true := by
  simp only [Gen.latlon_from_poly_seq, List.all_cons, List.all_nil, stmtKnown, guardKnown, String.reduceEq,
    ↓reduceIte, polyAtom.eq_def, polyStep.eq_def, polyRet.eq_def, Option.isSome_some, Bool.and_self]

/-- the statements after the `if`, from any state -/
theorem poly_tail (tri : List (List (α × α)) → Option (List (Tri α) × List Nat)) (draws : List (α × α × α))
    (s : PolySt α) :
    Run.runPlain polyAtom (polyStep tri draws) polyRet (fun _ => none) (Gen.latlon_from_poly_seq.drop 2) s =
      some ((stackCoords s.lat s.lon).bind fun coords => (tri coords).bind fun tp =>
        (sampleTriangles tp.1 s.n draws).bind fun r => (takeIdx tp.2 r.2.2).map fun p => (r.1, r.2.1, p)) := by
  simp only [Gen.latlon_from_poly_seq, List.drop_succ_cons, List.drop_zero, Run.runPlain_exec, Run.runPlain_ret,
    Run.guardVal_nil, String.reduceEq, polyStep.eq_def, polyRet.eq_def]
  cases stackCoords s.lat s.lon with
  | none => rfl
  | some coords =>
    simp only [Option.map_some, Option.bind_some]
    cases tri coords with
    | none => rfl
    | some tp =>
      simp only [Option.map_some, Option.bind_some]
      cases sampleTriangles tp.1 s.n draws <;> rfl

theorem latlon_from_poly (tri : List (List (α × α)) → Option (List (Tri α) × List Nat)) (draws : List (α × α × α))
    (lat lon : Coord α) (n : Nat) :
    latlonFromPolySeq tri draws lat lon n = some (latlonFromPolySpec tri draws lat lon n) := by
  unfold latlonFromPolySeq latlonFromPolySpec
  rw [Run.runRet_eq_runPlain (poly_known tri draws), Gen.latlon_from_poly_seq]
  cases lat with
  | scalar x => rfl
  | single la =>
    cases la with
    | nil => rfl
    | cons x la =>
      have hg : ∀ s : PolySt α, s.latArg = .single (x :: la) →
          guardVal polyAtom s [(true, "np.shape(lat[0]) == ()")] = some true := fun s h =>
        Run.guardVal_pos (by simp only [polyAtom.eq_def, h])
      simp only [Coord.hasFirst, ↓reduceIte]
      rw [Run.runPlain_exec (hg _ rfl) (by decide)]
      simp only [polyStep.eq_def, Coord.wrap, Option.map_some]
      rw [Run.runPlain_exec (hg _ rfl) (by decide)]
      cases lon with
      | scalar y =>
        simp only [polyStep.eq_def, Coord.wrap, Option.map_some]
        exact poly_tail tri draws _
      | single lo =>
        simp only [polyStep.eq_def, Coord.wrap, Option.map_some]
        refine (poly_tail tri draws _).trans ?_
        simp only [stack_one, polyCoords]
      | multi lo =>
        simp only [polyStep.eq_def, Coord.wrap, Option.map_none]
        rfl
  | multi la =>
    cases la with
    | nil => rfl
    | cons r la =>
      have hg : ∀ s : PolySt α, s.latArg = .multi (r :: la) →
          guardVal polyAtom s [(true, "np.shape(lat[0]) == ()")] = some false := fun s h =>
        Run.guardVal_neg (by simp only [polyAtom.eq_def, h]; rfl)
      simp only [Coord.hasFirst, ↓reduceIte]
      rw [Run.runPlain_pass (hg _ rfl), Run.runPlain_pass (hg _ rfl)]
      exact poly_tail tri draws _
end

section
variable {α : Type} [Add α] [Sub α] [Mul α] [Div α] [Neg α] [LT α] [DecidableLT α] [OfScientific α]
  [HasSqrt α] [HasSin α] [HasCos α] [HasPi α]

/-- closed form of `get_location_offset(loc_conf, num)`: the offsets in metres become degrees with the *centre*
latitude `clat` as reference (`lonDiff clat`, `latDiff clat` = the components of `Gen.metric_to_deg · · clat`), the
polygon is centre + offsets, `latlon_from_poly` gets the latitudes first, the result is `(lon, lat)` -/
def locationOffsetSpec (tri : List (List (α × α)) → Option (List (Tri α) × List Nat)) (draws : List (α × α × α))
    (c : OffsetConf α) (num : Nat) : Option (OffsetResult α) :=
  match c.center with
  | none => none
  | some (clon, clat) =>
    match c.offset.1.mapArr (lonDiff clat), c.offset.2.mapArr (latDiff clat) with
    | some dlon, some dlat =>
      (latlonFromPolySpec tri draws (dlat.map (fun d => clat + d)) (dlon.map (fun d => clon + d)) num).map
        (fun r => ⟨r.2.1, r.1, c⟩)
    | _, _ => none

theorem off_known (tri : List (List (α × α)) → Option (List (Tri α) × List Nat)) (draws : List (α × α × α))
    (s : OffSt α) : Gen.get_location_offset_seq.all (stmtKnown offAtom (offStep tri draws) offRet s) = true := by
  simp only [Gen.get_location_offset_seq, List.all_cons, List.all_nil, stmtKnown, guardKnown, String.reduceEq,
    ↓reduceIte, offStep.eq_def, offRet.eq_def, latlon_from_poly, Option.isSome_some, Option.map_some,
    Bool.and_self]

theorem get_location_offset (tri : List (List (α × α)) → Option (List (Tri α) × List Nat)) (draws : List (α × α × α))
    (c : OffsetConf α) (num : Nat) :
    getLocationOffsetSeq tri draws c num = some (locationOffsetSpec tri draws c num) := by
  unfold getLocationOffsetSeq
  rw [Run.runRet_eq_runPlain (off_known tri draws), Gen.get_location_offset_seq]
  simp only [Run.runPlain_exec, Run.runPlain_ret, Run.guardVal_nil, String.reduceEq, offStep.eq_def, offRet.eq_def,
    latlon_from_poly, OffSt.init]
  obtain ⟨_ | ⟨clon, clat⟩, olon, olat⟩ := c
  · rfl
  · simp only [Option.map_some, locationOffsetSpec]
    cases olon.mapArr (lonDiff clat) with
    | none => rfl
    | some dlon =>
      cases olat.mapArr (latDiff clat) with
      | none => rfl
      | some dlat =>
        simp only [Option.map_some]
        cases latlonFromPolySpec tri draws (dlat.map (fun d => clat + d)) (dlon.map (fun d => clon + d)) num <;> rfl

/-- the property columns without `longitude` / `latitude` -/
def locProps (attrs : Frame α) : Frame α := attrs.filter (fun p => !(p.1 == "longitude" || p.1 == "latitude"))

/-- `{**dict(longitude=lon, latitude=lat), **loc_attrs}` after the removal of the two keys from `loc_attrs` -/
def locFrame (lon lat : List α) (attrs : Frame α) : Frame α :=
  dictMerge [("longitude", lon.map Cell.num), ("latitude", lat.map Cell.num)] (locProps attrs)

/-- closed form of `get_location(loc_conf, num)`; `none` = the code raises / leaves the modelled value space (a scalar
longitude with a non-scalar latitude gives a list of sequences: no exception, but not a position column) -/
def locationSpec {φ : Type} (openFile : String → Option φ) (locFile : φ → Nat → Option (List α × List α × Frame α))
    (tri : List (List (α × α)) → Option (List (Tri α) × List Nat)) (draws : List (α × α × α))
    (c : LocConf α φ) (num : Nat) : Option (Frame α) :=
  match c with
  | .fileName name => ((openFile name).bind (fun f => locFile f num)).map (fun r => locFrame r.1 r.2.1 r.2.2)
  | .stream f => (locFile f num).map (fun r => locFrame r.1 r.2.1 r.2.2)
  | .offset oc => (locationOffsetSpec tri draws oc num).map (fun r => locFrame r.lon r.lat [])
  | .pair lonSpec latSpec =>
    match lonSpec with
    | .scalar x =>
      match latSpec with
      | .scalar y => some (locFrame (List.replicate num x) (List.replicate num y) [])
      | _ => none
    | _ => (latlonFromPolySpec tri draws latSpec lonSpec num).map (fun r => locFrame r.2.1 r.1 [])

theorem loc_known {φ : Type} (openFile : String → Option φ) (locFile : φ → Nat → Option (List α × List α × Frame α))
    (tri : List (List (α × α)) → Option (List (Tri α) × List Nat)) (draws : List (α × α × α)) (s : LocSt α φ) :
    Gen.get_location_seq.all (stmtKnown locAtom (locStep openFile locFile tri draws) locRet s) = true := by
  simp only [Gen.get_location_seq, List.all_cons, List.all_nil, stmtKnown, guardKnown, String.reduceEq, ↓reduceIte,
    locAtom.eq_def, locStep.eq_def, locRet.eq_def, latlon_from_poly, get_location_offset, Option.isSome_some,
    Option.map_some, Bool.and_self]
  cases s.conf <;> cases s.latSpec <;> cases s.lonSpec <;> rfl

theorem get_location {φ : Type} (openFile : String → Option φ) (locFile : φ → Nat → Option (List α × List α × Frame α))
    (tri : List (List (α × α)) → Option (List (Tri α) × List Nat)) (draws : List (α × α × α))
    (c : LocConf α φ) (num : Nat) :
    getLocationSeq openFile locFile tri draws c num = some (locationSpec openFile locFile tri draws c num) := by
  unfold getLocationSeq
  rw [Run.runRet_eq_runPlain (loc_known openFile locFile tri draws), Gen.get_location_seq]
  have hA := fun s : LocSt α φ => locAtom.eq_def s
  have hS := fun s => locStep.eq_def openFile locFile tri draws s
  have hR := fun s : LocSt α φ => locRet.eq_def s
  unfold locAtom.match_13 at hA
  unfold locStep.match_4 at hS
  unfold locRet.match_3 at hR
  rcases c with name | f | oc | ⟨lonSpec, latSpec⟩
  case' pair =>
    -- up to the dispatch on `lon_spec`
    simp only [Run.runPlain_cons, Run.bind_elim_some, Run.bind_elim_none, Run.bind_elim_map, Run.guardVal_cons,
      Run.guardVal_nil, String.reduceEq, ↓reduceIte, ↓reduceDIte, hA, hS, hR, LocSt.init, latlon_from_poly,
      get_location_offset, locationSpec, Option.map_some, Option.some.injEq, beq_true, beq_false, Bool.not_false,
      Bool.not_true, Bool.false_eq_true]
    rcases lonSpec with x | lo | lo
    case' scalar => cases latSpec
  all_goals
    simp only [Run.runPlain_cons, Run.bind_elim_some, Run.bind_elim_none, Run.bind_elim_map, Run.guardVal_cons,
      Run.guardVal_nil, String.reduceEq, ↓reduceIte, ↓reduceDIte, hA, hS, hR, LocSt.init, latlon_from_poly,
      get_location_offset, locationSpec, Option.map_some, Option.some.injEq, beq_true, beq_false, Bool.not_false,
      Bool.not_true, Bool.false_eq_true]
  -- a value that may be missing: a `match` in the run, `Option.map` in `locationSpec`
  case fileName => cases (openFile name).bind fun a => locFile a num <;> rfl
  case stream => cases locFile f num <;> rfl
  case offset => cases locationOffsetSpec tri draws oc num <;> rfl
  case pair.single => cases latlonFromPolySpec tri draws latSpec (.single lo) num <;> rfl
  case pair.multi => cases latlonFromPolySpec tri draws latSpec (.multi lo) num <;> rfl
  rfl
end

/-! ### corollaries: `latlon_from_poly` -/
section
variable {α : Type} [Add α] [Sub α] [Mul α] [Div α] [Neg α] [LT α] [DecidableLT α] [OfScientific α]

/-- `get_polygon_sample_triangles` is `Sample.samplePoint`, particle by particle, in the order of the draws -/
theorem sampleTriangles_points (tris : List (Tri α)) (n : Nat) (draws : List (α × α × α))
    (r : List α × List α × List Nat) (h : sampleTriangles tris n draws = some r) :
    tris ≠ [] ∧ ∃ ps : List (α × α × Nat),
      (draws.take n).map (fun d => samplePoint tris d.1 d.2.1 d.2.2) = ps.map some ∧
      r = (ps.map (fun p => p.1), ps.map (fun p => p.2.1), ps.map (fun p => p.2.2)) := by
  unfold sampleTriangles at h
  cases tris with
  | nil => simp at h
  | cons T tris =>
    refine ⟨by simp, ?_⟩
    simp only [List.isEmpty_cons, Bool.false_eq_true, if_false] at h
    cases hm : (draws.take n).mapM (fun d => samplePoint (T :: tris) d.1 d.2.1 d.2.2) with
    | none => simp [hm] at h
    | some ps =>
      simp only [hm, Option.map_some, Option.some.injEq] at h
      exact ⟨ps, mapM_map_some _ _ _ hm, h.symm⟩

theorem latlonFromPolySpec_single (tri : List (List (α × α)) → Option (List (Tri α) × List Nat))
    (draws : List (α × α × α)) (la lo : List α) (n : Nat) (hne : la ≠ []) (hlen : la.length = lo.length) :
    latlonFromPolySpec tri draws (.single la) (.single lo) n =
      (tri [la.zip lo]).bind fun tp =>
        (sampleTriangles tp.1 n draws).bind fun r =>
        (takeIdx tp.2 r.2.2).map fun p => (r.1, r.2.1, p) := by
  cases la with
  | nil => exact absurd rfl hne
  | cons x la => simp [latlonFromPolySpec, Coord.hasFirst, polyCoords, hlen]

/-- one polygon given as two flat lists of equal length: the vertex rows are `(lat, lon)` -/
theorem latlon_from_poly_single (tri : List (List (α × α)) → Option (List (Tri α) × List Nat))
    (draws : List (α × α × α)) (la lo : List α) (n : Nat) (hne : la ≠ []) (hlen : la.length = lo.length) :
    latlonFromPolySeq tri draws (.single la) (.single lo) n =
      some ((tri [la.zip lo]).bind fun tp =>
        (sampleTriangles tp.1 n draws).bind fun r =>
        (takeIdx tp.2 r.2.2).map fun p => (r.1, r.2.1, p)) := by
  rw [latlon_from_poly, latlonFromPolySpec_single tri draws la lo n hne hlen]

theorem mapM_of_forall {β γ : Type} (f : β → Option γ) (g : β → γ) :
    ∀ l : List β, (∀ a ∈ l, f a = some (g a)) → l.mapM f = some (l.map g)
  | [], _ => rfl
  | a :: l, h => by
    rw [List.mapM_cons, h a List.mem_cons_self, mapM_of_forall f g l (fun b hb => h b (List.mem_cons_of_mem _ hb))]
    rfl

/-- several polygons: one block of `(lat, lon)` vertex rows per polygon -/
theorem latlon_from_poly_multi (tri : List (List (α × α)) → Option (List (Tri α) × List Nat))
    (draws : List (α × α × α)) (la lo : List (List α)) (n : Nat) (hne : la ≠ [])
    (hlen : ∀ p ∈ la.zip lo, p.1.length = p.2.length) :
    latlonFromPolySeq tri draws (.multi la) (.multi lo) n =
      some ((tri ((la.zip lo).map (fun p => p.1.zip p.2))).bind fun tp =>
        (sampleTriangles tp.1 n draws).bind fun r =>
        (takeIdx tp.2 r.2.2).map fun p => (r.1, r.2.1, p)) := by
  rw [latlon_from_poly]
  have hs : stackCoords (.multi la) (.multi lo) = some ((la.zip lo).map (fun p => p.1.zip p.2)) := by
    unfold stackCoords
    exact mapM_of_forall _ _ _ (fun p hp => by simp [hlen p hp])
  cases la with
  | nil => exact absurd rfl hne
  | cons x la => simp [latlonFromPolySpec, Coord.hasFirst, polyCoords, hs]

end

section
variable {α : Type} [Add α] [Sub α] [Mul α] [Div α] [Neg α] [LT α] [DecidableLT α] [OfScientific α]
  [HasSqrt α] [HasSin α] [HasCos α] [HasPi α]

/-! ### corollaries: `get_location_offset` -/

/-- the converted offsets do not depend on the dummy second argument of the element-wise `Gen.metric_to_deg` -/
theorem lonDiff_eq (clat dx dy : α) : lonDiff clat dx = (Gen.metric_to_deg dx dy clat).1 := rfl
theorem latDiff_eq (clat dx dy : α) : latDiff clat dy = (Gen.metric_to_deg dx dy clat).2 := rfl

/-- the caller's mapping (centre and offset arrays) is the same object after the call: no statement of the function
assigns to it or through it -/
theorem get_location_offset_conf (tri : List (List (α × α)) → Option (List (Tri α) × List Nat))
    (draws : List (α × α × α)) (c : OffsetConf α) (num : Nat) (r : OffsetResult α)
    (h : getLocationOffsetSeq tri draws c num = some (some r)) : r.confAfter = c := by
  rw [get_location_offset] at h
  simp only [Option.some.injEq] at h
  unfold locationOffsetSpec at h
  split at h
  · cases h
  · split at h
    · simp only [Option.map_eq_some_iff] at h
      obtain ⟨_, _, rfl⟩ := h
      rfl
    · cases h

/-- one offset polygon: vertex `i` is `(clat + lat_diff(oyᵢ), clon + lon_diff(oxᵢ))` with the centre latitude as the
reference latitude of `metric_diff_to_degrees`; rows `(lat, lon)`; returned as `(lon, lat)` -/
theorem get_location_offset_single (tri : List (List (α × α)) → Option (List (Tri α) × List Nat))
    (draws : List (α × α × α)) (clon clat : α) (ox oy : List α) (num : Nat) (hne : oy ≠ [])
    (hlen : oy.length = ox.length) :
    getLocationOffsetSeq tri draws ⟨some (clon, clat), (.single ox, .single oy)⟩ num =
      some ((tri [(oy.zip ox).map (fun p =>
          (clat + (Gen.metric_to_deg p.2 p.1 clat).2, clon + (Gen.metric_to_deg p.2 p.1 clat).1))]).bind fun tp =>
        (sampleTriangles tp.1 num draws).bind fun r =>
        (takeIdx tp.2 r.2.2).map fun _ =>
          (⟨r.2.1, r.1, ⟨some (clon, clat), (.single ox, .single oy)⟩⟩ : OffsetResult α)) := by
  rw [get_location_offset]
  have hz : (oy.map (fun d => clat + latDiff clat d)).zip (ox.map (fun d => clon + lonDiff clat d))
      = (oy.zip ox).map (fun p =>
          (clat + (Gen.metric_to_deg p.2 p.1 clat).2, clon + (Gen.metric_to_deg p.2 p.1 clat).1)) := by
    rw [List.zip_map]
    apply List.map_congr_left
    intro p _
    rfl
  simp only [locationOffsetSpec, Coord.mapArr, Coord.map]
  rw [latlonFromPolySpec_single tri draws _ _ num (by simpa using hne) (by simpa using hlen)]
  simp only [List.map_map, Function.comp_def, hz, Option.map_bind, Option.map_map]

end

section
variable {α : Type} [Add α] [Sub α] [Mul α] [Div α] [Neg α] [LT α] [DecidableLT α] [OfScientific α]
  [HasSqrt α] [HasSin α] [HasCos α] [HasPi α]

/-! ### corollaries: `get_location` -/

theorem locProps_no_position (attrs : Frame α) (k : String) (hk : k = "longitude" ∨ k = "latitude") :
    ∀ p ∈ locProps attrs, (p.1 == k) = false := by
  intro p hp
  have h := (List.mem_filter.mp hp).2
  cases hb : (p.1 == k) with
  | false => rfl
  | true =>
    have := eq_of_beq hb
    rcases hk with rfl | rfl <;> simp [this] at h

/-- the returned mapping always has the sampled positions under `longitude` and `latitude`, whatever the property
columns are called (finding F-C03a is repaired) -/
theorem locFrame_lookup_lon (lon lat : List α) (attrs : Frame α) :
    lookup (locFrame lon lat attrs) "longitude" = some (lon.map Cell.num) := by
  unfold locFrame
  rw [dictMerge_lookup_other "longitude" _ _ (locProps_no_position attrs _ (Or.inl rfl))]
  rfl

theorem locFrame_lookup_lat (lon lat : List α) (attrs : Frame α) :
    lookup (locFrame lon lat attrs) "latitude" = some (lat.map Cell.num) := by
  unfold locFrame
  rw [dictMerge_lookup_other "latitude" _ _ (locProps_no_position attrs _ (Or.inr rfl))]
  rfl

/-- the order of the returned mapping: `longitude`, `latitude`, then the remaining property columns in their order
(the keys of a Python dict are distinct) -/
theorem locFrame_eq_cons (lon lat : List α) (attrs : Frame α) (hn : (attrs.map (fun p => p.1)).Nodup) :
    locFrame lon lat attrs = ("longitude", lon.map Cell.num) :: ("latitude", lat.map Cell.num) :: locProps attrs := by
  unfold locFrame
  rw [dictMerge_fresh]
  · rfl
  · intro p hp q hq
    simp only [List.mem_cons, List.not_mem_nil, or_false] at hq
    have h1 := locProps_no_position attrs "longitude" (Or.inl rfl) p hp
    have h2 := locProps_no_position attrs "latitude" (Or.inr rfl) p hp
    rcases hq with rfl | rfl
    · show ("longitude" == p.1) = false
      rw [Bool.eq_false_iff] at h1 ⊢
      intro h; apply h1; rw [eq_of_beq h]; exact beq_self_eq_true _
    · show ("latitude" == p.1) = false
      rw [Bool.eq_false_iff] at h2 ⊢
      intro h; apply h2; rw [eq_of_beq h]; exact beq_self_eq_true _
  · unfold locProps
    exact hn.sublist ((List.filter_sublist).map _)

theorem locFrame_nil (lon lat : List α) :
    locFrame lon lat [] = [("longitude", lon.map Cell.num), ("latitude", lat.map Cell.num)] :=
  locFrame_eq_cons lon lat [] List.nodup_nil

variable {φ : Type} (openFile : String → Option φ) (locFile : φ → Nat → Option (List α × List α × Frame α))
  (tri : List (List (α × α)) → Option (List (Tri α) × List Nat)) (draws : List (α × α × α))

/-- whatever `get_location` returns has a `longitude` and a `latitude` column: the two hypotheses of
`Bridge.make_single_release_seq` (`LadimProofs/Bridge/ReleaseSeq.lean`) hold for it -/
theorem get_location_has_position (c : LocConf α φ) (num : Nat) (f : Frame α)
    (h : getLocationSeq openFile locFile tri draws c num = some (some f)) :
    (lookup f "longitude").isSome ∧ (lookup f "latitude").isSome := by
  rw [get_location] at h
  simp only [Option.some.injEq] at h
  have key : ∀ (o : Option (Frame α)), o = some f → (∀ g, o = some g → ∃ lon lat attrs, g = locFrame lon lat attrs) →
      (lookup f "longitude").isSome ∧ (lookup f "latitude").isSome := by
    intro o ho hg
    obtain ⟨lon, lat, attrs, rfl⟩ := hg f ho
    rw [locFrame_lookup_lon, locFrame_lookup_lat]; exact ⟨rfl, rfl⟩
  refine key _ h ?_
  intro g hg
  unfold locationSpec at hg
  split at hg
  · obtain ⟨r, _, rfl⟩ := Option.map_eq_some_iff.mp hg; exact ⟨_, _, _, rfl⟩
  · obtain ⟨r, _, rfl⟩ := Option.map_eq_some_iff.mp hg; exact ⟨_, _, _, rfl⟩
  · obtain ⟨r, _, rfl⟩ := Option.map_eq_some_iff.mp hg; exact ⟨_, _, _, rfl⟩
  · split at hg
    · split at hg
      · cases hg; exact ⟨_, _, _, rfl⟩
      · cases hg
    · obtain ⟨r, _, rfl⟩ := Option.map_eq_some_iff.mp hg; exact ⟨_, _, _, rfl⟩

/-- a point: every particle gets exactly `(lon, lat)` (cf. `C03.point_exact`) -/
theorem get_location_point (x y : α) (num : Nat) :
    getLocationSeq openFile locFile tri draws (.pair (.scalar x) (.scalar y)) num =
      some (some [("longitude", (List.replicate num x).map Cell.num),
                  ("latitude", (List.replicate num y).map Cell.num)]) := by
  rw [get_location]
  exact congrArg (fun f => some (some f)) (locFrame_nil _ _)

/-- a polygon `[lon, lat]` (two flat lists of equal length): `latlon_from_poly` is called with the latitude first, the
vertex rows are `(lat, lon)`, and the sampled first / second coordinates come back as `latitude` / `longitude` -/
theorem get_location_polygon (lonL latL : List α) (num : Nat) (hne : latL ≠ []) (hlen : latL.length = lonL.length) :
    getLocationSeq openFile locFile tri draws (.pair (.single lonL) (.single latL)) num =
      some ((tri [latL.zip lonL]).bind fun tp =>
        (sampleTriangles tp.1 num draws).bind fun r =>
        (takeIdx tp.2 r.2.2).map fun _ =>
          [("longitude", r.2.1.map Cell.num), ("latitude", r.1.map Cell.num)]) := by
  rw [get_location]
  simp only [locationSpec, locFrame_nil, latlonFromPolySpec_single tri draws latL lonL num hne hlen, Option.map_bind,
    Option.map_map, Function.comp_def]

/-- the centre / offset form: the positions of `get_location_offset`, no property columns -/
theorem get_location_offset_form (oc : OffsetConf α) (num : Nat) :
    getLocationSeq openFile locFile tri draws (.offset oc) num =
      some ((locationOffsetSpec tri draws oc num).map fun r =>
        [("longitude", r.lon.map Cell.num), ("latitude", r.lat.map Cell.num)]) := by
  rw [get_location]
  simp only [locationSpec, locFrame_nil]

end

/-! ### connection with C03 (ordered field) -/
section
variable {α : Type} [Field α] [LinearOrder α] [IsStrictOrderedRing α]

/-- whatever `latlon_from_poly` returns: the vertex rows `coords` are `polyCoords lat lon` (`(lat, lon)` pairs), the
triangles are those of `triangulate_nonconvex_multi(coords)`, and particle by particle the returned
`(first, second)` coordinate is a convex combination of the `(x, y)` = (column 0, column 1) = `(lat, lon)` vertices of
the triangle with the returned number (`C03.sample_in_chosen_triangle`), whose polygon number is returned -/
theorem latlon_in_triangles (tri : List (List (α × α)) → Option (List (Tri α) × List Nat))
    (draws : List (α × α × α)) (lat lon : Coord α) (n : Nat) (xs ys : List α) (pn : List Nat)
    (hd : ∀ d ∈ draws, 0 ≤ d.2.1 ∧ d.2.1 < 1 ∧ 0 ≤ d.2.2 ∧ d.2.2 < 1)
    (h : latlonFromPolySeq tri draws lat lon n = some (some (xs, ys, pn))) :
    ∃ coords tris polynum, polyCoords lat lon = some coords ∧ tri coords = some (tris, polynum) ∧
      ∃ ps : List (α × α × Nat), xs = ps.map (fun p => p.1) ∧ ys = ps.map (fun p => p.2.1) ∧
        ps.map (fun p => polynum[p.2.2]?) = pn.map some ∧
        ∀ p ∈ ps, ∃ T, tris[p.2.2]? = some T ∧ ∃ s t : α, 0 ≤ s ∧ 0 ≤ t ∧ s + t ≤ 1 ∧
          p.1 = (1 - s - t) * T.x1 + s * T.x2 + t * T.x3 ∧ p.2.1 = (1 - s - t) * T.y1 + s * T.y2 + t * T.y3 := by
  rw [latlon_from_poly] at h
  simp only [Option.some.injEq] at h
  unfold latlonFromPolySpec at h
  split at h
  · obtain ⟨coords, hc, h⟩ := Option.bind_eq_some_iff.mp h
    obtain ⟨tp, ht, h⟩ := Option.bind_eq_some_iff.mp h
    obtain ⟨r, hs, h⟩ := Option.bind_eq_some_iff.mp h
    obtain ⟨p, hp, h⟩ := Option.map_eq_some_iff.mp h
    obtain ⟨_, ps, hps, rfl⟩ := sampleTriangles_points tp.1 n draws r hs
    simp only [Prod.mk.injEq] at h
    obtain ⟨rfl, rfl, rfl⟩ := h
    refine ⟨coords, tp.1, tp.2, hc, by rw [ht], ps, rfl, rfl, ?_, ?_⟩
    · have := mapM_map_some _ _ _ hp
      simpa [List.map_map, Function.comp_def] using this
    · intro q hq
      have hmem : some q ∈ (draws.take n).map (fun d => samplePoint tp.1 d.1 d.2.1 d.2.2) := by
        rw [hps]; exact List.mem_map.mpr ⟨q, hq, rfl⟩
      obtain ⟨d, hdm, hdq⟩ := List.mem_map.mp hmem
      obtain ⟨h1, h2, h3, h4⟩ := hd d (List.mem_of_mem_take hdm)
      obtain ⟨T, _, s, t, hs0, ht0, hst, hx, hy, hk⟩ :=
        C03.sample_in_chosen_triangle tp.1 d.1 d.2.1 d.2.2 q.1 q.2.1 q.2.2 h1 h2 h3 h4 hdq
      exact ⟨T, hk, s, t, hs0, ht0, hst, hx, hy⟩
  · cases h

end
end Bridge
