import LadimProofs.Basic
import LadimProofs.C10
import LadimModel.IBM.Memory
import LadimModel.IBM.Chemicals
import LadimModel.Grid.Neighbours
import LadimModel.IBM.Swim
/-!
# C11 — land-collision handling moves only stuck or coastal particles, within their cell
-/
open Ladim Ladim.Memory Ladim.Nb
set_option linter.unusedVariables false
set_option linter.unusedSectionVars false

namespace C11

/-! ## what the collision handler remembers

The LADiM `State` hands out its arrays by reference and the tracker writes into them *in place*
(`state['X'][act] = X`); `append` / `remove` allocate new arrays.  `Memory.snapshot`: the handler keeps
copies (mine: `np.copy`; any state stub with fresh arrays).  `Memory.alias`: it keeps the reference
(chemicals: `self.x = self.state.X`), so unless the arrays were reallocated since, the remembered
position *is* the current position. -/

theorem feq_iff {β : Type} [i : LinearOrder β] (a b : β) : @feq β _ _ a b = true ↔ a = b := by
  unfold feq
  simp only [Bool.and_eq_true, Bool.not_eq_true', decide_eq_false_iff_not, not_lt]
  constructor
  · rintro ⟨h1, h2⟩; exact le_antisymm h2 h1
  · rintro rfl; exact ⟨le_refl _, le_refl _⟩

section
variable {α : Type} [LinearOrder α]

/-- FULL STATEMENT (snapshot memory): a particle is moved only if it existed in the previous step and
has exactly the same horizontal position as then -/
theorem reposition_moves_only_stuck (mem : List (Rec α)) (realloc : Bool) (r : Rec α)
    (h : decides .snapshot mem realloc r = true) :
    ∃ o ∈ mem, o.pid = r.pid ∧ o.x = r.x ∧ o.y = r.y := by
  unfold decides stuck lookup at h
  cases hf : mem.find? (fun o => o.pid == r.pid) with
  | none => simp [hf] at h
  | some o =>
    simp only [hf, Bool.and_eq_true] at h
    have hm := List.mem_of_find?_eq_some hf
    have hp := List.find?_some hf
    exact ⟨o, hm, by simpa using hp, (feq_iff _ _).mp h.1, (feq_iff _ _).mp h.2⟩

/-- … conversely every particle that has not moved is repositioned (distinct pids) -/
theorem stuck_is_repositioned (mem : List (Rec α)) (realloc : Bool) (r o : Rec α)
    (hn : (mem.map (·.pid)).Nodup) (ho : o ∈ mem) (hp : o.pid = r.pid) (hx : o.x = r.x) (hy : o.y = r.y) :
    decides .snapshot mem realloc r = true := by
  unfold decides stuck lookup
  have : mem.find? (fun q => q.pid == r.pid) = some o := by
    induction mem with
    | nil => simp at ho
    | cons a rest ih =>
      simp only [List.map_cons, List.nodup_cons] at hn
      simp only [List.mem_cons] at ho
      rcases ho with rfl | ho
      · simp [hp]
      · have hne : a.pid ≠ r.pid := by
          intro he; apply hn.1; rw [he, ← hp]; exact List.mem_map_of_mem ho
        simp only [List.find?_cons]
        have : (a.pid == r.pid) = false := by simpa using hne
        rw [this]
        exact ih hn.2 ho
  simp [this, hx, hy, (feq_iff _ _).mpr rfl]

/-- alias memory behaves like snapshot memory exactly on the steps that follow a reallocation … -/
theorem alias_partial (mem : List (Rec α)) (r : Rec α) :
    decides .alias mem true r = decides .snapshot mem true r := rfl

end

/-- KNOWN FINDING — … and otherwise re-seeds a particle that the tracker *has* moved: pid 7 was stored at
(1, 2), the tracker moved it to (4, 2), no reallocation: the handler still treats it as stuck -/
theorem alias_reseeds_free_particle_fails :
    decides .alias [⟨7, (1 : Int), 2⟩] false ⟨7, 4, 2⟩ = true ∧
    decides .snapshot [⟨7, (1 : Int), 2⟩] false ⟨7, 4, 2⟩ = false := by decide

/-! ## moved particles stay inside their cell -/
section real
variable {α : Type} [Field α] [LinearOrder α] [IsStrictOrderedRing α] [HasSqrt α] [HasFloor α] [HasRound α]

/-- `round(x) - 0.5 + u` with `u ∈ [0,1)` lies in the cell `[round x − ½, round x + ½)` -/
theorem reseed_in_cell (x u : α) (h0 : 0 ≤ u) (h1 : u < 1) :
    round x - 1 / 2 ≤ Chemicals.reseed x u ∧ Chemicals.reseed x u < round x + 1 / 2 := by
  unfold Chemicals.reseed
  rw [show (0.5 : α) = 1 / 2 by norm_num]
  exact ⟨le_add_of_nonneg_right h0, by linarith⟩

end real

/-! ## helper queries agree with an exhaustive neighbourhood search -/

theorem clampI_range (n : Nat) (i : Int) (hn : 0 < n) : 0 ≤ clampI n i ∧ clampI n i < n := by
  unfold clampI; omega

/-- the stencil is exactly the eight-neighbourhood -/
theorem stencil8_spec (di dj : Int) :
    (di, dj) ∈ stencil8 ↔ (-1 ≤ di ∧ di ≤ 1 ∧ -1 ≤ dj ∧ dj ≤ 1 ∧ ¬ (di = 0 ∧ dj = 0)) := by
  constructor
  · have : ∀ d ∈ stencil8, -1 ≤ d.1 ∧ d.1 ≤ 1 ∧ -1 ≤ d.2 ∧ d.2 ≤ 1 ∧ ¬ (d.1 = 0 ∧ d.2 = 0) := by decide
    exact this _
  · rintro ⟨h1, h2, h3, h4, h5⟩
    have : ∀ a ∈ [(-1 : Int), 0, 1], ∀ b ∈ [(-1 : Int), 0, 1], ¬ (a = 0 ∧ b = 0) → (a, b) ∈ stencil8 := by decide
    have mem : ∀ a : Int, -1 ≤ a → a ≤ 1 → a ∈ [(-1 : Int), 0, 1] := fun a _ _ => by
      simp only [List.mem_cons, List.not_mem_nil, or_false]; omega
    exact this di (mem di h1 h2) dj (mem dj h3 h4) h5

/-- `is_close_to_land` ↔ some cell of the (clamped) eight-neighbourhood is land -/
theorem is_close_to_land_spec (land : Mask) (ic jc : Int) :
    isCloseToLand land ic jc = true ↔
      ∃ di dj : Int, -1 ≤ di ∧ di ≤ 1 ∧ -1 ≤ dj ∧ dj ≤ 1 ∧ ¬ (di = 0 ∧ dj = 0) ∧
        land.val (clampI land.rows (jc + dj)) (clampI land.cols (ic + di)) = true := by
  unfold isCloseToLand
  rw [List.any_eq_true]
  constructor
  · rintro ⟨⟨di, dj⟩, hm, hv⟩
    have := (stencil8_spec di dj).mp hm
    exact ⟨di, dj, this.1, this.2.1, this.2.2.1, this.2.2.2.1, this.2.2.2.2, hv⟩
  · rintro ⟨di, dj, h1, h2, h3, h4, h5, hv⟩
    exact ⟨(di, dj), (stencil8_spec di dj).mpr ⟨h1, h2, h3, h4, h5⟩, hv⟩

section nearest
variable {α : Type} [Field α] [LinearOrder α] [IsStrictOrderedRing α]

theorem argminFirst_spec (cands : List ((Int × Int) × α)) (best : (Int × Int) × α)
    (h : argminFirst cands = some best) : best ∈ cands ∧ ∀ c ∈ cands, best.2 ≤ c.2 := by
  unfold argminFirst at h
  -- one step keeps the smaller of the accumulator and the new candidate
  have step : ∀ (acc : Option ((Int × Int) × α)) (c : (Int × Int) × α), ∃ m : (Int × Int) × α,
      (match acc with
        | none => some c
        | some b => if c.2 < b.2 then some c else some b) = some m ∧
      (m = c ∨ acc = some m) ∧ m.2 ≤ c.2 ∧ ∀ a, acc = some a → m.2 ≤ a.2 := by
    intro acc c
    cases acc with
    | none => exact ⟨c, rfl, Or.inl rfl, le_rfl, nofun⟩
    | some a =>
      by_cases hlt : c.2 < a.2
      · exact ⟨c, if_pos hlt, Or.inl rfl, le_rfl, fun a' ha' => by cases ha'; exact hlt.le⟩
      · exact ⟨a, if_neg hlt, Or.inr rfl, not_lt.1 hlt, fun a' ha' => by cases ha'; exact le_rfl⟩
  -- generalise over the accumulator
  have aux : ∀ (l : List ((Int × Int) × α)) (acc : Option ((Int × Int) × α)) (b : (Int × Int) × α),
      l.foldl (fun best c => match best with
        | none => some c
        | some b => if c.2 < b.2 then some c else some b) acc = some b →
      (b ∈ l ∨ acc = some b) ∧ (∀ c ∈ l, b.2 ≤ c.2) ∧ (∀ a, acc = some a → b.2 ≤ a.2) := by
    intro l
    induction l with
    | nil => intro acc b hb; exact ⟨Or.inr hb, nofun, fun a ha => by cases ha.symm.trans hb; exact le_rfl⟩
    | cons c cs ih =>
      intro acc b hb
      obtain ⟨m, hm, hmc, hmle, hma⟩ := step acc c
      rw [List.foldl_cons, hm] at hb
      obtain ⟨h1, h2, h3⟩ := ih (some m) b hb
      refine ⟨?_, ?_, fun a ha => (h3 m rfl).trans (hma a ha)⟩
      · rcases h1 with h1 | h1
        · exact Or.inl (List.mem_cons_of_mem _ h1)
        · cases h1
          exact hmc.imp (fun e : b = c => e ▸ List.mem_cons_self) id
      · intro d hd
        rcases List.mem_cons.1 hd with rfl | hd
        · exact (h3 m rfl).trans hmle
        · exact h2 d hd
  obtain ⟨h1, h2, _⟩ := aux cands none best h
  exact ⟨h1.resolve_right nofun, h2⟩

instance (priority := low) fieldOfInt : HasOfInt α := ⟨fun i => (i : α)⟩

/-- `nearest_unmasked`: the returned cell is one of the nine clamped neighbours, is unmasked, and no
unmasked neighbour is closer to the particle -/
theorem nearest_unmasked_spec (masked : Mask) (x y : α) (ic jc : Int) (ci cj : Int)
    (h : nearestUnmasked masked x y ic jc = some (ci, cj)) :
    masked.val cj ci = false ∧
    (∃ d ∈ stencil9, ci = clampI masked.cols (ic + d.1) ∧ cj = clampI masked.rows (jc + d.2)) ∧
    ∀ d ∈ stencil9, masked.val (clampI masked.rows (jc + d.2)) (clampI masked.cols (ic + d.1)) = false →
      dist2 x y ci cj ≤ dist2 x y (clampI masked.cols (ic + d.1)) (clampI masked.rows (jc + d.2)) := by
  unfold nearestUnmasked at h
  simp only [Option.map_eq_some_iff] at h
  obtain ⟨best, hb, hbe⟩ := h
  obtain ⟨hmem, hmin⟩ := argminFirst_spec _ best hb
  simp only [List.mem_map, List.mem_filter] at hmem
  obtain ⟨c, ⟨⟨d, hd, hcd⟩, hopen⟩, hbc⟩ := hmem
  have hc : c = (ci, cj) := by rw [← hbe, ← hbc]
  subst hbc
  simp only [] at hbe hmin
  refine ⟨?_, ⟨d, hd, ?_, ?_⟩, ?_⟩
  · rw [hc] at hopen; simpa using hopen
  · rw [← hcd] at hc; simpa using (congrArg Prod.fst hc).symm
  · rw [← hcd] at hc; simpa using (congrArg Prod.snd hc).symm
  · intro d' hd' hopen'
    have := hmin ((clampI masked.cols (ic + d'.1), clampI masked.rows (jc + d'.2)),
        dist2 x y (clampI masked.cols (ic + d'.1)) (clampI masked.rows (jc + d'.2))) (by
      simp only [List.mem_map, List.mem_filter]
      exact ⟨_, ⟨⟨d', hd', rfl⟩, by simpa using hopen'⟩, rfl⟩)
    simp only [] at this
    rw [hc] at this
    exact this

end nearest

/-! ## directed swimming never takes a particle onto land or outside the grid -/

theorem directed_swim_safe {π : Type} (ingrid atsea : π → Bool) (old new : π) :
    guardedMove ingrid atsea old new = old ∨
      (guardedMove ingrid atsea old new = new ∧ ingrid new = true ∧ atsea new = true) := by
  unfold guardedMove
  by_cases h : (ingrid new && atsea new) = true
  · right; simp only [h, if_true]; simpa using h
  · left; simp [h]

/-- coastal diffusion moves only coastal particles; freeze moves none (the strategies are exclusive
branches of `update_ibm`: the per-particle model re-seeds iff its `stuck` flag is set) -/
theorem strategy_moves_only_flagged [Field α] [LinearOrder α] [IsStrictOrderedRing α] [HasSqrt α] [HasFloor α]
    [HasRound α] (c : Chemicals.Config α) (e : Chemicals.Env α) (d : Chemicals.Draws α) (p : Chemicals.Particle α)
    (hh : c.horz = none) (hs : d.stuck = false) :
    (Chemicals.update c e d p).x = p.x ∧ (Chemicals.update c e d p).y = p.y := by
  unfold Chemicals.update Chemicals.horizontal
  simp only [hs, hh]
  cases c.lifespan <;> simp

/-! ## directed swimming (saithe `spread`, lunar eel `horizontal_advect`) -/

section swim
open Ladim.Swim
variable {β : Type}

/-- a directed saithe larva ends where it was, or at a position that is inside the grid and at sea -/
theorem saithe_stays_or_valid (ingrid atsea : β → β → Bool) (x0 y0 x y : β) :
    let p := saitheStep ingrid atsea x0 y0 x y
    (p.1 = x0 ∧ p.2.1 = y0) ∨ (p.1 = x ∧ p.2.1 = y ∧ ingrid x y = true ∧ atsea x y = true) := by
  unfold saitheStep
  by_cases hi : ingrid x y = true
  · by_cases hs : atsea x y = true
    · right; simp [hi, hs]
    · left; simp [hi, hs]
  · left
    by_cases hs : atsea x0 y0 = true <;> simp [hi, hs]

/-- it is retired exactly when the candidate position is outside the grid (and then it does not move) -/
theorem saithe_dies_iff_outside (ingrid atsea : β → β → Bool) (x0 y0 x y : β) :
    (saitheStep ingrid atsea x0 y0 x y).2.2 = ingrid x y := rfl

theorem saithe_outside_stays (ingrid atsea : β → β → Bool) (x0 y0 x y : β) (h : ingrid x y = false) :
    (saitheStep ingrid atsea x0 y0 x y).1 = x0 ∧ (saitheStep ingrid atsea x0 y0 x y).2.1 = y0 := by
  unfold saitheStep
  by_cases hs : atsea x0 y0 = true <;> simp [h, hs]

/-- never onto land, never outside: if the larva was at sea and inside the grid it still is -/
theorem saithe_never_onto_land_or_out (ingrid atsea : β → β → Bool) (x0 y0 x y : β)
    (h0 : ingrid x0 y0 = true ∧ atsea x0 y0 = true) :
    let p := saitheStep ingrid atsea x0 y0 x y
    ingrid p.1 p.2.1 = true ∧ atsea p.1 p.2.1 = true := by
  have h := saithe_stays_or_valid ingrid atsea x0 y0 x y
  rcases h with ⟨h1, h2⟩ | ⟨h1, h2, h3, h4⟩
  · simp only [h1, h2]; exact h0
  · simp only [h1, h2]; exact ⟨h3, h4⟩

/-- the eel moves exactly when the candidate is inside the grid and at sea -/
theorem eel_moves_iff (ingrid atsea : β → β → Bool) (x0 y0 x y : β) :
    eelStep ingrid atsea x0 y0 x y = if (ingrid x y && atsea x y) = true then (x, y) else (x0, y0) := rfl

theorem eel_never_onto_land_or_out (ingrid atsea : β → β → Bool) (x0 y0 x y : β)
    (h0 : ingrid x0 y0 = true ∧ atsea x0 y0 = true) :
    let p := eelStep ingrid atsea x0 y0 x y
    ingrid p.1 p.2 = true ∧ atsea p.1 p.2 = true := by
  unfold eelStep
  by_cases h : (ingrid x y && atsea x y) = true
  · simp only [h, if_true]
    simpa using h
  · simp only [h]
    exact h0

/-- non-vacuity: a 1-D coast (sea for x < 3, grid 0..5): swimming to 2 succeeds, to 4 (land) and to 7 (outside)
does not, and only the last retires the larva -/
example : saitheStep (fun x _ => decide (x < (6:Int))) (fun x _ => decide (x < 3)) 1 0 2 0 = (2, 0, true)
    ∧ saitheStep (fun x _ => decide (x < (6:Int))) (fun x _ => decide (x < 3)) 1 0 4 0 = (1, 0, true)
    ∧ saitheStep (fun x _ => decide (x < (6:Int))) (fun x _ => decide (x < 3)) 1 0 7 0 = (1, 0, false) := by decide

end swim

/-! ## binary64: the half-open cell is not respected for the largest draw (known finding F-C11b)

`reseed_in_cell` above is a statement over an ordered field.  In IEEE binary64 the sum
`round(X) − 0.5 + u` with the largest value the generator can return, `u = 1 − 2⁻⁵³`, rounds up to exactly
`round(X) + 0.5` (checked by the kernel's evaluation of `Float` arithmetic): -/
theorem reseed_binary64_touches_upper_border :
    ((9.0 : Float) - 0.5 + 0.9999999999999999 == 9.5) = true ∧
    ((9.0 : Float) - 0.5 + 0.9999999999999999 < 9.5) = false := by
  constructor <;> decide +kernel

/-- the same happens for every draw within half a unit in the last place of the border (here also `1 − 2⁻⁵²`):
the probability per re-seeded coordinate is about `ulp(round X) / 2 ≈ round(X) · 1.1e-16` … -/
theorem reseed_binary64_second_largest_draw_too :
    ((9.0 : Float) - 0.5 + 0.9999999999999998 == 9.5) = true := by decide +kernel

/-- … and draws farther from 1 stay strictly inside -/
theorem reseed_binary64_smaller_draw_inside :
    ((9.0 : Float) - 0.5 + 0.999999999999999 < 9.5) = true := by decide +kernel

end C11
