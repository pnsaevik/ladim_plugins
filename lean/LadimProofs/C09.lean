import LadimProofs.Laws
import LadimProofs.InterpLemmas
import LadimModel.IBM.Develop
import LadimModel.IBM.Bio
/-!
# C09 — development never runs backwards and switches behaviour at its thresholds
-/
open Ladim Ladim.Dev
set_option linter.unusedSectionVars false
set_option linter.unusedVariables false

namespace C09
variable {α : Type} [Field α] [LinearOrder α] [IsStrictOrderedRing α]
variable [HasSqrt α] [HasExp α] [HasLog α] [HasSin α] [HasCos α] [HasAsin α] [HasRpow α] [HasPi α]

/-! ## sand eel: hatch time -/

theorem quad3_knots (d0 d1 d2 : α) :
    quad3 d0 d1 d2 0 = d0 ∧ quad3 d0 d1 d2 (1 / 2) = d1 ∧ quad3 d0 d1 d2 1 = d2 := by
  unfold quad3; lits; refine ⟨?_, ?_, ?_⟩ <;> ring

theorem lerp_pos (a b w : α) (ha : 0 < a) (hb : 0 < b) (h0 : 0 ≤ w) (h1 : w ≤ 1) :
    0 < a + (b - a) * w := by
  rcases h0.eq_or_lt with rfl | h
  · rwa [mul_zero, add_zero]
  · linarith [mul_pos hb h, mul_nonneg ha.le (sub_nonneg.2 h1)]

/-- `quad3` is positive on `[0,1]` when it is convex and positive at `0` with a tangent there that is still
positive at `1` -/
theorem quad3_pos {d0 d1 d2 r : α} (h0 : 0 ≤ r) (h1 : r ≤ 1) (hd : 0 < d0) (hb : 0 < -2 * d0 + 4 * d1 - d2)
    (hc : 0 ≤ 2 * d0 - 4 * d1 + 2 * d2) : 0 < quad3 d0 d1 d2 r := by
  unfold quad3; lits
  linarith [lerp_pos _ _ r hd hb h0 h1, mul_nonneg (mul_self_nonneg r) hc]

/-- the temperature argument as `hatchTime` uses it -/
theorem hatch_temp_eq (temp : α) : fmin (10.0 : α) (fmax 2.0 temp) = min 10 (max 2 temp) := by
  rw [fmin_eq_min, fmax_eq_max, lit_10, lit_2]

/-- at the tabulated temperatures `hatchTime` is the quadratic of that column -/
theorem hatch_time_knots (r : α) :
    hatchTime r 2 = quad3 61.0 82.0 135.0 r ∧ hatchTime r 4 = quad3 51.0 67.0 116.0 r ∧
    hatchTime r 7 = quad3 39.0 48.0 82.0 r ∧ hatchTime r 10 = quad3 25.0 30.0 55.0 r := by
  unfold hatchTime
  simp only [hatch_temp_eq]
  norm_num

/-- the published table is reproduced at its knots (rates 0, ½, 1 × temperatures 2, 4, 7, 10) -/
theorem hatch_time_table :
    hatchTime (0 : α) 2 = 61 ∧ hatchTime (0 : α) 4 = 51 ∧ hatchTime (0 : α) 7 = 39 ∧ hatchTime (0 : α) 10 = 25 ∧
    hatchTime (1 / 2 : α) 2 = 82 ∧ hatchTime (1 / 2 : α) 4 = 67 ∧ hatchTime (1 / 2 : α) 7 = 48 ∧
    hatchTime (1 / 2 : α) 10 = 30 ∧
    hatchTime (1 : α) 2 = 135 ∧ hatchTime (1 : α) 4 = 116 ∧ hatchTime (1 : α) 7 = 82 ∧ hatchTime (1 : α) 10 = 55 := by
  simp only [hatch_time_knots, quad3_knots]
  norm_num

/-- temperatures outside the tabulated range are clamped to it -/
theorem hatch_time_clamps (rate temp : α) :
    (temp ≤ 2 → hatchTime rate temp = hatchTime rate 2) ∧ (10 ≤ temp → hatchTime rate temp = hatchTime rate 10) := by
  unfold hatchTime
  simp only [hatch_temp_eq]
  constructor
  · intro h; rw [max_eq_left h, max_self]
  · intro h; rw [max_eq_right ((by norm_num : (2 : α) ≤ 10).trans h), min_eq_left h, max_eq_right (by norm_num), min_self]

/-- total hatch time is positive for every hatch rate in `[0,1]` and every temperature -/
theorem hatch_time_pos (rate temp : α) (h0 : 0 ≤ rate) (h1 : rate ≤ 1) : 0 < hatchTime rate temp := by
  have q2 : 0 < quad3 (61.0 : α) 82.0 135.0 rate := quad3_pos h0 h1 (by norm_num) (by norm_num) (by norm_num)
  have q4 : 0 < quad3 (51.0 : α) 67.0 116.0 rate := quad3_pos h0 h1 (by norm_num) (by norm_num) (by norm_num)
  have q7 : 0 < quad3 (39.0 : α) 48.0 82.0 rate := quad3_pos h0 h1 (by norm_num) (by norm_num) (by norm_num)
  have q10 : 0 < quad3 (25.0 : α) 30.0 55.0 rate := quad3_pos h0 h1 (by norm_num) (by norm_num) (by norm_num)
  unfold hatchTime
  simp only [hatch_temp_eq]
  have ht2 : 2 ≤ min 10 (max 2 temp) := le_min (by norm_num) (le_max_left _ _)
  have ht10 := min_le_left 10 (max 2 temp)
  generalize min 10 (max 2 temp) = t at ht2 ht10 ⊢
  lits
  split_ifs with ha hb
  · exact lerp_pos _ _ _ q2 q4 (div_nonneg (sub_nonneg.2 ht2) (by norm_num)) ((div_le_one (by norm_num)).2 (by linarith))
  · exact lerp_pos _ _ _ q4 q7 (div_nonneg (sub_nonneg.2 (not_lt.1 ha)) (by norm_num)) ((div_le_one (by norm_num)).2 (by linarith))
  · exact lerp_pos _ _ _ q7 q10 (div_nonneg (sub_nonneg.2 (not_lt.1 hb)) (by norm_num)) ((div_le_one (by norm_num)).2 (by linarith))

/-! ## sand eel: eggs -/

theorem eggDevelop_of_lt (days dt : α) (p : Eel α) (h : p.stage < 1) :
    eggDevelop days dt p = ⟨p.stage + Gen.sandeel_egg_increase days dt,
      decide (1 ≤ p.stage + Gen.sandeel_egg_increase days dt)⟩ := by
  unfold eggDevelop; rw [lit_1, if_pos h]

theorem egg_rate (days dt : α) (p : Eel α) (h : p.stage < 1) :
    (eggDevelop days dt p).stage = p.stage + dt / (days * 86400) := by
  rw [eggDevelop_of_lt days dt p h]
  unfold Gen.sandeel_egg_increase
  rw [lit_60, lit_24, mul_assoc, mul_assoc]
  norm_num

theorem egg_stage_increases (days dt : α) (p : Eel α) (h : p.stage < 1) (hd : 0 < days) (hdt : 0 < dt) :
    p.stage < (eggDevelop days dt p).stage := by
  rw [egg_rate days dt p h]
  exact lt_add_of_pos_right _ (div_pos hdt (mul_pos hd (by norm_num)))

/-- eggs start drifting exactly when their stage reaches 1 -/
theorem egg_activates_iff (days dt : α) (p : Eel α) (h : p.stage < 1) :
    (eggDevelop days dt p).active = true ↔ 1 ≤ (eggDevelop days dt p).stage := by
  rw [eggDevelop_of_lt days dt p h]
  exact decide_eq_true_iff

theorem egg_noop_on_others (days dt : α) (p : Eel α) (h : 1 ≤ p.stage) : eggDevelop days dt p = p := by
  unfold eggDevelop; rw [lit_1, if_neg (not_lt.2 h)]

/-! ## sand eel: larvae -/

/-- closed form of the generated larval step: `stage' = stage + dLdt·dt/86400/(Lm − L0)` -/
theorem larval_stage_eq (temp stage dt : α) :
    Gen.sandeel_larval_stage temp stage dt = stage +
      (exp (-1.725 + 0.136 * temp) * rpow ((7.73 + (stage - 1) * (40 - 7.73)) / 7.73) 0.316 *
        (1 - (7.73 + (stage - 1) * (40 - 7.73)) / 218)) * dt / 86400 / (40 - 7.73) := by
  have e : ∀ L0 D X : α, D ≠ 0 → 1 + (L0 + (stage - 1) * D + X - L0) / D = stage + X / D := by
    intro L0 D X hD; field_simp; ring
  unfold Gen.sandeel_larval_stage
  simp only [if_true]
  lits
  rw [e _ _ _ (by norm_num)]
  norm_num

theorem larva_stage_increases (hE : ExpLaws α) (hR : RpowLaws α) (temp stage dt : α)
    (h1 : 1 ≤ stage) (h2 : stage < 2) (hdt : 0 < dt) :
    stage < Gen.sandeel_larval_stage temp stage dt := by
  rw [larval_stage_eq]
  have hL : (0 : α) < (7.73 + (stage - 1) * (40 - 7.73)) / 7.73 :=
    div_pos (by linarith) (by norm_num)
  have hq : (0 : α) < 1 - (7.73 + (stage - 1) * (40 - 7.73)) / 218 :=
    sub_pos.2 ((div_lt_one (by norm_num)).2 (by linarith))
  exact lt_add_of_pos_right _ (div_pos (div_pos (mul_pos (mul_pos (mul_pos (hE.exp_pos _)
    (hR.rpow_pos _ _ hL)) hq) hdt) (by norm_num)) (by norm_num))

theorem larvaDevelop_of_mem (temp dt : α) (p : Eel α) (h1 : 1 ≤ p.stage) (h2 : p.stage < 2) :
    larvaDevelop temp dt p = ⟨Gen.sandeel_larval_stage temp p.stage dt,
      decide (Gen.sandeel_larval_stage temp p.stage dt < 2)⟩ := by
  unfold larvaDevelop; rw [lit_1, lit_2, if_pos ⟨h1, h2⟩]

/-- larvae stop drifting exactly when their stage reaches 2 -/
theorem larva_deactivates_iff (temp dt : α) (p : Eel α) (h1 : 1 ≤ p.stage) (h2 : p.stage < 2) :
    (larvaDevelop temp dt p).active = true ↔ (larvaDevelop temp dt p).stage < 2 := by
  rw [larvaDevelop_of_mem temp dt p h1 h2]
  exact decide_eq_true_iff

theorem larva_noop_on_others (temp dt : α) (p : Eel α) (h : p.stage < 1 ∨ 2 ≤ p.stage) :
    larvaDevelop temp dt p = p := by
  unfold larvaDevelop
  rw [lit_1, lit_2, if_neg fun ⟨a, b⟩ => h.elim (not_lt.2 a) fun c => not_lt.2 c b]

/-- the whole development step never lowers the stage -/
theorem sandeel_stage_monotone (hE : ExpLaws α) (hR : RpowLaws α) (bt temp hr dt : α) (p : Eel α)
    (hr0 : 0 ≤ hr) (hr1 : hr ≤ 1) (hdt : 0 < dt) :
    p.stage ≤ (sandeelDevelop bt temp hr dt p).stage := by
  unfold sandeelDevelop
  have e1 : p.stage ≤ (eggDevelop (hatchTime hr bt) dt p).stage := by
    by_cases h : p.stage < 1
    · exact (egg_stage_increases _ dt p h (hatch_time_pos hr bt hr0 hr1) hdt).le
    · rw [egg_noop_on_others _ _ p (not_lt.mp h)]
  refine le_trans e1 ?_
  generalize eggDevelop (hatchTime hr bt) dt p = q
  by_cases h : 1 ≤ q.stage ∧ q.stage < 2
  · rw [larvaDevelop_of_mem temp dt q h.1 h.2]
    exact (larva_stage_increases hE hR temp q.stage dt h.1 h.2 hdt).le
  · rw [larva_noop_on_others temp dt q ((not_and_or.1 h).imp not_le.1 not_lt.1)]

/-- … over every history of updates -/
theorem sandeel_history_monotone (hE : ExpLaws α) (hR : RpowLaws α) (hr dt : α)
    (hr0 : 0 ≤ hr) (hr1 : hr ≤ 1) (hdt : 0 < dt) (steps : List (α × α)) (p : Eel α) :
    p.stage ≤ (steps.foldl (fun q s => sandeelDevelop s.1 s.2 hr dt q) p).stage := by
  induction steps generalizing p with
  | nil => simp
  | cons s ss ih =>
    simp only [List.foldl]
    exact le_trans (sandeel_stage_monotone hE hR s.1 s.2 hr dt p hr0 hr1 hdt) (ih _)

/-! ## shrimp -/
open Ladim.Bio

/-- `delta_stage = dt · k` with `k = T/86400/(α + β·T) > 0`, `T` the temperature clipped to `[3, 8]` -/
theorem shrimp_delta_stage_eq (temp dt : α) :
    ∃ k : α, 0 < k ∧ Gen.shrimp_delta_stage temp dt = dt * k := by
  have ht : (0 : α) < fmin (fmax temp 3.0) 8.0 := by
    rw [fmin_eq_min, fmax_eq_max]
    exact lt_min (lt_max_of_lt_right (by norm_num)) (by norm_num)
  refine ⟨_, div_pos (div_pos ht (by norm_num : (0 : α) < 86400))
    (add_pos (by norm_num : (0 : α) < 34.98593627) (mul_pos (by norm_num : (0 : α) < 4.12176015) ht)), ?_⟩
  unfold Gen.shrimp_delta_stage
  rw [lit_86400]
  ring

theorem shrimp_delta_stage_nonneg (temp dt : α) (hdt : 0 ≤ dt) : 0 ≤ Gen.shrimp_delta_stage temp dt := by
  obtain ⟨k, hk, e⟩ := shrimp_delta_stage_eq temp dt
  exact e ▸ mul_nonneg hdt hk.le

theorem shrimp_delta_stage_pos (temp dt : α) (hdt : 0 < dt) : 0 < Gen.shrimp_delta_stage temp dt := by
  obtain ⟨k, hk, e⟩ := shrimp_delta_stage_eq temp dt
  exact e ▸ mul_pos hdt hk

theorem shrimpStage_eq (temp dt stage : α) :
    shrimpStage temp dt stage = min (max (stage + Gen.shrimp_delta_stage temp dt) 1) 6 := by
  unfold shrimpStage npClip
  rw [fmin_eq_min, fmax_eq_max, lit_1, lit_6]

/-- shrimp stay within stages 1–6 -/
theorem shrimp_stage_range (temp dt stage : α) :
    1 ≤ shrimpStage temp dt stage ∧ shrimpStage temp dt stage ≤ 6 := by
  rw [shrimpStage_eq]
  exact ⟨le_min (le_max_right _ _) (by norm_num), min_le_right _ _⟩

/-- … and never develop backwards (any temperature, in or outside the fitted range) -/
theorem shrimp_stage_monotone (temp dt stage : α) (hdt : 0 ≤ dt) (h6 : stage ≤ 6) :
    stage ≤ shrimpStage temp dt stage := by
  rw [shrimpStage_eq]
  exact le_min (le_max_of_le_left (le_add_of_nonneg_right (shrimp_delta_stage_nonneg temp dt hdt))) h6

/-- the rate: below stage 6 the increment is exactly the published rate times the time step
`dt/86400 · T / (α + β·T)` with `T` clipped to `[3, 8]` -/
theorem shrimp_stage_rate (temp dt stage : α) (h1 : 1 ≤ stage)
    (h6 : stage + Gen.shrimp_delta_stage temp dt ≤ 6) (hdt : 0 ≤ dt) :
    shrimpStage temp dt stage = stage + Gen.shrimp_delta_stage temp dt := by
  rw [shrimpStage_eq, max_eq_left (h1.trans (le_add_of_nonneg_right (shrimp_delta_stage_nonneg temp dt hdt))),
    min_eq_left h6]

theorem shrimp_length_table :
    shrimpLength (1 : α) = some 6.371 ∧ shrimpLength (2 : α) = some 7.480 ∧ shrimpLength (3 : α) = some 9.144 ∧
    shrimpLength (4 : α) = some 11.433 ∧ shrimpLength (5 : α) = some 12.088 ∧ shrimpLength (6 : α) = some 13.175 := by
  unfold shrimpLength interp
  simp only [interpGo]
  norm_num

/-- length grows with the stage -/
theorem shrimp_length_monotone (s₁ s₂ l₁ l₂ : α) (h : s₁ ≤ s₂)
    (e₁ : shrimpLength s₁ = some l₁) (e₂ : shrimpLength s₂ = some l₂) : l₁ ≤ l₂ := by
  unfold shrimpLength at e₁ e₂
  refine InterpLemmas.interp_mono _ _ s₁ s₂ l₁ l₂ ?_ ?_ h e₁ e₂
  · simp only [List.pairwise_cons, List.mem_cons, List.not_mem_nil, or_false, forall_eq_or_imp, forall_eq,
      List.Pairwise.nil, and_true]
    norm_num
  · simp only [List.pairwise_cons, List.mem_cons, List.not_mem_nil, or_false, forall_eq_or_imp, forall_eq,
      List.Pairwise.nil, and_true]
    norm_num

/-- … over every temperature history: the stage after any number of updates is not below the stage before, and
stays in `[1, 6]` (initial stage at most 6, time step non-negative) -/
theorem shrimp_history_monotone (dt : α) (hdt : 0 ≤ dt) (temps : List α) (stage : α) (h6 : stage ≤ 6) :
    stage ≤ temps.foldl (fun s t => shrimpStage t dt s) stage ∧
    temps.foldl (fun s t => shrimpStage t dt s) stage ≤ 6 := by
  induction temps generalizing stage with
  | nil => simp [h6]
  | cons t ts ih =>
    simp only [List.foldl]
    have h := ih (shrimpStage t dt stage) (shrimp_stage_range t dt stage).2
    exact ⟨le_trans (shrimp_stage_monotone t dt stage hdt h6) h.1, h.2⟩

/-- every prefix of a history is below every longer prefix: development never runs backwards between ANY two steps -/
theorem shrimp_history_prefix_monotone (dt : α) (hdt : 0 ≤ dt) (pre post : List α) (stage : α) (h6 : stage ≤ 6) :
    pre.foldl (fun s t => shrimpStage t dt s) stage ≤ (pre ++ post).foldl (fun s t => shrimpStage t dt s) stage := by
  rw [List.foldl_append]
  exact (shrimp_history_monotone dt hdt post _ (shrimp_history_monotone dt hdt pre stage h6).2).1

/-! ## cod / saithe larvae -/

/-- behaviour and growth switch on the degree-day age *before* this step's ageing -/
theorem egg_keeps_weight [HasNarrow α] (c : LarvaCfg α) (temp salt buoy l0 : α) (xi : Option α)
    (p : Larva α) (h : p.age ≤ c.hatchDay) : (larvaUpdate c temp salt buoy l0 xi p).weight = p.weight := by
  unfold larvaUpdate; simp [h]

theorem larva_weight_eq [HasNarrow α] (c : LarvaCfg α) (temp salt buoy l0 : α) (xi : Option α)
    (p : Larva α) (h : c.hatchDay < p.age) :
    (larvaUpdate c temp salt buoy l0 xi p).weight = larvaWeight c.initWeight temp c.dt p.weight := by
  unfold larvaUpdate; simp [not_le.mpr h]

/-- growth starts from the initial larval weight: a freshly hatched larva of any recorded weight
continues from at least `init_larvae_weight` -/
theorem larva_weight_floor (hE : ExpLaws α) (hL : LogLaws α) (init temp dt w : α)
    (hg : 0 ≤ Gen.larvae_growth temp (fmax w init) dt) : init ≤ larvaWeight init temp dt w := by
  unfold larvaWeight
  have : init ≤ fmax w init := by unfold fmax; split_ifs with h <;> [exact le_refl _; exact not_lt.mp h]
  linarith

/-- Folkvord's growth increment is positive for non-negative temperature whenever the specific
growth rate polynomial is positive, which holds on the whole size range of the model
(`log weight ∈ [-2.4, 8.5]`, i.e. 0.09 mg … 4900 mg): `growth_rate_pos`. -/
theorem growth_rate_pos (temp w : α) (ht : 0 ≤ temp) (hw0 : -2.4 ≤ w) (hw1 : w ≤ 8.5) :
    1.08 ≤ 1.08 + temp * (1.79 + w * (-0.074 + w * (-0.0965 + w * 0.0112))) := by
  -- the cubic is `0.0112·(w + 2.4)(w − 6.1)²` plus a positive definite quadratic with vertex near `6.14`
  have key : 0 ≤ 1.79 + w * (-0.074 + w * (-0.0965 + w * 0.0112)) := by
    linarith [mul_nonneg (neg_le_iff_add_nonneg.1 hw0) (mul_self_nonneg (w - 6.1)), mul_self_nonneg (w - 6.14)]
  exact le_add_of_nonneg_right (mul_nonneg ht key)

theorem growth_pos (hE : ExpLaws α) (hL : LogLaws α) (temp weight dt : α) (ht : 0 ≤ temp) (hw : 0 < weight)
    (hdt : 0 < dt) (hw0 : -2.4 ≤ log weight) (hw1 : log weight ≤ 8.5) :
    0 < Gen.larvae_growth temp weight dt := by
  unfold Gen.larvae_growth
  simp only []
  have hr := growth_rate_pos temp (log weight) ht hw0 hw1
  generalize 1.08 + temp * (1.79 + log weight * (-0.074 + log weight * (-0.0965 + log weight * 0.0112))) = G at hr ⊢
  have h1 : (1 : α) < 1.0 + 0.01 * G := by rw [lit_1]; linarith
  have h4 := hE.exp_lt _ _ (mul_pos (mul_pos (hL.log_pos _ h1) (by norm_num : (0 : α) < 1.0 / 86400.0)) hdt)
  rw [hE.exp_zero] at h4
  exact mul_pos (sub_pos.2 (lit_1 (α := α) ▸ h4)) hw

/-- non-vacuity: the bundles are inhabited by the reals -/
example : ExpLaws ℝ ∧ RpowLaws ℝ ∧ LogLaws ℝ := ⟨RealInst.expLaws, RealInst.rpowLaws, RealInst.logLaws⟩

end C09
