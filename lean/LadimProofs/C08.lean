import LadimProofs.Laws
import LadimModel.IBM.Sedimentation
import LadimModel.IBM.Grain
/-!
# C08 — sediment particles settle, rest and resuspend according to bed shear stress
-/
open Ladim Ladim.Sed
set_option linter.unusedSectionVars false
set_option linter.unusedVariables false

namespace C08
variable {α : Type} [Field α] [LinearOrder α] [IsStrictOrderedRing α] [HasSqrt α]

/-- bed shear stress: `tau = 1000 · 0.003 · (u² + v²)` -/
theorem tau_formula (hS : SqrtLaws α) (u v : α) :
    shearStress (ustar u v) = 1000 * (0.003 * (u * u + v * v)) := by
  have h : (0 : α) ≤ 0.003 * (u * u + v * v) :=
    mul_nonneg (by norm_num) (add_nonneg (mul_self_nonneg u) (mul_self_nonneg v))
  rw [shearStress, ustar, hS.sqrt_sq _ h, lit_1000, mul_comm]

/-- the active flag after `resuspend` (before mixing, sinking and burial) -/
def a1 (c : Config α) (e : Env α) (p : Particle α) : Nat := c.carrier.store (resuspend e p.active)
/-- sinking velocity used in the step -/
def sv (e : Env α) (p : Particle α) : α := if isZero p.sinkVel then e.newSink else p.sinkVel
/-- depth after mixing and sinking, before burial -/
def zSunk (c : Config α) (e : Env α) (xi : α) (p : Particle α) : α :=
  sink c.dt (sv e p) (a1 c e p) (diffuse c e xi (a1 c e p) p.z)

theorem update_z (c : Config α) (e : Env α) (xi : α) (p : Particle α) :
    (update c e xi p).z = (bury e.H (a1 c e p) (zSunk c e xi p)).1 := by
  unfold update a1 zSunk sv; rfl

theorem update_active (c : Config α) (e : Env α) (xi : α) (p : Particle α) :
    (update c e xi p).active =
      (if (bury e.H (a1 c e p) (zSunk c e xi p)).2 ≠ 0 ∧ p.active ≠ 1 then c.carrier.store 2
       else (bury e.H (a1 c e p) (zSunk c e xi p)).2) := by
  unfold update a1 zSunk sv; rfl

/-- a suspended particle sinks by exactly `sinking velocity × dt` (no mixing configured) -/
theorem sink_exact (c : Config α) (e : Env α) (xi : α) (p : Particle α)
    (ha : a1 c e p ≠ 0) (hm : c.mixing = .none) :
    zSunk c e xi p = p.z + c.dt * sv e p := by
  unfold zSunk sink diffuse
  simp [ha, hm]

/-- … plus the configured mixing -/
theorem sink_exact_mixing (c : Config α) (e : Env α) (xi : α) (p : Particle α) (ha : a1 c e p ≠ 0) :
    zSunk c e xi p = diffuse c e xi (a1 c e p) p.z + c.dt * sv e p := by
  unfold zSunk sink
  simp [ha]

/-- it stays suspended, at that depth, as long as it has not passed the bed -/
theorem stays_suspended (c : Config α) (e : Env α) (xi : α) (p : Particle α)
    (ha : a1 c e p ≠ 0) (hz : zSunk c e xi p ≤ e.H) :
    (update c e xi p).z = zSunk c e xi p ∧ (update c e xi p).active ≠ 0 := by
  have hb : bury e.H (a1 c e p) (zSunk c e xi p) = (zSunk c e xi p, 1) := by
    unfold bury; simp [ha, not_lt.mpr hz]
  constructor
  · rw [update_z, hb]
  · rw [update_active, hb]
    split_ifs <;> simp [Carrier.store] <;> cases c.carrier <;> simp

/-- when it reaches the sea bed it is placed exactly on the bed and marked settled -/
theorem settle_on_bed (c : Config α) (e : Env α) (xi : α) (p : Particle α)
    (ha : a1 c e p ≠ 0) (hz : e.H < zSunk c e xi p) :
    (update c e xi p).z = e.H ∧ (update c e xi p).active = 0 := by
  have hb : bury e.H (a1 c e p) (zSunk c e xi p) = (e.H, 0) := by
    unfold bury; simp [ha, hz]
  constructor
  · rw [update_z, hb]
  · rw [update_active, hb]
    simp

/-- a settled particle keeps its depth and stays settled unless the stress reaches the threshold -/
theorem settled_rests (c : Config α) (e : Env α) (xi : α) (p : Particle α) (h0 : p.active = 0)
    (hq : e.taucrit = none ∨ ∃ t, e.taucrit = some t ∧ shearStress (ustar e.ub e.vb) < t) :
    (update c e xi p).z = p.z ∧ (update c e xi p).active = 0 := by
  have hr : resuspend e p.active = 0 := by
    unfold resuspend
    rcases hq with h | ⟨t, ht, hlt⟩
    · simp [h, h0]
    · simp [ht, not_le.mpr hlt, h0]
  have ha : c.carrier.store (resuspend e p.active) = 0 := by
    rw [hr]; cases c.carrier <;> simp [Carrier.store]
  unfold update
  simp only [ha, diffuse, sink, bury, if_true]
  simp

/-- … over every history: a settled particle whose bed stress stays below the critical stress in every step (or that
has no critical stress at all) rests at its depth, settled, for the whole history — whatever the other forcing and
the random draws are -/
theorem settled_rests_history (c : Config α) (steps : List (Env α × α)) (p : Particle α) (h0 : p.active = 0)
    (hq : ∀ s ∈ steps, s.1.taucrit = none ∨ ∃ t, s.1.taucrit = some t ∧ shearStress (ustar s.1.ub s.1.vb) < t) :
    (steps.foldl (fun q s => update c s.1 s.2 q) p).z = p.z ∧
    (steps.foldl (fun q s => update c s.1 s.2 q) p).active = 0 := by
  induction steps generalizing p with
  | nil => exact ⟨rfl, h0⟩
  | cons s ss ih =>
    simp only [List.foldl]
    have h1 := settled_rests c s.1 s.2 p h0 (hq s (List.mem_cons_self))
    have h2 := ih (update c s.1 s.2 p) h1.2 (fun s' hs' => hq s' (List.mem_cons_of_mem _ hs'))
    exact ⟨h2.1.trans h1.1, h2.2⟩

theorem never_resuspends_without_taucrit (c : Config α) (e : Env α) (xi : α) (p : Particle α)
    (h0 : p.active = 0) (ht : e.taucrit = none) : (update c e xi p).active = 0 :=
  (settled_rests c e xi p h0 (Or.inl ht)).2

/-- exact resuspension rule for a settled particle: it is active after the update iff the bed shear
stress reaches the critical stress and it is not re-buried in the same step -/
theorem resuspends_iff (c : Config α) (e : Env α) (xi : α) (p : Particle α) (t : α)
    (h0 : p.active = 0) (ht : e.taucrit = some t) :
    (update c e xi p).active ≠ 0 ↔ (t ≤ shearStress (ustar e.ub e.vb) ∧ ¬ e.H < zSunk c e xi p) := by
  by_cases hs : t ≤ shearStress (ustar e.ub e.vb)
  · have hr : resuspend e p.active = 1 := by unfold resuspend; simp [ht, hs]
    have ha : a1 c e p = 1 := by unfold a1; rw [hr]; cases c.carrier <;> simp [Carrier.store]
    by_cases hz : e.H < zSunk c e xi p
    · have := (settle_on_bed c e xi p (by rw [ha]; simp) hz).2
      simp [this, hz]
    · have := (stays_suspended c e xi p (by rw [ha]; simp) (not_lt.mp hz)).2
      simp [this, hs, hz]
  · have := (settled_rests c e xi p h0 (Or.inr ⟨t, ht, not_le.mp hs⟩)).2
    simp [this, hs]

/-- numeric flag carrier: `bury` leaves 0 or 1, and the update turns a 1 into 2 for a particle that has rested
before -/
theorem update_active_numeric (c : Config α) (e : Env α) (xi : α) (p : Particle α) (hc : c.carrier = .numeric) :
    ∃ b ≤ 1, (update c e xi p).active = if b ≠ 0 ∧ p.active ≠ 1 then 2 else b := by
  refine ⟨(bury e.H (a1 c e p) (zSunk c e xi p)).2, ?_, by rw [update_active, hc]; rfl⟩
  unfold bury
  split_ifs <;> simp

/-- numeric flag carrier: after an update the flag is 0, 1 or 2 -/
theorem flag_range (c : Config α) (e : Env α) (xi : α) (p : Particle α) (hc : c.carrier = .numeric) :
    (update c e xi p).active ≤ 2 := by
  obtain ⟨b, hb, h⟩ := update_active_numeric c e xi p hc
  rw [h]
  split_ifs <;> omega

/-- numeric flag carrier: previously-settled particles are flagged distinctly:
`active' = 2 ↔ active' ≠ 0 ∧ active ≠ 1` -/
theorem flag_distinct (c : Config α) (e : Env α) (xi : α) (p : Particle α) (hc : c.carrier = .numeric) :
    (update c e xi p).active = 2 ↔ ((update c e xi p).active ≠ 0 ∧ p.active ≠ 1) := by
  obtain ⟨b, hb, h⟩ := update_active_numeric c e xi p hc
  rw [h]
  split_ifs <;> omega

/-- a particle that has ever rested on the bed (flag ≠ 1) is never flagged "never settled" again -/
theorem flag_never_back_to_one (c : Config α) (e : Env α) (xi : α) (p : Particle α)
    (hc : c.carrier = .numeric) (h : p.active ≠ 1) : (update c e xi p).active ≠ 1 := by
  obtain ⟨b, hb, h'⟩ := update_active_numeric c e xi p hc
  rw [h']
  split_ifs <;> omega

theorem flag_history (c : Config α) (hc : c.carrier = .numeric) (steps : List (Env α × α))
    (p : Particle α) (h : p.active ≠ 1) :
    (steps.foldl (fun q s => update c s.1 s.2 q) p).active ≠ 1 := by
  induction steps generalizing p with
  | nil => simpa
  | cons s ss ih => exact ih _ (flag_never_back_to_one c s.1 s.2 p hc h)

/-- mining variant without resuspension: a particle that settles leaves the simulation -/
theorem mine_settled_leaves (c : Mine.Config α) (e : Mine.Env α) (xi : α) (p : Particle α)
    (ht : c.taucrit = none) (hA : c.hasActive = true) (ha : p.active ≠ 0)
    (hz : e.H < sink c.dt (if c.vadv then p.sinkVel + e.w else p.sinkVel) p.active
      (mixMine c.vdiff c.dt xi p.z)) :
    (Mine.update c e xi p).alive = false ∧ (Mine.update c e xi p).z = e.H := by
  unfold Mine.update Mine.resusp
  simp only [ht, hA, if_true]
  unfold bury
  simp [ha, hz]

/-! ## grain-size raster: nearest cell, critical stress -/
section grain
open Ladim.Grain
variable [HasTrunc α]

/-- law of `np.int32(x)` for non-negative `x` (truncation = floor) -/
def TruncLaw (α : Type) [Field α] [LinearOrder α] [HasTrunc α] : Prop :=
  ∀ x : α, 0 ≤ x → ((trunc x : Int) : α) ≤ x ∧ x < ((trunc x : Int) : α) + 1

/-- the integer `k` with `k ≤ c + t < k + 1`, clipped to `0 .. imax`, is within `c` of `t ∈ [0, imax]`, for the
half `c` of one (kept a variable: `linarith` is slow on the fraction and needs `c + c = 1` only) -/
theorem clip_floor_near (c t : α) (k imax : Int) (hc : c + c = 1) (h0 : 0 ≤ t) (h1 : t ≤ imax)
    (hl : (k : α) ≤ c + t) (hu : c + t < k + 1) : |t - ((clipInt k 0 imax : Int) : α)| ≤ c := by
  have hk0 : 0 ≤ k := by
    have : (0 : α) < ((k + 1 : Int) : α) := by push_cast; linarith
    have := Int.cast_pos.mp this
    omega
  rw [clipInt, if_neg (not_lt.mpr hk0), abs_le]
  split_ifs with h2
  · -- clipped to `imax`: `t` is in `[imax - c, imax]`
    have : ((imax + 1 : Int) : α) ≤ k := Int.cast_le.mpr h2
    push_cast at this
    constructor <;> linarith
  · constructor <;> linarith

/-- inside the raster the selected cell is the nearest one: with `t = (lon − lon0)/dlon ∈ [0, imax]`
(any sign of `dlon`: ascending or descending axes), `|t − i| ≤ 1/2`. -/
theorem nearest_cell_is_nearest (hT : TruncLaw α) (lon0 dlon lon : α) (imax : Int)
    (h0 : 0 ≤ (lon - lon0) / dlon) (h1 : (lon - lon0) / dlon ≤ (imax : α)) (him : 0 ≤ imax) :
    |(lon - lon0) / dlon - ((nearestCell lon0 dlon imax lon : Int) : α)| ≤ 1 / 2 := by
  have e : (0.5 : α) = 1 / 2 := by norm_num
  have h := hT (0.5 + (lon - lon0) / dlon) (add_nonneg (by norm_num) h0)
  unfold nearestCell
  rw [e] at h ⊢
  exact clip_floor_near _ _ _ _ (add_halves 1) h0 h1 h.1 h.2

/-- outside the raster the index is clamped to the edge cell -/
theorem nearest_cell_clamped (lon0 dlon lon : α) (imax : Int) (him : 0 ≤ imax) :
    0 ≤ nearestCell lon0 dlon imax lon ∧ nearestCell lon0 dlon imax lon ≤ imax := by
  unfold nearestCell clipInt
  split_ifs <;> omega

theorem taucrit_bin_table (sed : α) :
    (sed = 0 → taucritBin sed = 0.12) ∧ (0 < sed → sed < 70 → taucritBin sed = 0.06) ∧
    (70 ≤ sed → sed ≤ 180 → taucritBin sed = 0.12) ∧ (180 < sed → taucritBin sed = 0.32) := by
  have e70 : (70.0 : α) = 70 := by norm_num
  simp only [taucritBin, lit_0, e70, lit_180]
  refine ⟨?_, ?_, ?_, ?_⟩
  · rintro rfl
    rw [if_neg (by norm_num), if_neg (by norm_num)]
  · intro h1 h2
    rw [if_neg (not_lt.mpr (h2.le.trans (by norm_num))), if_pos ⟨h1, h2⟩]
  · intro h1 h2
    rw [if_neg (not_lt.mpr h2), if_neg fun h => absurd h.2 (not_lt.mpr h1)]
  · intro h
    rw [if_pos h]

theorem taucrit_poly_default : taucritPoly (0 : α) = 0.12 := by
  unfold taucritPoly; norm_num

theorem taucrit_poly_pos (sed : α) (h : 0 ≤ sed) : 0 < taucritPoly sed := by
  unfold taucritPoly
  split_ifs
  · exact add_pos_of_nonneg_of_pos
      (add_nonneg (mul_nonneg (by norm_num) (mul_self_nonneg sed)) (mul_nonneg (by norm_num) h)) (by norm_num)
  · norm_num

/-- the lazily cached bottom stress equals a fresh computation whenever the step counter has
increased since the cached evaluation; within the same step it returns the cached value. -/
theorem cache_fresh {β : Type} (c : Cache β) (t : Int) (v : β) (h : c.tstep < t) :
    (c.get t v).2 = v ∧ (c.get t v).1.tstep = t := by
  unfold Cache.get; simp [h]

theorem cache_same_step {β : Type} (c : Cache β) (v : β) :
    (c.get c.tstep v).2 = c.value ∧ (c.get c.tstep v).1 = c := by
  unfold Cache.get; simp

/-- transparency over a whole run: if the step counter strictly increases from update to update
(as LADiM's does), every lookup returns the value computed for that step -/
theorem cache_transparent {β : Type} (c : Cache β) (steps : List (Int × β))
    (hinc : List.Pairwise (fun a b => a.1 < b.1) steps) (h0 : ∀ s ∈ steps, c.tstep < s.1) :
    ∀ (pre : List (Int × β)) (s : Int × β) (post : List (Int × β)), steps = pre ++ s :: post →
      ((pre.foldl (fun cc x => (cc.get x.1 x.2).1) c).get s.1 s.2).2 = s.2 := by
  intro pre s post hsplit
  have aux : ∀ (l : List (Int × β)) (cc : Cache β) (bound : Int),
      List.Pairwise (fun a b => a.1 < b.1) l → (∀ x ∈ l, cc.tstep < x.1) → (∀ x ∈ l, x.1 < bound) →
      cc.tstep < bound → (l.foldl (fun cc x => (cc.get x.1 x.2).1) cc).tstep < bound := by
    intro l
    induction l with
    | nil => intro cc bound _ _ _ h; simpa using h
    | cons x xs ih =>
      intro cc bound hp hlt hb hcb
      simp only [List.foldl]
      have hx : cc.tstep < x.1 := hlt x (by simp)
      have hget : (cc.get x.1 x.2).1.tstep = x.1 := (cache_fresh cc x.1 x.2 hx).2
      rw [List.pairwise_cons] at hp
      apply ih _ bound hp.2
      · intro y hy; rw [hget]; exact hp.1 y hy
      · intro y hy; exact hb y (by simp [hy])
      · rw [hget]; exact hb x (by simp)
  subst hsplit
  rw [List.pairwise_append] at hinc
  have hts := aux pre c s.1 hinc.1 (fun x hx => h0 x (by simp [hx]))
    (fun x hx => hinc.2.2 x hx s (by simp)) (h0 s (by simp))
  exact (cache_fresh _ _ _ hts).1

end grain

/-- non-vacuity of the `SqrtLaws` / resuspension hypotheses -/
example : SqrtLaws ℝ := RealInst.sqrtLaws

end C08
