import LadimProofs.Basic
import Mathlib.Data.List.Sort
import Mathlib.Data.Int.Order.Basic
import Mathlib.Algebra.Order.Ring.Int
import LadimModel.Release.Dates
/-!
# C02 — release dates are ordered, inside their span and evenly spaced
-/
open Ladim.Dates
set_option linter.unusedVariables false

namespace C02

/-- every emitted date is a valid timestamp (never `NaT`) for every particle count ≥ 1 — including
exactly one particle -/
theorem valid_timestamp (perSec start stop : Int) (num i : Nat) :
    (releaseTime divisor perSec start stop num i).isSome = true := by
  unfold releaseTime tdivNaT divisor
  have : max ((num : Int) - 1) 1 ≠ 0 := by omega
  simp [this]

/-- the behaviour before the `fix:` commit: a single particle gets `NaT` -/
theorem single_particle_old_fails (perSec start stop : Int) :
    releaseTime divisorOld perSec start stop 1 0 = none := by
  unfold releaseTime tdivNaT divisorOld; simp

/-- explicit value -/
theorem releaseTime_eq (perSec start stop : Int) (num i : Nat) :
    releaseTime divisor perSec start stop num i =
      some (start + ((i : Int) * spanSeconds perSec start stop).tdiv (divisor num) * perSec) := by
  unfold releaseTime tdivNaT
  have : divisor num ≠ 0 := by unfold divisor; omega
  simp [this]

/-- the first release time is the first given date -/
theorem first_is_start (perSec start stop : Int) (num : Nat) :
    releaseTime divisor perSec start stop num 0 = some start := by
  rw [releaseTime_eq]; simp

/-- a single particle yields the (first) date itself -/
theorem single_particle (perSec start stop : Int) :
    dateRange divisor perSec start stop 1 = [some start] := by
  unfold dateRange
  simp [first_is_start]

/-- the last release time, `num ≥ 2`: the divisor cancels -/
theorem last_eq (perSec start stop : Int) (num : Nat) (hn : 2 ≤ num) :
    releaseTime divisor perSec start stop num (num - 1) =
      some (start + spanSeconds perSec start stop * perSec) := by
  obtain ⟨m, rfl⟩ : ∃ m, num = m + 2 := ⟨num - 2, by omega⟩
  have hd : divisor (m + 2) = (m : Int) + 1 := by unfold divisor; omega
  have hc : ((m + 2 - 1 : Nat) : Int) = (m : Int) + 1 := by omega
  rw [releaseTime_eq, hd, hc, Int.mul_tdiv_cancel_left _ (by omega)]

/-- the last release time is the second date, to the whole second:
`start + ⌊(stop − start)/perSec⌋·perSec`, within one second below `stop` -/
theorem last_is_stop (perSec start stop : Int) (num : Nat) (hn : 2 ≤ num) (hp : 0 < perSec) :
    ∃ t, releaseTime divisor perSec start stop num (num - 1) = some t ∧ t ≤ stop ∧ stop - t < perSec := by
  refine ⟨_, last_eq perSec start stop num hn, ?_, ?_⟩
  · unfold spanSeconds
    rw [Int.fdiv_eq_ediv_of_nonneg _ hp.le]
    have := Int.ediv_mul_le (stop - start) (ne_of_gt hp)
    omega
  · unfold spanSeconds
    rw [Int.fdiv_eq_ediv_of_nonneg _ hp.le]
    have := Int.lt_ediv_add_one_mul_self (stop - start) hp
    linarith

/-- exact whole-second spans: the last time *is* the second date -/
theorem last_is_stop_exact (perSec start stop : Int) (num : Nat) (hn : 2 ≤ num) (hp : 0 < perSec)
    (hdiv : perSec ∣ stop - start) :
    releaseTime divisor perSec start stop num (num - 1) = some stop := by
  rw [last_eq perSec start stop num hn]
  unfold spanSeconds
  rw [Int.fdiv_eq_ediv_of_nonneg _ hp.le, Int.ediv_mul_cancel hdiv]
  congr 1; omega

/-- truncated division is monotone in the numerator -/
theorem tdiv_mono (a b c : Int) (hc : 0 < c) (h : a ≤ b) : a.tdiv c ≤ b.tdiv c := by
  rcases le_or_gt 0 a with ha | ha
  · rw [Int.tdiv_eq_ediv_of_nonneg ha, Int.tdiv_eq_ediv_of_nonneg (le_trans ha h)]
    exact Int.ediv_le_ediv hc h
  · rcases le_or_gt 0 b with hb | hb
    · have h1 : a.tdiv c ≤ 0 := by
        have h0 : 0 ≤ (-a).tdiv c := Int.tdiv_nonneg (by omega) hc.le
        rw [Int.neg_tdiv] at h0; omega
      have h2 : 0 ≤ b.tdiv c := Int.tdiv_nonneg hb hc.le
      omega
    · -- both negative: tdiv a c = -((-a) / c)
      have ea : a.tdiv c = -((-a) / c) := by
        rw [show a = -(-a) by omega, Int.neg_tdiv, Int.tdiv_eq_ediv_of_nonneg (by omega)]; simp
      have eb : b.tdiv c = -((-b) / c) := by
        rw [show b = -(-b) by omega, Int.neg_tdiv, Int.tdiv_eq_ediv_of_nonneg (by omega)]; simp
      rw [ea, eb]
      have := Int.ediv_le_ediv hc (show -b ≤ -a by omega)
      omega

/-- non-negative span ⇒ release times are non-decreasing in the particle index, start at `start`
and never pass the last one -/
theorem monotone_of_nonneg_span (perSec start stop : Int) (num i j : Nat) (hp : 0 < perSec)
    (hs : 0 ≤ spanSeconds perSec start stop) (hij : i ≤ j) :
    ∀ a b, releaseTime divisor perSec start stop num i = some a →
      releaseTime divisor perSec start stop num j = some b → a ≤ b := by
  intro a b ha hb
  rw [releaseTime_eq] at ha hb
  simp only [Option.some.injEq] at ha hb
  subst ha hb
  have hd : 0 < divisor num := by unfold divisor; omega
  have : (i : Int) * spanSeconds perSec start stop ≤ (j : Int) * spanSeconds perSec start stop :=
    Int.mul_le_mul_of_nonneg_right (by exact_mod_cast hij) hs
  linarith [Int.mul_le_mul_of_nonneg_right (tdiv_mono _ _ _ hd this) hp.le]

/-- reversed span ⇒ non-increasing -/
theorem antitone_of_neg_span (perSec start stop : Int) (num i j : Nat) (hp : 0 < perSec)
    (hs : spanSeconds perSec start stop ≤ 0) (hij : i ≤ j) :
    ∀ a b, releaseTime divisor perSec start stop num i = some a →
      releaseTime divisor perSec start stop num j = some b → b ≤ a := by
  intro a b ha hb
  rw [releaseTime_eq] at ha hb
  simp only [Option.some.injEq] at ha hb
  subst ha hb
  have hd : 0 < divisor num := by unfold divisor; omega
  have : (j : Int) * spanSeconds perSec start stop ≤ (i : Int) * spanSeconds perSec start stop :=
    Int.mul_le_mul_of_nonpos_right (by exact_mod_cast hij) hs
  linarith [Int.mul_le_mul_of_nonneg_right (tdiv_mono _ _ _ hd this) hp.le]

/-- even spacing to the whole second: the emitted offset (in seconds) differs from the exact
`i·dt/(num−1)` by less than one second -/
theorem even_spacing (a c : Int) (hc : 0 < c) :
    ((a.tdiv c : Int) : ℚ) - (a : ℚ) / c < 1 ∧ (a : ℚ) / c - (a.tdiv c : Int) < 1 := by
  have hcq : (0 : ℚ) < c := by exact_mod_cast hc
  have key : (a : ℚ) = (a.tdiv c : Int) * c + (a.tmod c : Int) := by
    have : (c * a.tdiv c + a.tmod c : Int) = a := Int.mul_tdiv_add_tmod a c
    have h2 : ((c * a.tdiv c + a.tmod c : Int) : ℚ) = (a : ℚ) := by rw [this]
    push_cast at h2; linarith
  have hm1 : ((a.tmod c : Int) : ℚ) < c := by
    have := Int.tmod_lt_of_pos a hc; exact_mod_cast this
  have hm2 : -(c : ℚ) < ((a.tmod c : Int) : ℚ) := by
    have : -c < a.tmod c := by
      have := Int.tmod_lt_of_pos (-a) hc
      rw [Int.neg_tmod] at this; omega
    exact_mod_cast this
  have e : (a : ℚ) / c = (a.tdiv c : Int) + ((a.tmod c : Int) : ℚ) / c := by
    rw [key]; field_simp
  rw [e]
  constructor
  · have : -1 < ((a.tmod c : Int) : ℚ) / c := by rw [lt_div_iff₀ hcq]; linarith
    linarith
  · have : ((a.tmod c : Int) : ℚ) / c < 1 := by rw [div_lt_one hcq]; exact hm1
    linarith

/-- a single date or equal endpoints yield that date for every particle -/
theorem zero_span_constant (perSec start : Int) (num i : Nat) :
    releaseTime divisor perSec start start num i = some start := by
  rw [releaseTime_eq]
  unfold spanSeconds
  simp

/-- the table is sorted by the rendered date string; whenever rendering is strictly monotone
(ISO-8601 with fixed-width fields: validated against numpy on every run) the rows are in
non-decreasing time order -/
theorem sorted_after_sort {ρ κ : Type} [LinearOrder κ] (time : ρ → Int) (render : Int → κ)
    (hr : StrictMono render) (rows : List ρ)
    (hs : List.Pairwise (fun a b => render (time a) ≤ render (time b)) rows) :
    List.Pairwise (fun a b => time a ≤ time b) rows :=
  hs.imp (fun h => hr.le_iff_le.mp h)

/-- non-vacuity: 4 particles over 10 s: 0, 3, 6, 10 (truncation toward zero) -/
example : dateRange divisor 1 100 110 4 = [some 100, some 103, some 106, some 110] := by decide
example : dateRange divisor 1 110 100 4 = [some 110, some 107, some 104, some 100] := by decide
example : dateRange divisorOld 1 100 110 1 = [none] := by decide

/-! ## inside the span (explicit statement; follows from monotonicity and the end points) -/

theorem spanSeconds_nonneg (perSec start stop : Int) (hp : 0 < perSec) (h : start ≤ stop) :
    0 ≤ spanSeconds perSec start stop := by
  unfold spanSeconds
  rw [Int.fdiv_eq_ediv_of_nonneg _ hp.le]
  exact Int.ediv_nonneg (by omega) hp.le

/-- **inside the span**: with `start ≤ stop`, every one of the `num` release times lies in `[start, stop]` -/
theorem inside_span (perSec start stop : Int) (num i : Nat) (hp : 0 < perSec) (h : start ≤ stop) (hi : i < num) :
    ∃ t, releaseTime divisor perSec start stop num i = some t ∧ start ≤ t ∧ t ≤ stop := by
  have hs := spanSeconds_nonneg perSec start stop hp h
  refine ⟨_, releaseTime_eq perSec start stop num i, ?_, ?_⟩
  · exact monotone_of_nonneg_span perSec start stop num 0 i hp hs (Nat.zero_le _) _ _
      (first_is_start perSec start stop num) (releaseTime_eq perSec start stop num i)
  · by_cases hn : 2 ≤ num
    · obtain ⟨t, ht, hle, _⟩ := last_is_stop perSec start stop num hn hp
      exact le_trans (monotone_of_nonneg_span perSec start stop num i (num - 1) hp hs (by omega) _ _
        (releaseTime_eq perSec start stop num i) ht) hle
    · have : i = 0 := by omega
      subst this
      have := first_is_start perSec start stop num
      rw [releaseTime_eq] at this
      simp only [Option.some.injEq] at this
      omega

/-- the whole list: `num` valid times, each in `[start, stop]` -/
theorem dateRange_inside_span (perSec start stop : Int) (num : Nat) (hp : 0 < perSec) (h : start ≤ stop) :
    (dateRange divisor perSec start stop num).length = num ∧
    ∀ x ∈ dateRange divisor perSec start stop num, ∃ t, x = some t ∧ start ≤ t ∧ t ≤ stop := by
  unfold dateRange
  refine ⟨by simp, ?_⟩
  intro x hx
  simp only [List.mem_map, List.mem_range] at hx
  obtain ⟨i, hi, rfl⟩ := hx
  exact inside_span perSec start stop num i hp h hi

example : ∃ t, releaseTime divisor 1 0 10 3 1 = some t ∧ (0:Int) ≤ t ∧ t ≤ 10 :=
  inside_span 1 0 10 3 1 (by decide) (by decide) (by decide)
/-- **ordered**, as a statement about the emitted list: with `start ≤ stop` the `num` dates are pairwise
non-decreasing in list (= particle) order -/
theorem dateRange_sorted (perSec start stop : Int) (num : Nat) (hp : 0 < perSec) (h : start ≤ stop) :
    List.Pairwise (fun a b => ∀ x y, a = some x → b = some y → x ≤ y) (dateRange divisor perSec start stop num) := by
  unfold dateRange
  rw [List.pairwise_map]
  refine List.Pairwise.imp ?_ (List.pairwise_lt_range (n := num))
  intro i j hij x y hx hy
  exact monotone_of_nonneg_span perSec start stop num i j hp (spanSeconds_nonneg perSec start stop hp h)
    (le_of_lt hij) x y hx hy

end C02
