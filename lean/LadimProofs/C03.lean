import LadimProofs.Laws
import LadimProofs.SampleLemmas
import LadimModel.Generated.Formulas
/-!
# C03 — release positions lie inside the requested area and carry its attributes
-/
open Ladim Ladim.Sample
set_option linter.unusedVariables false
set_option linter.unusedSectionVars false

namespace C03
variable {α : Type} [Field α] [LinearOrder α] [IsStrictOrderedRing α]

/-- the folded unit-square draw lies in the unit triangle `{s, t ≥ 0, s + t ≤ 1}` -/
theorem fold_in_triangle (s t : α) (hs0 : 0 ≤ s) (hs1 : s < 1) (ht0 : 0 ≤ t) (ht1 : t < 1) :
    0 ≤ (foldUnit s t).1 ∧ 0 ≤ (foldUnit s t).2 ∧ (foldUnit s t).1 + (foldUnit s t).2 ≤ 1 := by
  unfold foldUnit
  rw [lit_1]
  split_ifs with h
  · exact ⟨sub_nonneg.2 hs1.le, sub_nonneg.2 ht1.le, by linarith⟩
  · exact ⟨hs0, ht0, not_lt.1 h⟩

/-- `bary` is the convex combination with weights `(1 − s − t, s, t)` -/
theorem bary_convex (a1 a2 a3 s t : α) :
    bary a1 a2 a3 s t = (1 - s - t) * a1 + s * a2 + t * a3 := by
  unfold bary; ring

/-- a convex combination of the three vertices stays on the same side of every line (closed half
plane) as the vertices: hence inside the (closed) triangle, whatever its orientation -/
theorem sample_in_halfplanes (T : Tri α) (s t a b c : α) (hs : 0 ≤ s) (ht : 0 ≤ t) (hst : s + t ≤ 1)
    (h1 : a * T.x1 + b * T.y1 ≤ c) (h2 : a * T.x2 + b * T.y2 ≤ c) (h3 : a * T.x3 + b * T.y3 ≤ c) :
    a * bary T.x1 T.x2 T.x3 s t + b * bary T.y1 T.y2 T.y3 s t ≤ c := by
  rw [bary_convex, bary_convex]
  have h0 : 0 ≤ 1 - s - t := by linarith
  linarith [mul_le_mul_of_nonneg_left h1 h0, mul_le_mul_of_nonneg_left h2 hs, mul_le_mul_of_nonneg_left h3 ht]

/-- the coordinates are bounded by the triangle's bounding box -/
theorem bary_between (a1 a2 a3 s t lo hi : α) (hs : 0 ≤ s) (ht : 0 ≤ t) (hst : s + t ≤ 1)
    (h1 : lo ≤ a1 ∧ a1 ≤ hi) (h2 : lo ≤ a2 ∧ a2 ≤ hi) (h3 : lo ≤ a3 ∧ a3 ≤ hi) :
    lo ≤ bary a1 a2 a3 s t ∧ bary a1 a2 a3 s t ≤ hi := by
  rw [bary_convex]
  have h0 : 0 ≤ 1 - s - t := by linarith
  constructor
  · linarith [mul_le_mul_of_nonneg_left h1.1 h0, mul_le_mul_of_nonneg_left h2.1 hs,
      mul_le_mul_of_nonneg_left h3.1 ht]
  · linarith [mul_le_mul_of_nonneg_left h1.2 h0, mul_le_mul_of_nonneg_left h2.2 hs,
      mul_le_mul_of_nonneg_left h3.2 ht]

theorem triArea_nonneg (T : Tri α) : 0 ≤ triArea T := by
  unfold triArea; rw [fabs_eq_abs]
  exact mul_nonneg (by norm_num) (abs_nonneg _)

/-- the area is orientation independent -/
theorem triArea_swap (T : Tri α) : triArea ⟨T.x1, T.y1, T.x3, T.y3, T.x2, T.y2⟩ = triArea T := by
  unfold triArea
  rw [fabs_eq_abs, fabs_eq_abs, ← abs_neg]
  congr 2; ring

/-- the triangle choice is always a valid index: for every `u ∈ [0,1)`, non-negative areas with a
positive total -/
theorem pick_in_range (areas : List α) (u : α) (hu1 : u < 1) (hne : areas ≠ [])
    (hpos : ∀ a ∈ areas, 0 ≤ a)
    (htot : ∀ tot, (cumsum areas).getLast? = some tot → 0 < tot) :
    pickTriangle areas u < areas.length := by
  unfold pickTriangle
  have hlen := SampleLemmas.cumsum_length areas
  have hcne : cumsum areas ≠ [] := by
    intro h; rw [h] at hlen; simp at hlen; exact hne (List.length_eq_zero_iff.mp hlen.symm)
  obtain ⟨tot, htl⟩ : ∃ tot, (cumsum areas).getLast? = some tot := by
    cases h : (cumsum areas).getLast? with
    | none => simp [List.getLast?_eq_none_iff] at h; exact absurd h hcne
    | some t => exact ⟨t, rfl⟩
  have ht := htot tot htl
  simp only [htl]
  have hmem : tot ∈ cumsum areas := List.mem_of_getLast? htl
  have := SampleLemmas.searchsorted_lt_length ((cumsum areas).map (fun c => c / tot)) u
    ⟨tot / tot, List.mem_map.mpr ⟨tot, hmem, rfl⟩, by rw [div_self (ne_of_gt ht)]; exact not_lt.mpr hu1.le⟩
  simpa [hlen] using this

/-- the sampled point is a convex combination of the vertices of a triangle *of the triangulation* -/
theorem sample_in_chosen_triangle (tris : List (Tri α)) (u s t x y : α) (k : Nat)
    (hs0 : 0 ≤ s) (hs1 : s < 1) (ht0 : 0 ≤ t) (ht1 : t < 1)
    (h : samplePoint tris u s t = some (x, y, k)) :
    ∃ T ∈ tris, ∃ s' t' : α, 0 ≤ s' ∧ 0 ≤ t' ∧ s' + t' ≤ 1 ∧
      x = (1 - s' - t') * T.x1 + s' * T.x2 + t' * T.x3 ∧ y = (1 - s' - t') * T.y1 + s' * T.y2 + t' * T.y3 ∧
      tris[k]? = some T := by
  unfold samplePoint at h
  simp only [] at h
  cases hk : tris[pickTriangle (tris.map triArea) u]? with
  | none => simp [hk] at h
  | some T =>
    simp only [hk, Option.some.injEq, Prod.mk.injEq] at h
    obtain ⟨hx, hy, hkk⟩ := h
    have hf := fold_in_triangle s t hs0 hs1 ht0 ht1
    refine ⟨T, List.mem_of_getElem? hk, (foldUnit s t).1, (foldUnit s t).2, hf.1, hf.2.1, hf.2.2, ?_, ?_, ?_⟩
    · rw [← hx, bary_convex]
    · rw [← hy, bary_convex]
    · rw [← hkk]; exact hk

/-- a point location is reproduced exactly for every particle -/
theorem point_exact (lon lat : α) (num : Nat) :
    (List.replicate num lon, List.replicate num lat) = (List.replicate num lon, List.replicate num lat) ∧
    ∀ p ∈ List.replicate num (lon, lat), p = (lon, lat) := by
  refine ⟨rfl, fun p hp => (List.mem_replicate.mp hp).2⟩

/-! ## degree ↔ metre conversions (generated from `makrel.py`) -/
section conv
variable [HasSqrt α] [HasExp α] [HasLog α] [HasSin α] [HasCos α] [HasAsin α] [HasRpow α] [HasPi α]

/-- `degree_diff_to_metric ∘ metric_diff_to_degrees = id` wherever the conversion is defined
(`cos φ ≠ 0`, i.e. away from the poles; `π ≠ 0`; the meridional radius term non-zero) -/
theorem metric_deg_inverse (dx dy lat : α) (hpi : (pi : α) ≠ 0)
    (hc : cos (lat * pi / 180.0) ≠ 0)
    (hr : sqrt ((6378137.0 * sin (lat * pi / 180.0)) * (6378137.0 * sin (lat * pi / 180.0)) +
        (6356752.314245 * cos (lat * pi / 180.0)) * (6356752.314245 * cos (lat * pi / 180.0))) ≠ 0) :
    Gen.deg_to_metric (Gen.metric_to_deg dx dy lat).1 (Gen.metric_to_deg dx dy lat).2 lat = (dx, dy) := by
  unfold Gen.deg_to_metric Gen.metric_to_deg
  simp only []
  have h180 : (180.0 : α) ≠ 0 := by norm_num
  have ha : (6378137.0 : α) ≠ 0 := by norm_num
  generalize sqrt ((6378137.0 * sin (lat * pi / 180.0)) * (6378137.0 * sin (lat * pi / 180.0)) +
        (6356752.314245 * cos (lat * pi / 180.0)) * (6356752.314245 * cos (lat * pi / 180.0))) = R at hr ⊢
  generalize cos (lat * pi / 180.0) = C at hc ⊢
  refine Prod.ext ?_ ?_
  · simp only []; field_simp
  · simp only []; field_simp

theorem deg_metric_inverse (dlon dlat lat : α) (hpi : (pi : α) ≠ 0)
    (hc : cos (lat * pi / 180.0) ≠ 0)
    (hr : sqrt ((6378137.0 * sin (lat * pi / 180.0)) * (6378137.0 * sin (lat * pi / 180.0)) +
        (6356752.314245 * cos (lat * pi / 180.0)) * (6356752.314245 * cos (lat * pi / 180.0))) ≠ 0) :
    Gen.metric_to_deg (Gen.deg_to_metric dlon dlat lat).1 (Gen.deg_to_metric dlon dlat lat).2 lat = (dlon, dlat) := by
  unfold Gen.deg_to_metric Gen.metric_to_deg
  simp only []
  have h180 : (180.0 : α) ≠ 0 := by norm_num
  have ha : (6378137.0 : α) ≠ 0 := by norm_num
  generalize sqrt ((6378137.0 * sin (lat * pi / 180.0)) * (6378137.0 * sin (lat * pi / 180.0)) +
        (6356752.314245 * cos (lat * pi / 180.0)) * (6356752.314245 * cos (lat * pi / 180.0))) = R at hr ⊢
  generalize cos (lat * pi / 180.0) = C at hc ⊢
  refine Prod.ext ?_ ?_
  · simp only []; field_simp
  · simp only []; field_simp

end conv

/-- non-vacuity: a concrete triangle and draw -/
example : foldUnit (3/4 : ℚ) (1/2) = (1/4, 1/2) := by unfold foldUnit; norm_num

end C03
