import LadimProofs.Basic
import LadimModel.IBM.Chemicals
import LadimModel.IBM.Sedimentation
import LadimModel.IBM.Bio
/-!
# C05 — particles stay inside the water column / the module's depth band

All statements are over an arbitrary linear ordered field `α` (exact arithmetic), for every value of
the draws, every depth `H ≥ 0`, every configuration.  The preconditions are exactly the ones the
property names ("a single random vertical step is smaller than the local water depth where only one
reflection is applied"); where the proof forces an additional one it is stated, and the excluded
region is witnessed by a `…_fails` theorem.
-/
open Ladim

set_option linter.unusedSectionVars false
set_option linter.unusedVariables false
namespace C05
variable {α : Type} [Field α] [LinearOrder α] [IsStrictOrderedRing α]

/-- band predicate -/
def InBand (H z : α) : Prop := 0 ≤ z ∧ z ≤ H

/-- the surface mirror `z[z < 0] *= -1` (the body of `fabs`) -/
theorem mirror_eq_abs (x : α) : (if x < 0.0 then -x else x) = |x| := fabs_eq_abs x

theorem mirror_nonneg (x : α) : 0 ≤ (if x < 0.0 then -x else x) := mirror_eq_abs x ▸ abs_nonneg x

/-- surface mirror, then one reflection at the bed: enough when the depth is within one water depth of the
band (the predictor of `diffuse_labolle`, and constant mixing of the sedimentation module) -/
theorem reflectPred_band (H z : α) (h1 : -H ≤ z) (h2 : z ≤ 2 * H) : InBand H (Chemicals.reflectPred H z) := by
  unfold InBand Chemicals.reflectPred
  simp only [mirror_eq_abs, lit_2]
  have := abs_le.mpr (show -(2 * H) ≤ z ∧ z ≤ 2 * H from ⟨by linarith, h2⟩)
  split_ifs with h
  · constructor <;> linarith
  · exact ⟨abs_nonneg z, not_lt.mp h⟩

/-- a particle in the band displaced by at most the water depth is within one water depth of the band -/
theorem disp_range {H z d : α} (hz : InBand H z) (hd : |d| ≤ H) : -H ≤ z + d ∧ z + d ≤ 2 * H := by
  obtain ⟨h0, h1⟩ := hz
  obtain ⟨hd0, hd1⟩ := abs_le.mp hd
  constructor <;> linarith

/-! ## chemicals -/
section chemicals
open Ladim.Chemicals
variable [HasSqrt α] [HasFloor α] [HasRound α]

/-- not further above the surface than one water depth, testing `H < z` before or after the surface mirror
is the same -/
theorem reflect_eq_reflectPred (H z : α) (h1 : -H ≤ z) : reflect H z = reflectPred H z := by
  have : H < z ↔ H < |z| :=
    ⟨fun h => h.trans_le (le_abs_self z), fun h => (lt_abs.mp h).resolve_right (not_lt.mpr (neg_le.mp h1))⟩
  unfold reflect reflectPred
  simp only [mirror_eq_abs, this]

/-- one reflection is enough when the pre-reflection depth is within one water depth of the band -/
theorem reflect_band (H z : α) (h1 : -H ≤ z) (h2 : z ≤ 2 * H) : InBand H (reflect H z) :=
  reflect_eq_reflectPred H z h1 ▸ reflectPred_band H z h1 h2

/-- a particle in the band displaced by less than the water depth is reflected back into the band -/
theorem reflect_disp_band (H z d : α) (hz : InBand H z) (hd : |d| ≤ H) :
    InBand H (reflect H (z + d)) :=
  reflect_band H (z + d) (disp_range hz hd).1 (disp_range hz hd).2

theorem reflectPred_disp_band (H z d : α) (hz : InBand H z) (hd : |d| ≤ H) :
    InBand H (reflectPred H (z + d)) :=
  reflectPred_band H (z + d) (disp_range hz hd).1 (disp_range hz hd).2

/-- `advect`: vertical advection step smaller than the depth keeps the particle in the band -/
theorem advect_band (dt H w z : α) (hz : InBand H z) (hd : |dt * w| ≤ H) :
    InBand H (advect dt H w z) := reflect_disp_band H z _ hz hd

/-- `diffuse_const`: every draw `u` whose step is smaller than the depth -/
theorem diffuseConst_band (dt D H u z : α) (hz : InBand H z)
    (hd : |sqrt (2.0 * D) * uniformDW u dt| ≤ H) :
    InBand H (diffuseConst dt D H u z) := reflect_disp_band H z _ hz hd

/-- one LaBolle sub-step: only the *corrector* displacement has to be smaller than the depth
(the predictor's own reflection never leaves an out-of-band value in the state) -/
theorem labolleSub_band (K : α → α) (vmax dz H ddt u z : α) (hz : InBand H z)
    (hd : ∀ zz, |sqrt (2.0 * fmin (K (zCoarse dz zz)) vmax) * uniformDW u ddt| ≤ H) :
    InBand H (labolleSub K vmax dz H ddt u z) := by
  unfold labolleSub
  exact reflect_disp_band H z _ hz (hd _)

/-- `diffuse_labolle`: any number of sub-steps, any draws -/
theorem diffuseLabolle_band (K : α → α) (vmax dz H : α) (ds us : List α) (z : α) (hz : InBand H z)
    (hd : ∀ ddt ∈ ds, ∀ u ∈ us, ∀ zz,
      |sqrt (2.0 * fmin (K (zCoarse dz zz)) vmax) * uniformDW u ddt| ≤ H) :
    InBand H (diffuseLabolle K vmax dz H ds us z) := by
  induction ds generalizing us z with
  | nil => simpa [diffuseLabolle] using hz
  | cons ddt ds ih =>
    cases us with
    | nil => simpa [diffuseLabolle] using hz
    | cons u us =>
      simp only [diffuseLabolle]
      apply ih
      · exact labolleSub_band K vmax dz H ddt u z hz
          (fun zz => hd ddt (by simp) u (by simp) zz)
      · intro d hdm v hv zz
        exact hd d (by simp [hdm]) v (by simp [hv]) zz

/-- amplitude form of the step bound: for `u ∈ [0,1)`, `|a * ((2u-1) * b)| ≤ a * b` -/
theorem uniform_step_le (a b u : α) (ha : 0 ≤ a) (hb : 0 ≤ b) (hu0 : 0 ≤ u) (hu1 : u < 1) :
    |a * ((u * 2 - 1) * b)| ≤ a * b := by
  have hab := mul_nonneg ha hb
  have h1 : |u * 2 - 1| ≤ 1 := abs_le.mpr ⟨by linarith, by linarith⟩
  rw [show a * ((u * 2 - 1) * b) = a * b * (u * 2 - 1) by ring, abs_mul, abs_of_nonneg hab]
  exact mul_le_of_le_one_right hab h1

/-- vertical part of `update_ibm` at a fixed horizontal position (advection, then the configured
mixing): stays in the band of that position. -/
theorem vertical_band (c : Config α) (e : Env α) (d : Draws α) (x y z : α)
    (hz : InBand (e.depth x y) z)
    (hadv : c.vertadv = true → |c.dt * e.wvel x y z| ≤ e.depth x y)
    (hconst : ∀ D, c.mix = .const D → ∀ u, |sqrt (2.0 * D) * uniformDW u c.dt| ≤ e.depth x y)
    (hlab : ∀ vdt dz vmax, c.mix = .labolle vdt dz vmax → ∀ ddt u zz,
      |sqrt (2.0 * fmin (e.vdiff x y (zCoarse dz zz)) vmax) * uniformDW u ddt| ≤ e.depth x y) :
    InBand (e.depth x y) (vertical c e d x y z) := by
  unfold vertical
  have hz1 : InBand (e.depth x y) (if c.vertadv then advect c.dt (e.depth x y) (e.wvel x y z) z else z) := by
    split_ifs with h
    · exact advect_band _ _ _ _ hz (hadv h)
    · exact hz
  cases hm : c.mix with
  | none => simpa using hz1
  | const D => exact diffuseConst_band _ _ _ _ _ hz1 (hconst D hm _)
  | labolle vdt dz vmax =>
    exact diffuseLabolle_band _ _ _ _ _ _ _ hz1 (fun ddt _ u _ zz => hlab vdt dz vmax hm ddt u zz)

/-- horizontal part (`horzdiff` + `clamp_to_seabed`): whatever the horizontal move, the depth ends
in the band of the *new* position. -/
theorem horizontal_band (c : Config α) (e : Env α) (d : Draws α) (x y z : α) (al : Bool)
    (hdep : ∀ x y, 0 ≤ e.depth x y) (hz : InBand (e.depth x y) z) :
    InBand (e.depth (horizontal c e d x y z al).1 (horizontal c e d x y z al).2.1)
      (horizontal c e d x y z al).2.2.1 := by
  unfold horizontal
  cases hh : c.horz with
  | none => simpa using hz
  | some hm =>
    obtain ⟨hmin, hmax⟩ := hm
    simp only []
    split_ifs <;> simp only [] <;> unfold InBand fmin <;> split_ifs <;>
      constructor <;> first | exact hdep _ _ | exact hz.1 | exact le_refl _ | (apply le_of_not_gt; assumption)

/-- the clamp that follows the collision handler puts the (possibly re-seeded) particle into the band of
its new position, whatever that position is -/
theorem collision_clamp_band (H z : α) (hH : 0 ≤ H) (hz : 0 ≤ z) : InBand H (fmin z H) :=
  fmin_eq_min z H ▸ ⟨le_min hz hH, min_le_right z H⟩

/-- FULL STATEMENT for chemicals `update_ibm`: the new depth is in the band of the new position — with or
without a collision handler that re-seeds the particle horizontally, with or without horizontal diffusion —
for every draw whose single vertical step is smaller than the local depth.  The particle only has to start in
the band *of its own position* (`hz`); the handler may move it anywhere (`d.stuck`, `d.repX`, `d.repY`
arbitrary) provided the clamp follows it (`hcl`: the code since the `fix:` commit 28c3e2b; without a handler
`d.stuck = false`). -/
theorem update_band (c : Config α) (e : Env α) (d : Draws α) (p : Particle α)
    (hdep : ∀ x y, 0 ≤ e.depth x y)
    (hz : InBand (e.depth p.x p.y) p.z)
    (hcl : c.collisionClamp = true ∨ d.stuck = false)
    (hadv : ∀ x y z, |c.dt * e.wvel x y z| ≤ e.depth x y)
    (hconst : ∀ D u x y, |sqrt (2.0 * D) * uniformDW u c.dt| ≤ e.depth x y)
    (hlab : ∀ x y dz vmax ddt u zz,
      |sqrt (2.0 * fmin (e.vdiff x y (zCoarse dz zz)) vmax) * uniformDW u ddt| ≤ e.depth x y) :
    InBand (e.depth (update c e d p).x (update c e d p).y) (update c e d p).z := by
  have key : ∀ x y z, InBand (e.depth x y) z → InBand (e.depth x y) (vertical c e d x y z) := fun x y z hzz =>
    vertical_band c e d x y z hzz (fun _ => hadv x y _) (fun D _ u => hconst D u x y)
      (fun _ dz vmax _ ddt u zz => hlab x y dz vmax ddt u zz)
  -- the depth handed to the vertical part is in the band of the position after the handler
  have h0 : InBand
      (e.depth (if d.stuck then reseed p.x d.repX else p.x) (if d.stuck then reseed p.y d.repY else p.y))
      (if c.collisionClamp then fmin p.z
        (e.depth (if d.stuck then reseed p.x d.repX else p.x) (if d.stuck then reseed p.y d.repY else p.y))
       else p.z) := by
    by_cases hc : c.collisionClamp = true
    · simp only [hc, if_true]
      exact collision_clamp_band _ _ (hdep _ _) hz.1
    · have hs : d.stuck = false := by
        rcases hcl with h | h
        · exact absurd h hc
        · exact h
      simp only [hc, hs, Bool.false_eq_true, if_false]
      exact hz
  unfold update
  simp only []
  cases c.lifespan <;> exact horizontal_band c e d _ _ _ _ hdep (key _ _ _ h0)

/-- why the clamp after the collision handler is needed (the behaviour before the `fix:` commit 28c3e2b):
without the clamp, vertical advection, mixing and horizontal diffusion the update keeps the depth while the
handler moves the particle horizontally — to shallower water if the bed rises there
(`horzdiff_without_clamp_fails` below gives such a bed and depth). -/
theorem reposition_without_clamp_keeps_depth (c : Config α) (e : Env α) (d : Draws α) (p : Particle α)
    (hc : c.collisionClamp = false) (hv : c.vertadv = false) (hm : c.mix = .none) (hh : c.horz = none) :
    (update c e d p).z = p.z ∧ (update c e d p).x = (if d.stuck then reseed p.x d.repX else p.x) := by
  unfold update vertical horizontal
  simp only [hc, hv, hm, hh, Bool.false_eq_true, if_false]
  cases c.lifespan <;> exact ⟨rfl, rfl⟩

/-- why the clamp is needed (the behaviour before the `fix:` commit): a horizontal move to shallower
water *after* the last reflection leaves the particle below the new bed.  Witness over ℚ: depth
50 m at x ≤ 10, 5 m beyond; Z = 30. -/
theorem horzdiff_without_clamp_fails :
    ∃ (depth : ℚ → ℚ) (x x' z : ℚ), InBand (depth x) z ∧ ¬ InBand (depth x') z :=
  ⟨fun x => if x ≤ 10 then 50 else 5, 10, 11, 30, by unfold InBand; norm_num, by unfold InBand; norm_num⟩

end chemicals

/-! ## sedimentation / mine -/
section sediment
open Ladim.Sed
variable [HasSqrt α]

/-- `bury` never leaves an active particle below the bed -/
theorem bury_le_H (H z : α) (a : Nat) (ha : a ≠ 0) : (bury H a z).1 ≤ H := by
  unfold bury
  simp only [ha, if_false]
  split_ifs with h
  · exact le_refl H
  · exact not_lt.mp h

theorem bury_nonneg (H z : α) (a : Nat) (hH : 0 ≤ H) (hz : 0 ≤ z) : 0 ≤ (bury H a z).1 := by
  unfold bury
  split_ifs <;> simp_all

/-- constant mixing with both mirrors: in band whenever the displaced depth is within one water
depth of the band -/
theorem mixConst_band (v h dt xi z : α) (h1 : -h ≤ z + sqrt (2.0 * v) * (xi * sqrt dt))
    (h2 : z + sqrt (2.0 * v) * (xi * sqrt dt) ≤ 2 * h) :
    C05.InBand h (mixConst v h dt xi z) :=
  reflectPred_band h _ h1 h2

/-- constant mixing: never above the surface when the displaced depth is at most `2h`
(the surface mirror handles every upward excursion; only the bottom mirror can overshoot) -/
theorem mixConst_nonneg (v h dt xi z : α)
    (h2 : |z + sqrt (2.0 * v) * (xi * sqrt dt)| ≤ 2 * h) :
    0 ≤ mixConst v h dt xi z := by
  unfold mixConst
  simp only [mirror_eq_abs, lit_2] at h2 ⊢
  split_ifs
  · exact sub_nonneg.mpr h2
  · exact abs_nonneg _

/-- bounded-linear mixing: *unconditional* in the draw — never above the surface (absorbed at the
bed, mirrored at the surface; needs only `0 ≤ h`).  NOTE (found by the proof attempt): the upper
bound `≤ h` does *not* hold for this function alone — a large upward step mirrored at the surface
can end below the bed; it is `bury`, applied later in the same update, that restores `Z ≤ H`. -/
theorem mixBoundedLinear_nonneg (m h dt us xi z : α) (hh : 0 ≤ h) :
    0 ≤ mixBoundedLinear m h dt us xi z := by
  unfold mixBoundedLinear
  exact mirror_nonneg _

/-- the witness for the note above: z = 1, h = 2, draw −10 ⇒ mirrored to 9 > h (over ℚ with any
`sqrt`; here `us = 0` so the square root argument is irrelevant: `sqrt` is applied to `2*m/dt`). -/
theorem mixBoundedLinear_can_exceed_h :
    ∃ (sq : ℚ → ℚ), letI : HasSqrt ℚ := ⟨sq⟩
      ¬ (mixBoundedLinear (1 : ℚ) 2 1 0 (-10) 1 ≤ 2) := by
  refine ⟨fun _ => 1, ?_⟩
  unfold mixBoundedLinear fmax
  norm_num [HasSqrt.sqrt]

theorem mixMine_nonneg (v dt xi z : α) : 0 ≤ mixMine v dt xi z := mirror_nonneg _

/-- `sink` with a non-negative step, then `bury`: a settled particle (`a = 0`) is left where it is, an active one
is stopped at the bed -/
theorem sink_bury_band (H dt w z : α) (a : Nat) (hH : 0 ≤ H) (hz : 0 ≤ z) (hz' : a = 0 → z ≤ H)
    (hw : 0 ≤ dt * w) : C05.InBand H (bury H a (sink dt w a z)).1 := by
  by_cases h0 : a = 0
  · simp only [sink, bury, h0, if_true]
    exact ⟨hz, hz' h0⟩
  · refine ⟨bury_nonneg _ _ _ hH ?_, bury_le_H _ _ _ h0⟩
    rw [sink, if_neg h0]
    exact add_nonneg hz hw

/-- whole sedimentation update: a particle in the band stays in the band provided the sinking
velocity is non-negative and, for constant mixing, the mixing step is smaller than the depth. -/
theorem sed_update_band (c : Config α) (e : Env α) (xi : α) (p : Particle α)
    (hH : 0 ≤ e.H) (hz : C05.InBand e.H p.z) (hdt : 0 ≤ c.dt)
    (hsv : 0 ≤ p.sinkVel) (hns : 0 ≤ e.newSink)
    (hmix : ∀ v, c.mixing = .const v → |p.z + sqrt (2.0 * v) * (xi * sqrt c.dt)| ≤ 2 * e.H) :
    C05.InBand e.H (update c e xi p).z := by
  unfold update
  simp only []
  refine sink_bury_band _ _ _ _ _ hH ?_ ?_ (mul_nonneg hdt (by split_ifs <;> assumption))
  · unfold diffuse
    split_ifs
    · exact hz.1
    · cases hm : c.mixing with
      | none => exact hz.1
      | const v => exact mixConst_nonneg v e.H c.dt xi p.z (hmix v hm)
      | boundedLinear m => exact mixBoundedLinear_nonneg m e.H c.dt _ xi p.z hH
  · intro h0
    rw [diffuse, if_pos h0]
    exact hz.2

/-- mine update: in band if the total vertical velocity is non-negative -/
theorem mine_update_band (c : Mine.Config α) (e : Mine.Env α) (xi : α) (p : Particle α)
    (hH : 0 ≤ e.H) (hz : C05.InBand e.H p.z) (hdt : 0 ≤ c.dt)
    (hw : 0 ≤ (if c.vadv then p.sinkVel + e.w else p.sinkVel)) :
    C05.InBand e.H (Mine.update c e xi p).z := by
  unfold Mine.update
  simp only []
  refine sink_bury_band _ _ _ _ _ hH ?_ ?_ (mul_nonneg hdt hw)
  · by_cases h0 : Mine.resusp c e (if c.hasActive then p.active else 1) = 0
    · rw [if_pos h0]
      exact hz.1
    · rw [if_neg h0]
      exact mixMine_nonneg _ _ _ _
  · intro h0
    rw [if_pos h0]
    exact hz.2

end sediment

/-! ## egg, salmon lice, larvae, saithe, sand eel, eel, shrimp, vps -/
section bio
open Ladim.Bio

/-- egg `[0, 200)` and lice `[0, 20)`: unconditional in the velocity, hence in every draw -/
theorem mirrorCap_band (cap capm1 z : α) (h0 : 0 ≤ capm1) (h1 : capm1 < cap) :
    0 ≤ mirrorCap cap capm1 z ∧ mirrorCap cap capm1 z < cap := by
  unfold mirrorCap
  simp only [mirror_eq_abs]
  split_ifs with h
  · exact ⟨h0, h1⟩
  · exact ⟨abs_nonneg z, not_le.mp h⟩

variable [HasSqrt α] [HasExp α] [HasLog α] [HasSin α] [HasCos α] [HasAsin α] [HasRpow α] [HasPi α]

theorem eggZ_band (D dt diam temp salt buoy : α) (xi : Option α) (z : α) :
    0 ≤ eggZ D dt diam temp salt buoy xi z ∧ eggZ D dt diam temp salt buoy xi z < 200 := by
  have e : (200.0 : α) = 200 := by norm_num
  unfold eggZ
  exact (mirrorCap_band 200.0 199.0 _ (by norm_num) (by norm_num)).imp_right (·.trans_eq e)

theorem lice_band (D dt sdt mf k sv temp salt l0 r : α) (xi : Option α) (p : Lice α) :
    0 ≤ (liceUpdate D dt sdt mf k sv temp salt l0 r xi p).z ∧
      (liceUpdate D dt sdt mf k sv temp salt l0 r xi p).z < 20 := by
  have e : (20.0 : α) = 20 := by norm_num
  unfold liceUpdate
  exact (mirrorCap_band 20.0 19.0 _ (by norm_num) (by norm_num)).imp_right (·.trans_eq e)

/-- larvae: `max(min(Z, max_depth), min_depth)` — unconditional -/
theorem clipDepth_band (lo hi z : α) (h : lo ≤ hi) :
    lo ≤ clipDepth lo hi z ∧ clipDepth lo hi z ≤ hi := by
  rw [clipDepth, fmax_eq_max, fmin_eq_min]
  exact ⟨le_max_right _ _, max_le (min_le_right _ _) h⟩

/-- the end of the larvae / saithe vertical movement keeps **every** particle at or below the surface and
larvae in their band: larvae-module particles and saithe larvae end in `[min_depth, max_depth]`, saithe
eggs (which the band does not bind) at a depth `≥ 0` (since the `fix:` commit 8460773; before it a buoyant
egg near the surface ended at a negative depth) — whatever the raw displacement, i.e. for every draw and
forcing value -/
theorem larva_final_band (c : Bio.LarvaCfg α) (isEgg : Bool) (z : α) (h : c.minDepth ≤ c.maxDepth)
    (h0 : 0 ≤ c.minDepth) :
    0 ≤ Bio.larvaFinalZ c isEgg z ∧
    ((c.clipEggs = true ∨ isEgg = false) →
      c.minDepth ≤ Bio.larvaFinalZ c isEgg z ∧ Bio.larvaFinalZ c isEgg z ≤ c.maxDepth) := by
  unfold Bio.larvaFinalZ
  split_ifs with hc
  · refine ⟨?_, fun hh => ?_⟩
    · unfold fmax; lits
      split_ifs with hlt
      · exact le_refl _
      · exact not_lt.mp hlt
    · exfalso
      simp only [Bool.and_eq_true, Bool.not_eq_true'] at hc
      rcases hh with hh | hh
      · rw [hc.2] at hh; exact Bool.noConfusion hh
      · rw [hc.1] at hh; exact Bool.noConfusion hh
  · have hb := clipDepth_band c.minDepth c.maxDepth z h
    exact ⟨le_trans h0 hb.1, fun _ => hb⟩

/-- … and the depth after `update_ibm` is such an end value -/
theorem larva_update_z_final [HasNarrow α] [HasSqrt α] [HasExp α] [HasRpow α] [HasLog α] (c : Bio.LarvaCfg α)
    (temp salt buoy l0 : α) (xi : Option α) (p : Bio.Larva α) :
    ∃ zraw, (Bio.larvaUpdate c temp salt buoy l0 xi p).z = Bio.larvaFinalZ c (decide (p.age ≤ c.hatchDay)) zraw :=
  ⟨_, rfl⟩

/-- saithe larvae: `np.clip(Z, min_depth, max_depth)` -/
theorem npClip_band (lo hi z : α) (h : lo ≤ hi) : lo ≤ npClip lo hi z ∧ npClip lo hi z ≤ hi :=
  clip_mem z h

/-- sand eel / eel `reflexive`: unconditional in the displacement -/
theorem reflexive_band (rmin rmax r : α) (h : rmin ≤ rmax) :
    rmin ≤ reflexive rmin rmax r ∧ reflexive rmin rmax r ≤ rmax := by
  unfold reflexive
  exact npClip_band _ _ _ h

theorem sandeelZ_band (D dt maxdepth H xi z : α) (hm : 0 ≤ maxdepth) (hH : 0 ≤ H) :
    0 ≤ sandeelZ D dt maxdepth H xi z ∧ sandeelZ D dt maxdepth H xi z ≤ H ∧
      sandeelZ D dt maxdepth H xi z ≤ maxdepth := by
  rw [sandeelZ, fmin_eq_min]
  have h := reflexive_band (0.0 : α) (min maxdepth H) (z + xi * sqrt (2.0 * D * dt))
    (lit_0.trans_le (le_min hm hH))
  exact ⟨lit_0.ge.trans h.1, h.2.trans (min_le_right _ _), h.2.trans (min_le_left _ _)⟩

theorem eelZ_band (D dt lo hi xi z : α) (h : lo ≤ hi) :
    lo ≤ eelZ D dt lo hi xi z ∧ eelZ D dt lo hi xi z ≤ hi := reflexive_band _ _ _ h

/-- shrimp `mixing`: never above the surface, for every draw -/
theorem shrimpMix_nonneg (vm dt xi z : α) : 0 ≤ shrimpMix vm dt xi z := mirror_nonneg _

/-- a step of length `m` from `z` towards `pref` that does not pass `pref` ends between the two -/
theorem toward_band (z pref m : α) (hz : 0 ≤ z) (hp : 0 ≤ pref) (hm0 : 0 ≤ m) (hm : m ≤ |pref - z|) :
    0 ≤ z + m * fsign (pref - z) ∧
      (min z pref ≤ z + m * fsign (pref - z) ∧ z + m * fsign (pref - z) ≤ max z pref) := by
  rcases lt_trichotomy pref z with h | rfl | h
  · rw [abs_of_neg (sub_neg.mpr h), neg_sub] at hm
    rw [fsign_of_neg (sub_neg.mpr h), mul_neg_one, ← sub_eq_add_neg]
    have h' : pref ≤ z - m := le_sub_comm.mp hm
    exact ⟨hp.trans h', min_le_of_right_le h', le_max_of_le_left (sub_le_self z hm0)⟩
  · rw [sub_self, fsign_zero, mul_zero, add_zero, min_self, max_self]
    exact ⟨hz, le_rfl, le_rfl⟩
  · rw [abs_of_pos (sub_pos.mpr h)] at hm
    rw [fsign_of_pos (sub_pos.mpr h), mul_one]
    have h' : z ≤ z + m := le_add_of_nonneg_right hm0
    exact ⟨hz.trans h', min_le_of_left_le h', le_max_of_le_right (le_sub_iff_add_le'.mp hm)⟩

/-- shrimp `diel_migration` as it was before the `fix:` commit (`z += dt*speed*sign(pref - z)`):
the band statement holds only when the swimming step does not exceed the distance to the preferred
depth.  The excluded region is inhabited: `migration_overshoot_fails`. -/
theorem migration_band_partial (dt speed pref z : α) (hz : 0 ≤ z) (hp : 0 ≤ pref)
    (hs : 0 ≤ dt * speed) (hstep : dt * speed ≤ |pref - z|) :
    0 ≤ shrimpMigrateUnclamped dt speed pref z ∧
      (min z pref ≤ shrimpMigrateUnclamped dt speed pref z ∧
        shrimpMigrateUnclamped dt speed pref z ≤ max z pref) := by
  exact toward_band z pref (dt * speed) hz hp hs hstep

/-- shrimp `diel_migration` — FULL STATEMENT, for the code as it is now (step clamped to the
distance to the preferred depth): the new depth is non-negative and lies between the old depth and
the preferred depth, unconditionally in `dt * speed ≥ 0`. -/
theorem migration_band_clamped (dt speed pref z : α) (hz : 0 ≤ z) (hp : 0 ≤ pref)
    (hs : 0 ≤ dt * speed) :
    0 ≤ shrimpMigrate dt speed pref z ∧
      (min z pref ≤ shrimpMigrate dt speed pref z ∧
        shrimpMigrate dt speed pref z ≤ max z pref) := by
  have hm : fmin (dt * speed) (fabs (pref - z)) = min (dt * speed) |pref - z| := by
    rw [fmin_eq_min, fabs_eq_abs]
  unfold shrimpMigrate
  rw [hm]
  exact toward_band z pref _ hz hp (le_min hs (abs_nonneg _)) (min_le_right _ _)

/-- counter-witness for the unclamped code: Z = 5.45 m, preferred depth 0.2 m, dt·speed = 6 m
⇒ Z' = −0.55 m, above the sea surface. -/
theorem migration_overshoot_fails :
    ¬ (0 ≤ shrimpMigrateUnclamped (600 : ℚ) (1/100) (1/5) (109/20)) := by
  unfold shrimpMigrateUnclamped fsign
  norm_num

/-- vps: `Z = uniform(0, max_depth)` -/
theorem vpsZ_band (m u : α) (hm : 0 ≤ m) (hu0 : 0 ≤ u) (hu1 : u < 1) :
    0 ≤ vpsZ m u ∧ vpsZ m u ≤ m := by
  rw [vpsZ, lit_0, zero_add, sub_zero]
  exact ⟨mul_nonneg hm hu0, mul_le_of_le_one_right hm hu1.le⟩

end bio

/-! ## histories: any number of consecutive updates -/

/-- an invariant preserved by each step is preserved by every history (fold) -/
theorem history_invariant {σ ι : Type} (Inv : σ → Prop) (step : σ → ι → σ)
    (hstep : ∀ s i, Inv s → Inv (step s i)) (s₀ : σ) (h₀ : Inv s₀) (is : List ι) :
    Inv (is.foldl step s₀) := by
  induction is generalizing s₀ with
  | nil => simpa
  | cons i is ih => exact ih _ (hstep _ _ h₀)

/-- egg: every history of updates, whatever the draws and the forcing, stays in `[0, 200)` -/
theorem egg_history [HasSqrt α] [HasExp α] [HasLog α] [HasSin α] [HasCos α] [HasAsin α] [HasRpow α]
    [HasPi α] (D dt diam : α) (z₀ : α) (h₀ : 0 ≤ z₀ ∧ z₀ < 200)
    (steps : List (α × α × α × Option α)) :
    let step := fun (z : α) (s : α × α × α × Option α) => Bio.eggZ D dt diam s.1 s.2.1 s.2.2.1 s.2.2.2 z
    0 ≤ steps.foldl step z₀ ∧ steps.foldl step z₀ < 200 :=
  history_invariant (fun z => 0 ≤ z ∧ z < 200) _ (fun z s _ => eggZ_band D dt diam _ _ _ _ z) z₀ h₀ steps

/-- sand eel over a varying bathymetry: after each update the particle is inside the band of the
position it has at that update, for every history of (depth, draw) pairs -/
theorem sandeel_history [HasSqrt α] [HasExp α] [HasLog α] [HasSin α] [HasCos α] [HasAsin α]
    [HasRpow α] [HasPi α] (D dt maxdepth : α) (hm : 0 ≤ maxdepth)
    (steps : List (α × α)) (hH : ∀ s ∈ steps, 0 ≤ s.1) (z₀ : α) (h₀ : 0 ≤ z₀ ∧ z₀ ≤ maxdepth) :
    let step := fun (z : α) (s : α × α) => Bio.sandeelZ D dt maxdepth s.1 s.2 z
    0 ≤ steps.foldl step z₀ ∧ steps.foldl step z₀ ≤ maxdepth := by
  induction steps generalizing z₀ with
  | nil => simpa using h₀
  | cons s ss ih =>
    simp only [List.foldl]
    apply ih
    · intro t ht; exact hH t (by simp [ht])
    · have := sandeelZ_band D dt maxdepth s.1 s.2 z₀ hm (hH s (by simp))
      exact ⟨this.1, this.2.2⟩

/-- non-vacuity: the hypotheses of the chemicals theorems are met by a concrete state -/
example : InBand (10 : ℚ) 3 ∧ |(4 : ℚ)| ≤ 10 := by
  unfold InBand; norm_num

end C05
