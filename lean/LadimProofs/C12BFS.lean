import LadimProofs.C12
open Ladim.Fjord
namespace C12BFS
open C12

/-! ## 1. `minNonneg` -/

theorem minNonneg_none (l : List Int) : minNonneg l = none ↔ ∀ x ∈ l, x < 0 := by
  induction l with
  | nil => simp [minNonneg]
  | cons x xs ih =>
    rw [minNonneg]
    cases hx : minNonneg xs with
    | none =>
      have hn := ih.1 hx
      simp only
      constructor
      · intro h y hy
        rcases List.mem_cons.1 hy with rfl | hy
        · by_cases h0 : 0 ≤ y
          · simp [h0] at h
          · omega
        · exact hn y hy
      · intro h
        have := h x List.mem_cons_self
        have h0 : ¬ 0 ≤ x := by omega
        simp [h0]
    | some y =>
      simp only
      constructor
      · intro h
        split_ifs at h
      · intro h
        exfalso
        have hne : ¬ (minNonneg xs = none) := by rw [hx]; simp
        apply hne
        apply ih.2
        intro z hz
        exact h z (List.mem_cons_of_mem _ hz)

theorem minNonneg_some (l : List Int) (v : Int) (h : minNonneg l = some v) :
    v ∈ l ∧ 0 ≤ v ∧ ∀ x ∈ l, 0 ≤ x → v ≤ x := by
  induction l generalizing v with
  | nil => simp [minNonneg] at h
  | cons x xs ih =>
    rw [minNonneg] at h
    cases hx : minNonneg xs with
    | none =>
      rw [hx] at h
      simp only at h
      have hn := (minNonneg_none xs).1 hx
      split_ifs at h with h0
      · cases h
        refine ⟨List.mem_cons_self, h0, ?_⟩
        intro y hy hy0
        rcases List.mem_cons.1 hy with rfl | hy
        · omega
        · have := hn y hy
          omega
    | some y =>
      rw [hx] at h
      simp only at h
      obtain ⟨hy1, hy2, hy3⟩ := ih y hx
      split_ifs at h with h0
      · cases h
        refine ⟨List.mem_cons_self, h0.1, ?_⟩
        intro z hz hz0
        rcases List.mem_cons.1 hz with rfl | hz
        · omega
        · have := hy3 z hz hz0
          omega
      · cases h
        refine ⟨List.mem_cons_of_mem _ hy1, hy2, ?_⟩
        intro z hz hz0
        rcases List.mem_cons.1 hz with rfl | hz
        · omega
        · exact hy3 z hz hz0

theorem minNonneg_spec (l : List Int) :
    (minNonneg l = none ↔ ∀ x ∈ l, x < 0) ∧
    (∀ v, minNonneg l = some v → v ∈ l ∧ 0 ≤ v ∧ ∀ x ∈ l, 0 ≤ x → v ≤ x) :=
  ⟨minNonneg_none l, minNonneg_some l⟩

/-! ## 2. one dilation step -/

/-- the four neighbour values (footprint order up, left, right, down), read with `c` outside the box -/
def nbrs (w : Mat) (c : Int) (i j : Int) : List Int :=
  [w.get c (i - 1) j, w.get c i (j - 1), w.get c i (j + 1), w.get c (i + 1) j]

theorem get_of_inBox (m : Mat) (c i j : Int) (h : m.inBox i j = true) : m.get c i j = m.val i j := by
  unfold Mat.inBox at h
  unfold Mat.get
  rw [if_pos (of_decide_eq_true h)]

theorem get_of_not_inBox (m : Mat) (c i j : Int) (h : ¬ m.inBox i j = true) : m.get c i j = c := by
  unfold Mat.inBox at h
  unfold Mat.get
  rw [if_neg]
  intro h'
  exact h (decide_eq_true h')

theorem dilate_val (m : Mat) (i j : Int) : (dilate m).val i j = dilateAt m i j := rfl

theorem dilateAt_eq (m : Mat) (i j : Int) (hb : m.inBox i j = true) :
    dilateAt m i j =
      if m.val i j ≠ -1 then m.val i j
      else match minNonneg (nbrs m (-2) i j) with
        | none => -1
        | some v => v + 1 := by
  unfold dilateAt nbrs
  simp only [get_of_inBox m (-2) i j hb]
  split_ifs with h
  · rfl
  · have h1 : m.val i j = -1 := by omega
    cases minNonneg [m.get (-2) (i - 1) j, m.get (-2) i (j - 1), m.get (-2) i (j + 1), m.get (-2) (i + 1) j] with
    | none => simp only [h1]
    | some v => rfl

theorem dilate_step_sound (m : Mat) (i j : Int) (hb : m.inBox i j = true) :
    (m.val i j ≠ -1 → (dilate m).val i j = m.val i j) ∧
    (m.val i j = -1 → (∀ x ∈ nbrs m (-2) i j, x < 0) → (dilate m).val i j = -1) ∧
    (m.val i j = -1 → (∃ x ∈ nbrs m (-2) i j, 0 ≤ x) →
      ∃ v, v ∈ nbrs m (-2) i j ∧ 0 ≤ v ∧ (∀ x ∈ nbrs m (-2) i j, 0 ≤ x → v ≤ x) ∧
        (dilate m).val i j = v + 1) := by
  rw [dilate_val, dilateAt_eq m i j hb]
  refine ⟨?_, ?_, ?_⟩
  · intro h
    rw [if_pos h]
  · intro h hall
    have hn := (minNonneg_none _).2 hall
    rw [if_neg (by omega), hn]
  · intro h hex
    cases hm : minNonneg (nbrs m (-2) i j) with
    | none =>
      exfalso
      obtain ⟨x, hx, hx0⟩ := hex
      have := (minNonneg_none _).1 hm x hx
      omega
    | some v =>
      obtain ⟨h1, h2, h3⟩ := minNonneg_some _ v hm
      refine ⟨v, h1, h2, h3, ?_⟩
      rw [if_neg (by omega)]

/-! ## 3. iterated dilation computes breadth-first distances -/

theorem dilate_rows (m : Mat) : (dilate m).rows = m.rows := rfl
theorem dilate_cols (m : Mat) : (dilate m).cols = m.cols := rfl

theorem dilateIter_rows (m : Mat) (k : Nat) : (dilateIter m k).rows = m.rows := by
  induction k with
  | zero => rfl
  | succ k ih => rw [dilateIter, dilate_rows, ih]

theorem dilateIter_cols (m : Mat) (k : Nat) : (dilateIter m k).cols = m.cols := by
  induction k with
  | zero => rfl
  | succ k ih => rw [dilateIter, dilate_cols, ih]

theorem inBox_congr (w m : Mat) (hr : w.rows = m.rows) (hc : w.cols = m.cols) (i j : Int) :
    w.inBox i j = m.inBox i j := by
  unfold Mat.inBox
  rw [hr, hc]

theorem adj_symm {i j a b : Int} (h : Adj i j a b) : Adj a b i j := by
  unfold Adj at *
  omega

theorem reach_zero_iff (m : Mat) (i j : Int) :
    Reach m 0 i j ↔ (m.inBox i j = true ∧ m.val i j = 0) := by
  constructor
  · intro h
    cases h with
    | src _ _ h1 h2 => exact ⟨h1, h2⟩
  · intro h
    exact Reach.src i j h.1 h.2

theorem reach_succ_iff (m : Mat) (n : Nat) (i j : Int) :
    Reach m (n + 1) i j ↔
      (m.inBox i j = true ∧ m.val i j ≠ -2 ∧ ∃ a b, Adj i j a b ∧ Reach m n a b) := by
  constructor
  · intro h
    cases h with
    | step _ a b _ _ hr ha hb hv => exact ⟨hb, hv, a, b, adj_symm ha, hr⟩
  · intro h
    obtain ⟨hb, hv, a, b, ha, hr⟩ := h
    exact Reach.step n a b i j hr (adj_symm ha) hb hv

theorem reach_inBox (m : Mat) (n : Nat) (i j : Int) (h : Reach m n i j) :
    m.inBox i j = true ∧ m.val i j ≠ -2 := by
  cases n with
  | zero =>
    obtain ⟨h1, h2⟩ := (reach_zero_iff m i j).1 h
    exact ⟨h1, by omega⟩
  | succ n =>
    obtain ⟨h1, h2, _⟩ := (reach_succ_iff m n i j).1 h
    exact ⟨h1, h2⟩

/-- a reachable cell has a shortest-path length -/
theorem reach_exists_dist (m : Mat) (i j : Int) (n : Nat) (h : Reach m n i j) :
    ∃ n', n' ≤ n ∧ IsDist m n' i j := by
  induction n using Nat.strong_induction_on with
  | _ n ih =>
    by_cases hex : ∃ n', n' < n ∧ Reach m n' i j
    · obtain ⟨n', hlt, hr⟩ := hex
      obtain ⟨n'', hle, hd⟩ := ih n' hlt hr
      exact ⟨n'', by omega, hd⟩
    · refine ⟨n, Nat.le_refl n, h, ?_⟩
      intro n' hlt hr
      exact hex ⟨n', hlt, hr⟩

theorem isDist_unique (m : Mat) (i j : Int) (n n' : Nat) (h : IsDist m n i j) (h' : IsDist m n' i j) :
    n = n' := by
  rcases Nat.lt_trichotomy n n' with hlt | heq | hgt
  · exact absurd h.1 (h'.2 n hlt)
  · exact heq
  · exact absurd h'.1 (h.2 n' hgt)

/-- the invariant of `dilate_iter_spec` (with the shape of the matrix) -/
def Inv (m w : Mat) (k : Nat) : Prop :=
  w.rows = m.rows ∧ w.cols = m.cols ∧
  ∀ i j, m.inBox i j = true →
    (m.val i j = -2 → w.val i j = -2) ∧
    (m.val i j ≠ -2 →
      (∀ n : Nat, w.val i j = (n : Int) ↔ (n ≤ k ∧ IsDist m n i j)) ∧
      (w.val i j = -1 ↔ ∀ n ≤ k, ¬ Reach m n i j) ∧
      (-1 ≤ w.val i j))

/-- the three clauses of `Inv` for a cell whose value is its shortest-path length -/
theorem spec_of_dist {m : Mat} {i j v : Int} {d K : Nat} (hv : v = (d : Int)) (hK : d ≤ K)
    (hd : IsDist m d i j) :
    (∀ n : Nat, v = (n : Int) ↔ (n ≤ K ∧ IsDist m n i j)) ∧ (v = -1 ↔ ∀ n ≤ K, ¬ Reach m n i j) ∧ -1 ≤ v := by
  refine ⟨fun n => ⟨fun hn => ?_, fun ⟨_, hn⟩ => ?_⟩, ⟨fun h => by omega, fun hno => absurd hd.1 (hno d hK)⟩,
    by omega⟩
  · obtain rfl : n = d := by omega
    exact ⟨hK, hd⟩
  · rw [hv, isDist_unique m i j n d hn hd]

/-- … and for a cell still unknown that no walk of length `≤ K` reaches -/
theorem spec_of_none {m : Mat} {i j v : Int} {K : Nat} (hv : v = -1) (hno : ∀ n ≤ K, ¬ Reach m n i j) :
    (∀ n : Nat, v = (n : Int) ↔ (n ≤ K ∧ IsDist m n i j)) ∧ (v = -1 ↔ ∀ n ≤ K, ¬ Reach m n i j) ∧ -1 ≤ v :=
  ⟨fun n => ⟨fun hn => by omega, fun ⟨hn, hd⟩ => absurd hd.1 (hno n hn)⟩, ⟨fun _ => hno, fun _ => hv⟩, by omega⟩

theorem inv_zero (m : Mat) (hm : Init m) : Inv m m 0 := by
  refine ⟨rfl, rfl, fun i j hb => ⟨id, fun hv => ?_⟩⟩
  rcases (hm i j hb).resolve_left hv with h | h
  · refine spec_of_none h fun n hn hr => ?_
    obtain rfl : n = 0 := by omega
    have := ((reach_zero_iff m i j).1 hr).2
    omega
  · exact spec_of_dist h (Nat.le_refl 0)
      ⟨(reach_zero_iff m i j).2 ⟨hb, h⟩, fun n' h' => absurd h' (Nat.not_lt_zero n')⟩

theorem get_nonneg (w : Mat) (c a b : Int) (hc : c < 0) (h : 0 ≤ w.get c a b) :
    w.inBox a b = true ∧ w.val a b = w.get c a b := by
  by_cases hb : w.inBox a b = true
  · exact ⟨hb, (get_of_inBox w c a b hb).symm⟩
  · rw [get_of_not_inBox w c a b hb] at h
    omega

/-- reading the `k`-th iterate with a negative value outside the box: the non-negative values are exactly the
shortest-path lengths `≤ k` -/
theorem inv_get (m w : Mat) (k : Nat) (hinv : Inv m w k) (c : Int) (hc : c < 0) (a b : Int) :
    (0 ≤ w.get c a b → ∃ n : Nat, w.get c a b = (n : Int) ∧ n ≤ k ∧ IsDist m n a b) ∧
    (∀ n : Nat, n ≤ k → IsDist m n a b → w.get c a b = (n : Int)) := by
  obtain ⟨hr, hcol, hall⟩ := hinv
  have hbox := inBox_congr w m hr hcol a b
  constructor
  · intro h0
    obtain ⟨g1, g2⟩ := get_nonneg w c a b hc h0
    have hb : m.inBox a b = true := by rw [← hbox]; exact g1
    obtain ⟨h1, h2⟩ := hall a b hb
    have hv : m.val a b ≠ -2 := by
      intro h
      have := h1 h
      omega
    obtain ⟨h3, _, _⟩ := h2 hv
    obtain ⟨n, hn⟩ := Int.eq_ofNat_of_zero_le h0
    exact ⟨n, hn, (h3 n).1 (by omega)⟩
  · intro n hn hd
    obtain ⟨hb, hv⟩ := reach_inBox m n a b hd.1
    have hwb : w.inBox a b = true := by rw [hbox]; exact hb
    rw [get_of_inBox w c a b hwb]
    exact (((hall a b hb).2 hv).1 n).2 ⟨hn, hd⟩

theorem mem_nbrs_iff (w : Mat) (c : Int) (i j x : Int) :
    x ∈ nbrs w c i j ↔
      (x = w.get c (i - 1) j ∨ x = w.get c i (j - 1) ∨ x = w.get c i (j + 1) ∨ x = w.get c (i + 1) j) := by
  unfold nbrs
  simp only [List.mem_cons, List.not_mem_nil, or_false]

/-- a neighbour value is the value (read with `c`) of an adjacent cell -/
theorem mem_nbrs_adj (w : Mat) (c : Int) (i j x : Int) (h : x ∈ nbrs w c i j) :
    ∃ a b, Adj i j a b ∧ x = w.get c a b := by
  rcases (mem_nbrs_iff w c i j x).1 h with h | h | h | h
  · exact ⟨i - 1, j, by unfold Adj; omega, h⟩
  · exact ⟨i, j - 1, by unfold Adj; omega, h⟩
  · exact ⟨i, j + 1, by unfold Adj; omega, h⟩
  · exact ⟨i + 1, j, by unfold Adj; omega, h⟩

/-- … and the four-connected neighbours of `(i, j)` are among the four footprint cells -/
theorem adj_mem_nbrs (w : Mat) (c : Int) (i j a b : Int) (h : Adj i j a b) :
    w.get c a b ∈ nbrs w c i j := by
  unfold nbrs
  rcases h with ⟨rfl, rfl | rfl⟩ | ⟨rfl, rfl | rfl⟩ <;> simp

theorem inv_step (m w : Mat) (k : Nat) (hinv : Inv m w k) : Inv m (dilate w) (k + 1) := by
  have hinv0 := hinv
  obtain ⟨hr, hc, hall⟩ := hinv
  refine ⟨by rw [dilate_rows, hr], by rw [dilate_cols, hc], ?_⟩
  intro i j hb
  have hwb : w.inBox i j = true := by rw [inBox_congr w m hr hc]; exact hb
  obtain ⟨hs1, hs2, hs3⟩ := dilate_step_sound w i j hwb
  obtain ⟨h1, h2⟩ := hall i j hb
  constructor
  · intro hv
    have := h1 hv
    rw [hs1 (by omega)]
    exact this
  · intro hv
    obtain ⟨h3, h4, h5⟩ := h2 hv
    by_cases hc1 : w.val i j = -1
    · -- unknown so far
      have hnr := h4.1 hc1
      by_cases hex : ∃ x ∈ nbrs w (-2) i j, 0 ≤ x
      · obtain ⟨v, hv1, hv2, _, hval⟩ := hs3 hc1 hex
        obtain ⟨a, b, hadj, hva⟩ := mem_nbrs_adj w (-2) i j v hv1
        rw [hva] at hv2
        obtain ⟨n', hn', hle, hd⟩ := (inv_get m w k hinv0 (-2) (by omega) a b).1 hv2
        have hreach : Reach m (n' + 1) i j := (reach_succ_iff m n' i j).2 ⟨hb, hv, a, b, hadj, hd.1⟩
        have hnk : n' = k := by
          by_cases hlt : n' + 1 ≤ k
          · exact absurd hreach (hnr (n' + 1) hlt)
          · omega
        subst hnk
        have hdist : IsDist m (n' + 1) i j := by
          refine ⟨hreach, ?_⟩
          intro n hlt
          exact hnr n (by omega)
        have hval2 : (dilate w).val i j = ((n' + 1 : Nat) : Int) := by
          rw [hval, hva, hn']; push_cast; rfl
        exact spec_of_dist hval2 (Nat.le_refl _) hdist
      · have hneg : ∀ x ∈ nbrs w (-2) i j, x < 0 := by
          intro x hx
          by_cases h0 : 0 ≤ x
          · exact absurd ⟨x, hx, h0⟩ hex
          · omega
        have hval := hs2 hc1 hneg
        have hno : ∀ n ≤ k + 1, ¬ Reach m n i j := by
          intro n hn hreach
          by_cases hle : n ≤ k
          · exact hnr n hle hreach
          · have : n = k + 1 := by omega
            subst this
            obtain ⟨_, _, a, b, hadj, hra⟩ := (reach_succ_iff m k i j).1 hreach
            obtain ⟨n', hle, hd⟩ := reach_exists_dist m a b k hra
            have h0 := (inv_get m w k hinv0 (-2) (by omega) a b).2 n' hle hd
            have := hneg _ (adj_mem_nbrs w (-2) i j a b hadj)
            omega
        exact spec_of_none hval hno
    · -- already known
      rw [hs1 hc1]
      have h0 : 0 ≤ w.val i j := by omega
      obtain ⟨n0, hn0⟩ := Int.eq_ofNat_of_zero_le h0
      obtain ⟨hle0, hd0⟩ := (h3 n0).1 hn0
      exact spec_of_dist hn0 (Nat.le_succ_of_le hle0) hd0

theorem inv_iter (m : Mat) (hm : Init m) (k : Nat) : Inv m (dilateIter m k) k := by
  induction k with
  | zero => exact inv_zero m hm
  | succ k ih => exact inv_step m (dilateIter m k) k ih

theorem dilate_iter_spec (m : Mat) (hm : Init m) (k : Nat) (i j : Int) (hb : m.inBox i j = true) :
    (m.val i j = -2 → (dilateIter m k).val i j = -2) ∧
    (m.val i j ≠ -2 →
      (∀ n : Nat, (dilateIter m k).val i j = (n : Int) ↔ (n ≤ k ∧ IsDist m n i j)) ∧
      ((dilateIter m k).val i j = -1 ↔ ∀ n ≤ k, ¬ Reach m n i j) ∧
      (-1 ≤ (dilateIter m k).val i j)) :=
  (inv_iter m hm k).2.2 i j hb

/-! ## 4. the descent direction points to a cell whose index is one lower -/

/-- the five-cell footprint of `_descent_filter_type`, in its order -/
theorem descent_min (w : Mat) (i j : Int) (n : Nat) (hb : w.inBox i j = true)
    (hv : w.val i j = (n : Int) + 1)
    (hlow : ∀ x ∈ nbrs w (-1) i j, x < 0 ∨ (n : Int) ≤ x)
    (hex : ∃ x ∈ nbrs w (-1) i j, x = (n : Int)) :
    minNonneg [w.get (-1) (i - 1) j, w.get (-1) i (j - 1), w.get (-1) i j, w.get (-1) i (j + 1),
      w.get (-1) (i + 1) j] = some (n : Int) := by
  have hc : w.get (-1) i j = (n : Int) + 1 := by rw [get_of_inBox w (-1) i j hb, hv]
  -- the footprint is the centre together with the four neighbours
  have hmem : ∀ x, x ∈ [w.get (-1) (i - 1) j, w.get (-1) i (j - 1), w.get (-1) i j, w.get (-1) i (j + 1),
      w.get (-1) (i + 1) j] ↔ (x = w.get (-1) i j ∨ x ∈ nbrs w (-1) i j) := fun x =>
    (List.perm_middle (l₁ := [_, _])).mem_iff.trans List.mem_cons
  obtain ⟨x0, hx0, hx0n⟩ := hex
  cases hmin : minNonneg [w.get (-1) (i - 1) j, w.get (-1) i (j - 1), w.get (-1) i j,
      w.get (-1) i (j + 1), w.get (-1) (i + 1) j] with
  | none =>
    have := (minNonneg_none _).1 hmin x0 ((hmem x0).2 (Or.inr hx0))
    omega
  | some s =>
    obtain ⟨h1, h2, h3⟩ := minNonneg_some _ s hmin
    have hle := h3 x0 ((hmem x0).2 (Or.inr hx0)) (by omega)
    rcases (hmem s).1 h1 with h | h
    · omega
    · rcases hlow s h with h' | h'
      · omega
      · have : s = (n : Int) := by omega
        rw [this]

theorem descent_lowers (w : Mat) (i j : Int) (n : Nat) (hb : w.inBox i j = true)
    (hv : w.val i j = (n : Int) + 1)
    (hlow : ∀ x ∈ nbrs w (-1) i j, x < 0 ∨ (n : Int) ≤ x)
    (hex : ∃ x ∈ nbrs w (-1) i j, x = (n : Int)) :
    descentDir w i j ≠ 0 ∧
    nextCell .grid w i j = (i - vOf (descentDir w i j), j + uOf (descentDir w i j)) ∧
    w.inBox (i - vOf (descentDir w i j)) (j + uOf (descentDir w i j)) = true ∧
    w.val (i - vOf (descentDir w i j)) (j + uOf (descentDir w i j)) = (n : Int) := by
  have hc : w.get (-1) i j = (n : Int) + 1 := by rw [get_of_inBox w (-1) i j hb, hv]
  -- the direction chosen is that of the first footprint cell (left, right, down, up) holding the minimum `n`
  have hd : descentDir w i j ≠ 0 ∧
      w.get (-1) (i - vOf (descentDir w i j)) (j + uOf (descentDir w i j)) = (n : Int) := by
    simp only [descentDir, descent_min w i j n hb hv hlow hex]
    rw [if_neg (by omega), if_neg (by omega)]
    split_ifs with h1 h2 h3 h4
    · exact ⟨by decide, (Int.sub_zero i).symm ▸ h1⟩
    · exact ⟨by decide, (Int.sub_zero i).symm ▸ h2⟩
    · exact ⟨by decide, (Int.add_zero j).symm ▸ h3⟩
    · exact ⟨by decide, (Int.add_zero j).symm ▸ h4⟩
    · obtain ⟨x, hx, hxn⟩ := hex
      rcases (mem_nbrs_iff w (-1) i j x).1 hx with h | h | h | h
      · exact absurd (h ▸ hxn) h4
      · exact absurd (h ▸ hxn) h1
      · exact absurd (h ▸ hxn) h2
      · exact absurd (h ▸ hxn) h3
  obtain ⟨g1, g2⟩ := get_nonneg w (-1) _ _ (by omega) (hd.2 ▸ Int.natCast_nonneg n)
  exact ⟨hd.1, rfl, g1, g2.trans hd.2⟩

/-! ## 5. following the field reaches the ocean -/

/-- every positive in-box cell satisfies the hypothesis of `descent_lowers` -/
def Descending (w : Mat) : Prop :=
  ∀ (i j : Int) (n : Nat), w.inBox i j = true → w.val i j = (n : Int) + 1 →
    (∀ x ∈ nbrs w (-1) i j, x < 0 ∨ (n : Int) ≤ x) ∧ (∃ x ∈ nbrs w (-1) i j, x = (n : Int))

theorem follow_succ (s : VSign) (w : Mat) (k : Nat) (i j : Int) :
    follow s w (k + 1) (i, j) = (i, j) :: follow s w k (nextCell s w i j) := rfl

theorem follow_reaches_ocean (w : Mat) (hw : Descending w) (n : Nat) (i j : Int)
    (hb : w.inBox i j = true) (hv : w.val i j = (n : Int)) :
    (follow .grid w n (i, j)).length = n + 1 ∧
    (∀ c ∈ follow .grid w n (i, j), w.inBox c.1 c.2 = true ∧ w.val c.1 c.2 ≠ -2) ∧
    (∀ t : Nat, t ≤ n → ∃ c, (follow .grid w n (i, j))[t]? = some c ∧
      w.inBox c.1 c.2 = true ∧ w.val c.1 c.2 = (n : Int) - (t : Int)) := by
  induction n generalizing i j with
  | zero =>
    refine ⟨rfl, ?_, ?_⟩
    · intro c hc
      have : c = (i, j) := by simpa [follow] using hc
      subst this
      exact ⟨hb, by simp only; omega⟩
    · intro t ht
      have : t = 0 := by omega
      subst this
      exact ⟨(i, j), rfl, hb, by simp only; omega⟩
  | succ n ih =>
    obtain ⟨hlow, hex⟩ := hw i j n hb (by rw [hv]; push_cast; rfl)
    obtain ⟨_, hnext, hb2, hv2⟩ := descent_lowers w i j n hb (by rw [hv]; push_cast; rfl) hlow hex
    rw [follow_succ, hnext]
    obtain ⟨ih1, ih2, ih3⟩ := ih _ _ hb2 hv2
    refine ⟨?_, ?_, ?_⟩
    · rw [List.length_cons, ih1]
    · intro c hc
      rcases List.mem_cons.1 hc with rfl | hc
      · exact ⟨hb, by simp only; omega⟩
      · exact ih2 c hc
    · intro t ht
      cases t with
      | zero =>
        exact ⟨(i, j), rfl, hb, by simp only; omega⟩
      | succ t =>
        obtain ⟨c, hc1, hc2, hc3⟩ := ih3 t (by omega)
        refine ⟨c, ?_, hc2, ?_⟩
        · rw [List.getElem?_cons_succ]; exact hc1
        · rw [hc3]; push_cast; omega

/-! ## 6. bridge: every iterate of the dilation is `Descending` -/

theorem inv_descending (m w : Mat) (k : Nat) (hinv : Inv m w k) : Descending w := by
  intro i j n hb hv
  have hinv0 := hinv
  obtain ⟨hr, hc, hall⟩ := hinv
  have hbm : m.inBox i j = true := by rw [← inBox_congr w m hr hc]; exact hb
  obtain ⟨h1, h2⟩ := hall i j hbm
  have hvm : m.val i j ≠ -2 := by
    intro h
    have := h1 h
    omega
  obtain ⟨h3, _, _⟩ := h2 hvm
  obtain ⟨hle, hd⟩ := (h3 (n + 1)).1 (by rw [hv]; push_cast; rfl)
  have part1 : ∀ x ∈ nbrs w (-1) i j, x < 0 ∨ (n : Int) ≤ x := by
    intro x hx
    by_cases h0 : 0 ≤ x
    · right
      obtain ⟨a, b, hadj, hxa⟩ := mem_nbrs_adj w (-1) i j x hx
      rw [hxa] at h0
      obtain ⟨n', hn', _, hd'⟩ := (inv_get m w k hinv0 (-1) (by omega) a b).1 h0
      have hreach : Reach m (n' + 1) i j := (reach_succ_iff m n' i j).2 ⟨hbm, hvm, a, b, hadj, hd'.1⟩
      have : ¬ n' + 1 < n + 1 := fun hlt => hd.2 (n' + 1) hlt hreach
      rw [hxa, hn']
      omega
    · left; omega
  refine ⟨part1, ?_⟩
  obtain ⟨_, _, a, b, hadj, hra⟩ := (reach_succ_iff m n i j).1 hd.1
  obtain ⟨n', hle', hd'⟩ := reach_exists_dist m a b n hra
  have hget := (inv_get m w k hinv0 (-1) (by omega) a b).2 n' (by omega) hd'
  have hmem := adj_mem_nbrs w (-1) i j a b hadj
  refine ⟨w.get (-1) a b, hmem, ?_⟩
  rcases part1 _ hmem with h | h
  · omega
  · omega

theorem dilateIter_descending (m : Mat) (hm : Init m) (k : Nat) : Descending (dilateIter m k) :=
  inv_descending m (dilateIter m k) k (inv_iter m hm k)

end C12BFS
