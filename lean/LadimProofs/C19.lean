import LadimProofs.Basic
import Mathlib.Data.List.Basic
import LadimModel.Post.Raster
/-!
# C19 — post-processing conserves particles
-/
open Ladim.Post
set_option linter.unusedVariables false
set_option linter.unusedSectionVars false

namespace C19

/-! ## time-slot slicing (raster and SQLite conversion) -/

/-- the slices are consecutive, in order, and concatenate to the instance list -/
theorem slots_partition {β : Type} (counts : List Nat) (data : List β) :
    (slotSlices counts data).flatten = data.take counts.sum := by
  induction counts generalizing data with
  | nil => simp [slotSlices]
  | cons c cs ih =>
    simp only [slotSlices, List.flatten_cons, List.sum_cons, ih]
    rw [List.take_add]

theorem slots_count {β : Type} (counts : List Nat) (data : List β) :
    (slotSlices counts data).length = counts.length := by
  induction counts generalizing data with
  | nil => rfl
  | cons c cs ih => simp [slotSlices, ih]

/-- each slice has exactly the recorded count when the file holds enough instances (empty slots give
empty slices) -/
theorem slots_lengths {β : Type} (counts : List Nat) (data : List β) (h : counts.sum ≤ data.length) :
    (slotSlices counts data).map List.length = counts := by
  induction counts generalizing data with
  | nil => rfl
  | cons c cs ih =>
    simp only [List.sum_cons] at h
    simp only [slotSlices, List.map_cons, List.length_take]
    rw [ih (data.drop c) (by simp; omega)]
    congr 1
    omega

theorem zip_flatMap_snd {τ β : Type} : ∀ (ts : List τ) (ss : List (List β)), ts.length = ss.length →
    ((ts.zip ss).flatMap (fun p => p.2.map (fun d => (p.1, d)))).map (·.2) = ss.flatten
  | [], [], _ => by simp
  | [], _ :: _, h => by simp at h
  | _ :: _, [], h => by simp at h
  | t :: ts, s :: ss, h => by
    simp only [List.zip_cons_cons, List.flatMap_cons, List.map_append, List.map_map, List.flatten_cons]
    rw [zip_flatMap_snd ts ss (by simpa using h)]
    congr 1
    simp [Function.comp_def]

/-- SQLite: every particle instance is stored exactly once, in order … -/
theorem sqlite_rows_once {τ β : Type} (times : List τ) (counts : List Nat) (data : List β)
    (hl : times.length = counts.length) :
    (instanceRows times counts data).map (·.2) = data.take counts.sum := by
  unfold instanceRows
  rw [← slots_partition]
  exact zip_flatMap_snd times _ (by rw [slots_count]; exact hl)

/-- … with the time stamp of its own slot -/
theorem sqlite_row_times {τ β : Type} (times : List τ) (counts : List Nat) (data : List β) (r : τ × β)
    (hr : r ∈ instanceRows times counts data) :
    ∃ ts ∈ times.zip (slotSlices counts data), r.1 = ts.1 ∧ r.2 ∈ ts.2 := by
  unfold instanceRows at hr
  simp only [List.mem_flatMap, List.mem_map] at hr
  obtain ⟨ts, hts, d, hd, rfl⟩ := hr
  exact ⟨ts, hts, rfl, hd⟩

/-! ## histogram binning -/

theorem sum_indicator {M : Type} [AddCommMonoid M] (n k0 : Nat) (w : M) (h : k0 < n) :
    ((List.range n).map (fun k => if k0 = k then w else 0)).sum = w := by
  induction n with
  | zero => omega
  | succ m ih =>
    rw [List.range_succ, List.map_append, List.sum_append]
    by_cases hk : k0 = m
    · subst hk
      have : ((List.range k0).map (fun k => if k0 = k then w else 0)).sum = 0 := by
        apply List.sum_eq_zero
        intro v hv
        simp only [List.mem_map, List.mem_range] at hv
        obtain ⟨k, hk, rfl⟩ := hv
        rw [if_neg (by omega)]
      rw [this]; simp
    · rw [ih (by omega)]
      simp [hk]

theorem sum_indicator_none {M : Type} [AddCommMonoid M] (n : Nat) (w : M) :
    ((List.range n).map (fun k => if (none : Option Nat) = some k then w else 0)).sum = 0 := by
  apply List.sum_eq_zero; intro v hv; simp at hv; exact hv.2.symm ▸ rfl

/-- summing, over the bins `0 … n-1`, the values of the items that fall in the bin gives the total value of the
items that fall in some bin: the count histogram (`val = 1`) and the weighted one conserve what is inside the grid -/
theorem sum_bins {β M : Type} [AddCommMonoid M] (key : β → Option Nat) (val : β → M) (n : Nat)
    (hkey : ∀ p k, key p = some k → k < n) (l : List β) :
    ((List.range n).map (fun k => ((l.filter (fun p => key p == some k)).map val).sum)).sum =
      ((l.filter (fun p => (key p).isSome)).map val).sum := by
  induction l with
  | nil => simp
  | cons p l ih =>
    have e : ∀ k, ((List.filter (fun q => key q == some k) (p :: l)).map val).sum =
        (if key p = some k then val p else 0) + ((l.filter (fun q => key q == some k)).map val).sum := by
      intro k
      by_cases h : key p = some k <;> simp [h]
    simp only [e]
    rw [List.sum_map_add, ih]
    cases hb : key p with
    | none =>
      rw [sum_indicator_none]
      simp [hb]
    | some k0 =>
      simp only [Option.some.injEq]
      rw [sum_indicator n k0 (val p) (hkey p k0 hb)]
      simp [hb]

section hist
variable {α : Type} [Field α] [LinearOrder α] [IsStrictOrderedRing α]

/-- soundness of the bin search: a particle assigned to bin `k` lies in `[e_k, e_{k+1})`
(closed on the right for the last bin) -/
theorem binGo_sound (x : α) : ∀ (es : List α) (k0 k : Nat), binGo x k0 es = some k →
    ∃ j, k = k0 + j ∧ ∃ (h : j + 1 < es.length), es[j] ≤ x ∧
      (x < es[j + 1] ∨ (j + 2 = es.length ∧ x ≤ es[j + 1])) := by
  intro es
  induction es with
  | nil => intro k0 k h; simp [binGo] at h
  | cons e0 rest ih =>
    intro k0 k h
    cases rest with
    | nil => simp [binGo] at h
    | cons e1 rest =>
      simp only [binGo] at h
      by_cases h0 : x < e0
      · simp [h0] at h
      · simp only [h0, if_false] at h
        by_cases h1 : x < e1
        · simp only [h1, if_true, Option.some.injEq] at h
          exact ⟨0, by omega, by simp, by simpa using not_lt.mp h0, Or.inl (by simpa using h1)⟩
        · simp only [h1, if_false] at h
          by_cases hr : rest.isEmpty
          · simp only [hr, if_true] at h
            by_cases h2 : x ≤ e1
            · simp only [h2, if_true, Option.some.injEq] at h
              have : rest = [] := List.isEmpty_iff.mp hr
              subst this
              exact ⟨0, by omega, by simp, by simpa using not_lt.mp h0, Or.inr ⟨rfl, by simpa using h2⟩⟩
            · simp [h2] at h
          · simp only [hr, Bool.false_eq_true, if_false] at h
            obtain ⟨j, hj, hlt, hle, hor⟩ := ih (k0 + 1) k h
            refine ⟨j + 1, by omega, by simp at hlt ⊢; omega, by simpa using hle, ?_⟩
            rcases hor with h' | ⟨h', h''⟩
            · exact Or.inl (by simpa using h')
            · exact Or.inr ⟨by simp at h' ⊢; omega, by simpa using h''⟩

theorem last_ge (b : α) (rest : List α) (eN : α) (hl : (b :: rest).getLast? = some eN)
    (hp : List.Pairwise (· < ·) (b :: rest)) : b ≤ eN := by
  have hmem : eN ∈ (b :: rest) := List.mem_of_getLast? hl
  simp only [List.mem_cons] at hmem
  rcases hmem with rfl | hmem
  · exact le_refl _
  · rw [List.pairwise_cons] at hp
    exact (hp.1 eN hmem).le

/-- completeness: exactly the particles within the outer edges are binned -/
theorem binGo_isSome_iff (x : α) : ∀ (es : List α) (k0 : Nat) (e0 eN : α), 2 ≤ es.length →
    es.head? = some e0 → es.getLast? = some eN → List.Pairwise (· < ·) es →
    ((binGo x k0 es).isSome ↔ (e0 ≤ x ∧ x ≤ eN)) := by
  intro es
  induction es with
  | nil => intro k0 e0 eN h; simp at h
  | cons a rest ih =>
    intro k0 e0 eN hlen hh hl hp
    simp only [List.head?_cons, Option.some.injEq] at hh
    subst hh
    cases rest with
    | nil => simp at hlen
    | cons b rest =>
      have hp' := hp
      rw [List.pairwise_cons] at hp
      have hab : a < b := hp.1 b (by simp)
      have hbN : b ≤ eN := last_ge b rest eN (by simpa using hl) hp.2
      simp only [binGo]
      by_cases h0 : x < a
      · simp only [h0, if_true, Option.isSome_none, Bool.false_eq_true, false_iff]
        intro hc; linarith [hc.1]
      · simp only [h0, if_false]
        by_cases h1 : x < b
        · simp only [h1, if_true, Option.isSome_some, true_iff]
          exact ⟨not_lt.mp h0, by linarith⟩
        · simp only [h1, if_false]
          by_cases hr : rest.isEmpty
          · have : rest = [] := List.isEmpty_iff.mp hr
            subst this
            simp only [List.getLast?_cons_cons, List.getLast?_singleton, Option.some.injEq] at hl
            subst hl
            simp only [List.isEmpty_nil, if_true]
            by_cases h2 : x ≤ b
            · simp [h2, not_lt.mp h0]
            · simp [h2]
          · simp only [hr, Bool.false_eq_true, if_false]
            have hlen2 : 2 ≤ (b :: rest).length := by
              cases rest with
              | nil => simp at hr
              | cons c r => simp
            rw [ih (k0 + 1) b eN hlen2 (by simp) (by simpa using hl) hp.2]
            constructor
            · rintro ⟨h2, h3⟩; exact ⟨not_lt.mp h0, h3⟩
            · rintro ⟨h2, h3⟩; exact ⟨not_lt.mp h1, h3⟩

theorem binIndex_lt (es : List α) (x : α) (k : Nat) (h : binIndex es x = some k) : k + 1 < es.length := by
  obtain ⟨j, hj, hlt, _⟩ := binGo_sound x es 0 k h
  omega

/-- the cell counts sum to the number of particles located within the grid's outer bin edges -/
theorem hist_conserves_count (es : List α) (xs : List α) :
    ((List.range (es.length - 1)).map (countBin es xs)).sum =
      (xs.filter (fun x => (binIndex es x).isSome)).length := by
  have h := sum_bins (binIndex es) (fun _ => 1) (es.length - 1)
    (fun x k hk => by have := binIndex_lt es x k hk; omega) xs
  simp only [List.map_const', List.sum_replicate, nsmul_eq_mul, Nat.cast_id, mul_one] at h
  exact h

/-- … and these are exactly the particles with `e₀ ≤ x ≤ e_N` -/
theorem in_grid_iff (es : List α) (x e0 eN : α) (hlen : 2 ≤ es.length) (hh : es.head? = some e0)
    (hl : es.getLast? = some eN) (hp : List.Pairwise (· < ·) es) :
    (binIndex es x).isSome ↔ (e0 ≤ x ∧ x ≤ eN) :=
  binGo_isSome_iff x es 0 e0 eN hlen hh hl hp

/-- bin edges are midway between bin centres, the outer edges mirror the first / last spacing:
three centres `a, b, c` give edges `a − (b−a)/2, (a+b)/2, (b+c)/2, c + (c−b)/2` -/
theorem edges_three (a b c : α) :
    edges [a, b, c] = [a - (b - a) / 2, (a + b) / 2, (b + c) / 2, c + (c - b) / 2] := by
  have e : edges [a, b, c] = [0.5 * (a + b) - (b - a), 0.5 * (a + b), 0.5 * (b + c), 0.5 * (b + c) + c - b] := by
    rfl
  rw [e]
  have h5 : (0.5 : α) = 1 / 2 := by norm_num
  rw [h5]
  simp only [List.cons.injEq, and_true]
  refine ⟨by ring, by ring, by ring, by ring⟩

theorem mids_length (a : List α) : (mids a).length = a.length - 1 := by
  induction a with
  | nil => rfl
  | cons x xs ih =>
    cases xs with
    | nil => rfl
    | cons y ys =>
      simp only [mids, List.length_cons] at ih ⊢
      omega

/-- every interior edge is the midpoint of two neighbouring centres -/
theorem mids_get (a : List α) (i : Nat) (h : i + 1 < a.length) :
    (mids a)[i]'(by rw [mids_length]; omega) = (a[i] + a[i + 1]) / 2 := by
  induction a generalizing i with
  | nil => simp at h
  | cons x xs ih =>
    cases xs with
    | nil => simp at h
    | cons y ys =>
      cases i with
      | zero =>
        simp only [mids, List.getElem_cons_zero, List.getElem_cons_succ]
        have h5 : (0.5 : α) = 1 / 2 := by norm_num
        rw [h5]; ring
      | succ i =>
        simp only [mids, List.getElem_cons_succ]
        exact ih i (by simpa using h)


end hist

/-! ## settled particles: last recorded instance -/

theorem findIdx_spec (l : List Nat) (p i : Nat) (h : l.findIdx? (· == p) = some i) :
    ∃ (hi : i < l.length), l[i] = p ∧ ∀ j (hj : j < i), l[j]'(by omega) ≠ p := by
  induction l generalizing i with
  | nil => simp at h
  | cons x xs ih =>
    simp only [List.findIdx?_cons] at h
    by_cases hx : x == p
    · simp only [hx, if_true, Option.some.injEq] at h
      subst h
      exact ⟨by simp, by simpa using hx, by intro j hj; omega⟩
    · simp only [hx, Bool.false_eq_true, if_false, Option.map_eq_some_iff] at h
      obtain ⟨i', hi', rfl⟩ := h
      obtain ⟨hlt, he, hall⟩ := ih i' hi'
      refine ⟨by simp; omega, by simpa using he, ?_⟩
      intro j hj
      cases j with
      | zero => simpa using hx
      | succ j => simpa using hall j (by omega)

/-- the selected index of pid `p` is its *last* recorded instance -/
theorem settled_is_last_instance (pids : List Nat) (p i : Nat) (h : lastIndex pids p = some i) :
    ∃ (hi : i < pids.length), pids[i] = p ∧ ∀ j (hj : j < pids.length), i < j → pids[j] ≠ p := by
  unfold lastIndex at h
  simp only [Option.map_eq_some_iff] at h
  obtain ⟨r, hr, rfl⟩ := h
  obtain ⟨hlt, he, hall⟩ := findIdx_spec pids.reverse p r hr
  simp only [List.length_reverse] at hlt
  refine ⟨by omega, ?_, ?_⟩
  · rw [List.getElem_reverse] at he
    have : pids.length - r - 1 = pids.length - 1 - r := by omega
    simp only [this]; exact he
  · intro j hj hij
    have := hall (pids.length - j - 1) (by omega)
    rw [List.getElem_reverse] at this
    have e : pids.length - 1 - (pids.length - j - 1) = j := by omega
    simp only [e] at this
    exact this

theorem mem_insertSorted (p q : Nat) (l : List Nat) : q ∈ insertSorted p l ↔ (q = p ∨ q ∈ l) := by
  induction l with
  | nil => simp [insertSorted]
  | cons x xs ih =>
    simp only [insertSorted]
    split_ifs with h1 h2
    · exact List.mem_cons
    · subst h2
      exact ⟨Or.inr, fun h => h.elim (fun e => e ▸ List.mem_cons_self) id⟩
    · rw [List.mem_cons, ih, List.mem_cons]
      exact or_left_comm

theorem insertSorted_sorted (p : Nat) (l : List Nat) (hl : List.Pairwise (· < ·) l) :
    List.Pairwise (· < ·) (insertSorted p l) := by
  induction l with
  | nil => simp [insertSorted]
  | cons x xs ih =>
    simp only [insertSorted]
    rw [List.pairwise_cons] at hl
    split_ifs with h1 h2
    · rw [List.pairwise_cons]
      refine ⟨?_, List.pairwise_cons.mpr hl⟩
      intro y hy
      simp only [List.mem_cons] at hy
      rcases hy with rfl | hy
      · exact h1
      · exact lt_trans h1 (hl.1 y hy)
    · exact List.pairwise_cons.mpr hl
    · rw [List.pairwise_cons]
      refine ⟨?_, ih hl.2⟩
      intro y hy
      rw [mem_insertSorted] at hy
      rcases hy with rfl | hy
      · omega
      · exact hl.1 y hy

/-- every pid of the file occurs exactly once (strictly increasing list) in the selection -/
theorem uniquePids_spec (pids : List Nat) :
    List.Pairwise (· < ·) (uniquePids pids) ∧ ∀ q, q ∈ uniquePids pids ↔ q ∈ pids := by
  unfold uniquePids
  induction pids with
  | nil => simp
  | cons x xs ih =>
    simp only [List.foldr_cons]
    refine ⟨insertSorted_sorted x _ ih.1, ?_⟩
    intro q
    rw [mem_insertSorted, ih.2]
    simp

/-- non-vacuity: pid sequence with repeats -/
example : settled [3, 1, 3, 2, 1] = [(1, 4), (2, 3), (3, 2)] := by decide
example : slotSlices [2, 0, 1] ['a', 'b', 'c'] = [['a', 'b'], [], ['c']] := by decide

end C19
