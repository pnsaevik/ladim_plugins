import LadimProofs.Basic
import LadimProofs.C05
import LadimProofs.C05Rounded
import LadimProofs.Laws
import LadimProofs.C07
import LadimProofs.C10
import LadimProofs.C08
import LadimProofs.C20
import LadimProofs.C20Measure
import LadimProofs.InterpLemmas
import LadimProofs.C09
import LadimProofs.C16
import LadimProofs.C02
import LadimProofs.C02Iso
import LadimProofs.C04
import LadimProofs.SampleLemmas
import LadimProofs.C03
import LadimProofs.C17
import LadimProofs.C17Measure
import LadimProofs.C01
import LadimProofs.C18
import LadimProofs.C19
import LadimProofs.C19Weighted
import LadimProofs.C12Fjord
import LadimProofs.C14
import LadimProofs.C15
import LadimProofs.C06Main
import LadimProofs.C11
import LadimProofs.C13Buffer
import LadimProofs.Bridge.Runners
import LadimProofs.Bridge.Mixing
import LadimProofs.Bridge.Band
import LadimProofs.Bridge.SinkBury
import LadimProofs.Bridge.Swim
import LadimProofs.Bridge.Age
import LadimProofs.Bridge.Stage
import LadimProofs.Bridge.Develop
import LadimProofs.Bridge.Settle
import LadimProofs.Bridge.Reseed
import LadimProofs.Bridge.Seq
import LadimProofs.Bridge.Grid
import LadimProofs.Bridge.Release
import LadimProofs.Bridge.Attr
import LadimProofs.Bridge.Nk
import LadimProofs.Bridge.Forcing
import LadimProofs.Bridge.Swimming
import LadimProofs.Bridge.ForcingRun
import LadimProofs.OnCode.C05
import LadimProofs.OnCode.C07
import LadimProofs.OnCode.C08
import LadimProofs.OnCode.C16
import LadimProofs.OnCode.C20
import LadimProofs.OnCode.C03
import LadimProofs.OnCode.C15
import LadimProofs.OnCode.C04
import LadimProofs.Bridge.Order
import LadimProofs.Bridge.Config
import LadimProofs.Bridge.ReleaseSeq
import LadimProofs.Bridge.AttrSeq
import LadimProofs.Bridge.FjordSeq
import LadimProofs.Bridge.DatesSeq
import LadimProofs.Bridge.NkSeq
import LadimProofs.Bridge.LocationSeq
import LadimProofs.Bridge.RasterSeq
import LadimProofs.Bridge.SettledSeq
import LadimProofs.Bridge.SedimentSeq
import LadimProofs.Bridge.BioSeq
import LadimProofs.Bridge.SampleSeq
import LadimProofs.Bridge.GeoSeq
import LadimProofs.Bridge.BioCtorSeq
import LadimProofs.Bridge.ChemSeq
import LadimProofs.Bridge.ComputeWSeq
import LadimProofs.Bridge.Nk800ClsSeq
import LadimProofs.Bridge.FjordIbmSeq
import LadimProofs.Bridge.RomsCtorSeq
import LadimProofs.Bridge.PolySeq
import LadimProofs.Bridge.GridCtorSeq
import LadimProofs.Bridge.DevelopSeq
import LadimProofs.Bridge.SedFactorySeq
import LadimProofs.Bridge.RasterMainSeq
import LadimProofs.OnCode.E2E_C02_C04
import LadimProofs.OnCode.E2E_C01_C18
import LadimProofs.OnCode.E2E_C06_C14
import LadimProofs.OnCode.E2E_C12_C13
import LadimProofs.OnCode.E2E_C19
import LadimProofs.OnCode.E2E_C07_C09
import LadimProofs.Bridge.MemorySeq
import LadimProofs.OnCode.E2E_C15
import LadimProofs.OnCode.E2E_C08
import LadimProofs.OnCode.E2E_C03_C17
import LadimProofs.OnCode.E2E_C16_C20
import LadimProofs.OnCode.E2E_C05
